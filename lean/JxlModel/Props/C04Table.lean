import JxlModel.Proofs.Entropy.PrefixTableNested
/-! C04, Impl layer of prefix decoding: the two-level bit-reversed tables (prefix.rs).
`withCodeLengths` / `TableHist.read` (Model/Entropy/PrefixTable.lean) transcribe
`Histogram::with_code_lengths` / `read_symbol` / `vec_reverse_bits`; the Spec is
`PrefixCode.ofLengths` / `PrefixCode.read` (interval search on the 15-bit MSB-first look-ahead).

Caller facts relied on (both callers of `with_code_lengths`, `parse_simple` and `parse_complex`,
establish them): every length is ≤ 15 (`MAX_PREFIX_BITS`; symbols 1..=15 of the code-length code,
lengths ≤ 5 for the code-length code itself, ≤ 3 for simple codes) and the Kraft sum is ≤ 1
(`bitacc ≤ 1 << 15`, resp. a sub-multiset of {1,2,2}/{1,2,3,3}/{2,2,2,2}/{1,1}); at most `2^15`
lengths (`alphabet_size ≤ 1 << 15`), so the `as u16` conversions are lossless. -/
namespace Jxl.Entropy

/-- Two-level tables = Spec. For every length vector with lengths ≤ 15 (`MAX_PREFIX_BITS`) and
Kraft sum ≤ 1 — what both callers of `with_code_lengths` guarantee —: the table construction
(`syms_for_length`, top-level fill, second-level chunks with replication, `vec_reverse_bits`)
succeeds exactly when the Spec accepts the code (complete code), otherwise both fail with
`InvalidPrefixHistogram` (in particular no slice or index panic), and `read_symbol` through the
tables returns, for every bit string, the same symbol, the same rest and the same `eof` as the
interval search of the Spec. -/
theorem C04_prefix_table_eq_spec (lens : List Nat)
    (h15 : ∀ l ∈ lens, l ≤ 15) (hk : kraft lens ≤ 2 ^ 15) :
    ((∃ t, withCodeLengths lens = .ok t) ↔ ∃ c, PrefixCode.ofLengths lens = .ok c) ∧
    ((¬ ∃ t, withCodeLengths lens = .ok t) →
      withCodeLengths lens = .error .invalidPrefixHistogram ∧
      PrefixCode.ofLengths lens = .error .invalidPrefixHistogram) ∧
    ∀ t, withCodeLengths lens = .ok t →
      PrefixCode.ofLengths lens = .ok (.table (sortedSyms lens)) ∧
      ∀ s, t.read s = (PrefixCode.table (sortedSyms lens)).read s := by
  obtain ⟨tb, esTop, done, htb, hTop, hD, h10, hfull, hw⟩ := withCodeLengths_eq lens h15 hk
  rw [hw, PrefixCode.ofLengths]
  by_cases hkk : kraft lens = 2 ^ 15
  · obtain ⟨hcnt, hsplit⟩ := hfull hkk
    rw [if_pos hkk, if_pos hkk]
    refine ⟨⟨fun _ => ⟨_, rfl⟩, fun _ => ⟨_, rfl⟩⟩, fun h => absurd ⟨_, rfl⟩ h, ?_⟩
    intro t ht
    cases ht
    exact ⟨rfl, fun s => by rw [hsplit]; exact read_two_level tb htb esTop hTop done hD h10 hcnt s⟩
  · rw [if_neg hkk, if_neg hkk]
    refine ⟨⟨fun ⟨_, h⟩ => (by cases h), fun ⟨_, h⟩ => (by cases h)⟩, fun _ => ⟨rfl, rfl⟩, ?_⟩
    intro t ht; cases ht

/-- Top-level tables = Spec. For every length vector without a length above
`MAX_TOPLEVEL_BITS = 10` and Kraft sum ≤ 1: the table construction succeeds exactly when the Spec
accepts the code (complete code), fails with the same error otherwise, and the table reader
returns, for every bit string, the same symbol, the same rest and the same `eof` as the Spec. -/
theorem C04_prefix_table_eq_spec_toplevel (lens : List Nat)
    (h10 : ∀ l ∈ lens, l ≤ 10) (hk : kraft lens ≤ 2 ^ 15) :
    ((∃ t, withCodeLengths lens = .ok t) ↔ ∃ c, PrefixCode.ofLengths lens = .ok c) ∧
    ((¬ ∃ t, withCodeLengths lens = .ok t) →
      withCodeLengths lens = .error .invalidPrefixHistogram ∧
      PrefixCode.ofLengths lens = .error .invalidPrefixHistogram) ∧
    ∀ t, withCodeLengths lens = .ok t →
      PrefixCode.ofLengths lens = .ok (.table (sortedSyms lens)) ∧
      ∀ s, t.read s = (PrefixCode.table (sortedSyms lens)).read s :=
  C04_prefix_table_eq_spec lens (fun l hl => Nat.le_trans (h10 l hl) (by omega)) hk

def agreeOn (lens : List Nat) (streams : List Bits) : Bool :=
  match withCodeLengths lens, PrefixCode.ofLengths lens with
  | .ok t, .ok c => streams.all fun s => sameRead (t.read s) (c.read s)
  | _, _ => false

/-- non-vacuity, max length ≤ 10: hypotheses hold, the table exists (4 top-level bits), and the
reads agree on full, truncated (eof) and empty streams -/
example : (∀ l ∈ [2, 2, 3, 3, 3, 4, 4], l ≤ 10) ∧ kraft [2, 2, 3, 3, 3, 4, 4] ≤ 2 ^ 15 ∧
    (withCodeLengths [2, 2, 3, 3, 3, 4, 4]).toOption.map (·.toplevelBits) = some 4 ∧
    agreeOn [2, 2, 3, 3, 3, 4, 4]
      [[true, true, true, true, false], [true, true, true], [false, true, false, true],
       [true, false, true, true], [true], []] = true := by decide +kernel

/-- non-vacuity of `C04_prefix_table_eq_spec` with nested chunks: lengths 1,2,…,14,15,15 — ten
top-level bits and one second-level chunk, which grows from 2 to 32 entries by replication as
the lengths 11 … 15 come in;
Impl and Spec agree on long codewords, a truncated stream (eof) and the empty stream -/
example : (∀ l ∈ [1, 2, 3, 4, 5, 6, 7, 8, 9, 10, 11, 12, 13, 14, 15, 15], l ≤ 15) ∧
    kraft [1, 2, 3, 4, 5, 6, 7, 8, 9, 10, 11, 12, 13, 14, 15, 15] = 2 ^ 15 ∧
    (withCodeLengths [1, 2, 3, 4, 5, 6, 7, 8, 9, 10, 11, 12, 13, 14, 15, 15]).toOption.map
      (fun t => (t.toplevelBits, t.toplevel.length, t.second.length)) = some (10, 1024, 32) ∧
    agreeOn [1, 2, 3, 4, 5, 6, 7, 8, 9, 10, 11, 12, 13, 14, 15, 15]
      [toBitsMSB 15 0x7fff, toBitsMSB 15 0x7ffe, toBitsMSB 15 0x7ffc ++ [true],
       toBitsMSB 12 0xffe ++ [false, true], toBitsMSB 11 0x7fe, toBitsMSB 12 0xfff,
       [true, true, false], []] = true := by decide +kernel

/-- an incomplete code is rejected by both -/
example : withCodeLengths [1, 2, 3] = .error .invalidPrefixHistogram ∧
    PrefixCode.ofLengths [1, 2, 3] = .error .invalidPrefixHistogram := ⟨rfl, rfl⟩

end Jxl.Entropy
