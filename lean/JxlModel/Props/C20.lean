import JxlModel.Proofs.RenderConc
/-!
# C20 — concurrent renders run once at a time, agree, and never deadlock

Interleaving semantics of the render-handle protocol (`Model/RenderState.lean`: `Sys`, `sysStep`,
`sysWake`, `Reachable`): any number of threads on a freshly loaded image, each either a caller
of `render_keyframe` or a background `run` spawned by `do_render` (`Prog`), any number of frames
(`Config.wf`: references point backwards), any schedule, any injected failure (`Choice.fail`),
spurious wake-ups allowed (`Label.wake`). One atomic step = one critical section of one handle's
mutex (`Condvar::wait` = atomic release-and-sleep, `notify_all` wakes every sleeper). The ghost
owner of a handle is the thread whose stack holds the activation that marked it `Rendering`
(`Thread.owned`).

Scope. `Variant.fixed` is the code with two repairs: finding F2 (`RenderedImage::blend` stores a
final state and notifies before returning a composite error) and the `reset` guard
(`FrameRenderHandle::reset` leaves a handle alone while it is `Rendering`). `Variant.old` is the
code without them. `C20_unrepaired_blend_deadlocks` and `C20_reset_can_clobber` show, on concrete
schedules, what each repair removes (a sleeper nobody wakes; two executions of one frame at
once). `C20_spurious_error` shows a defect that remains in the repaired code: `reset` of a shared
reference between another caller's `run_with_image` and `blend` makes that caller fail with
`IncompleteFrame` although nothing failed (known finding). `std::sync` and rayon are trusted
(DESIGN.md §2).
-/
namespace Jxl.RenderState

/-- `Rendering` ⇒ exactly one owner, and the owner is not waiting on that handle. -/
theorem C20_rendering_has_owner (cfg : Config) (cd : Codec) (hwf : cfg.wf = true)
    (progs : List Prog) (hp : ProgsOK cfg progs) (σ : Sys)
    (hr : Reachable cfg cd .fixed (initSys cfg progs) σ)
    (i : Nat) (hi : getH σ.hs i = .rendering) :
    ∃ (t : Nat) (th : Thread), σ.ths[t]? = some th ∧ i ∈ th.owned ∧ th.asleep ≠ some i ∧
      ∀ (t' : Nat) (th' : Thread), σ.ths[t']? = some th' → i ∈ th'.owned → t' = t := by
  have hinv := reach_inv cfg cd hwf progs hp σ hr
  obtain ⟨t, th, hth, hio⟩ := hinv.hasOwner i hi
  exact ⟨t, th, hth, hio, hinv.owner_awake hth hio,
    fun t' th' hth' hio' => hinv.uniq t' t th' th i hth' hth hio' hio⟩

/-- Each frame is being rendered (decoded or composited) by at most one thread at a time, and no
thread holds the same frame twice; what a thread holds is `Rendering`. -/
theorem C20_at_most_one_execution_at_a_time (cfg : Config) (cd : Codec) (hwf : cfg.wf = true)
    (progs : List Prog) (hp : ProgsOK cfg progs) (σ : Sys)
    (hr : Reachable cfg cd .fixed (initSys cfg progs) σ) :
    (∀ (t₁ t₂ : Nat) (th₁ th₂ : Thread) (i : Nat), σ.ths[t₁]? = some th₁ → σ.ths[t₂]? = some th₂ →
        i ∈ th₁.owned → i ∈ th₂.owned → t₁ = t₂) ∧
    (∀ (t : Nat) (th : Thread), σ.ths[t]? = some th → th.owned.Nodup) ∧
    (∀ (t : Nat) (th : Thread), σ.ths[t]? = some th → ∀ i ∈ th.owned, getH σ.hs i = .rendering) := by
  have hinv := reach_inv cfg cd hwf progs hp σ hr
  refine ⟨hinv.uniq, ?_, hinv.own⟩
  intro t th hth
  exact (Thread.owned_sorted (hinv.ok t th hth)).1.imp Nat.ne_of_lt

/-- A thread sleeps in `Condvar::wait` only on a handle that is `Rendering`, which some *other*
thread owns. -/
theorem C20_waiters_only_on_rendering (cfg : Config) (cd : Codec) (hwf : cfg.wf = true)
    (progs : List Prog) (hp : ProgsOK cfg progs) (σ : Sys)
    (hr : Reachable cfg cd .fixed (initSys cfg progs) σ)
    (t : Nat) (th : Thread) (i : Nat) (hth : σ.ths[t]? = some th) (hsl : th.asleep = some i) :
    getH σ.hs i = .rendering ∧
    ∃ (t' : Nat) (th' : Thread), t' ≠ t ∧ σ.ths[t']? = some th' ∧ i ∈ th'.owned := by
  have hinv := reach_inv cfg cd hwf progs hp σ hr
  obtain ⟨hri, _⟩ := hinv.sleepers t th i hth hsl
  obtain ⟨t', th', hth', hio⟩ := hinv.hasOwner i hri
  refine ⟨hri, t', th', ?_, hth', hio⟩
  rintro rfl
  cases hth.symm.trans hth'
  exact hinv.owner_awake hth hio hsl

/-- No lost wake-up: whenever a step takes a handle out of `Rendering`, no thread is left
sleeping on it (every such state change is followed by `notify_all` under the lock). -/
theorem C20_no_lost_wakeup (cfg : Config) (cd : Codec) (hwf : cfg.wf = true)
    (progs : List Prog) (hp : ProgsOK cfg progs) (σ σ' : Sys)
    (hr : Reachable cfg cd .fixed (initSys cfg progs) σ) (l : Label)
    (hstep : sysNext cfg cd .fixed σ l = some σ')
    (i : Nat) (_hbefore : getH σ.hs i = .rendering) (hafter : getH σ'.hs i ≠ .rendering) :
    ∀ (t : Nat) (th : Thread), σ'.ths[t]? = some th → th.asleep ≠ some i := by
  have hinv := reach_inv cfg cd hwf progs hp σ' (.step l hr hstep)
  intro t th hth hsl
  exact hafter (hinv.sleepers t th i hth hsl).1

/-- Deadlock freedom: in no reachable state is every thread that has not returned blocked. Some
unfinished thread is awake, and an awake thread can always take its next step, whatever the
adversary chooses. (The wait-for relation follows the frame order: an owner only ever waits on a
strictly earlier frame.) -/
theorem C20_deadlock_free (cfg : Config) (cd : Codec) (hwf : cfg.wf = true)
    (progs : List Prog) (hp : ProgsOK cfg progs) (σ : Sys)
    (hr : Reachable cfg cd .fixed (initSys cfg progs) σ)
    (hex : ∃ (t : Nat) (th : Thread), σ.ths[t]? = some th ∧ th.acts ≠ []) :
    ∃ (t : Nat) (th : Thread), σ.ths[t]? = some th ∧ th.acts ≠ [] ∧ th.asleep = none ∧
      ∀ ch, ∃ σ', sysStep cfg cd .fixed t ch σ = some σ' := by
  have hinv := reach_inv cfg cd hwf progs hp σ hr
  obtain ⟨t, th, hth, hne, hsl⟩ := deadlock_free _ σ hinv hex
  exact ⟨t, th, hth, hne, hsl, awake_can_step cfg cd .fixed σ t th hth hne hsl⟩

/-- All callers agree: whatever the schedule and whatever failed, two callers of the same
keyframe that both obtain an image obtain the same one, the image of a never-failed render; and
every image stored in a handle is the clean one. (Holds for either variant and also after a
clobbering `reset`.) -/
theorem C20_all_callers_agree (cfg : Config) (cd : Codec) (var : Variant) (hwf : cfg.wf = true)
    (progs : List Prog) (hp : ProgsOK cfg progs) (σ : Sys)
    (hr : Reachable cfg cd var (initSys cfg progs) σ) :
    (∀ (t₁ t₂ k : Nat) (th₁ th₂ : Thread) (v₁ v₂ : Val),
      progs[t₁]? = some (.keyframe k) → progs[t₂]? = some (.keyframe k) →
      σ.ths[t₁]? = some th₁ → σ.ths[t₂]? = some th₂ →
      th₁.result = some (.ok v₁) → th₂.result = some (.ok v₂) →
      v₁ = v₂ ∧ ∃ idx, cfg.keyframes[k]? = some idx ∧ v₁ = cleanBlended cfg cd idx) ∧
    (∀ i, (∀ v, getH σ.hs i = .done v → v = cleanDone cfg cd i) ∧
          (∀ v, getH σ.hs i = .blended v → v = cleanBlended cfg cd i)) := by
  have hinv := reach_val cfg cd var hwf progs hp σ hr
  refine ⟨?_, hinv.hv⟩
  intro t₁ t₂ k th₁ th₂ v₁ v₂ hp₁ hp₂ hth₁ hth₂ hr₁ hr₂
  obtain ⟨p₁, hp₁', htv₁⟩ := hinv.tv t₁ th₁ hth₁
  obtain ⟨p₂, hp₂', htv₂⟩ := hinv.tv t₂ th₂ hth₂
  rw [hp₁] at hp₁'; cases hp₁'
  rw [hp₂] at hp₂'; cases hp₂'
  obtain ⟨idx₁, hk₁, hv₁⟩ := htv₁.1 v₁ hr₁
  obtain ⟨idx₂, hk₂, hv₂⟩ := htv₂.1 v₂ hr₂
  rw [hk₁] at hk₂; cases hk₂
  exact ⟨by rw [hv₁, hv₂], idx₁, hk₁, hv₁⟩

/-- With the repaired `reset` the ghost flag is never raised: no `reset` ever overwrites a handle
that somebody is rendering. -/
theorem C20_reset_never_clobbers (cfg : Config) (cd : Codec) (progs : List Prog) (σ : Sys)
    (hr : Reachable cfg cd .fixed (initSys cfg progs) σ) : σ.clobbered = false := by
  induction hr with
  | init => rfl
  | step l _ hnext ih =>
    obtain ⟨_, _, _, _, _, _, _, rfl, hc, _⟩ := sysNext_eq hnext
    exact (hc rfl).trans ih

/- Not proved:

   `C20_all_callers_agree`, error half — "if one caller of a keyframe fails, every caller fails
   with the same error class". It is false in the model and, by the same schedule, in the code:
   see `C20_spurious_error` below (one caller gets `IncompleteFrame` although nothing failed; the
   other caller succeeds).

   Liveness under fairness ("every caller eventually returns") is stated as its safety core,
   `C20_deadlock_free`; together with `TStep.weight` (each thread's own steps are bounded
   when it never has to sleep) it gives termination under any fair schedule, but the fair-schedule
   theorem itself is not formalised. -/

def c20Codec : Codec :=
  { dec := fun i ws => 100 * (i + 1) + ws.foldl (· + ·) 0,
    pre := fun _ v => v + 1,
    comp := fun i v ws => 1000 * (i + 1) + v + ws.foldl (· + ·) 0 }

def run (t : Nat) : Label := .run t {}
def runFail (t : Nat) : Label := .run t { fail := some .oom }

/-- two layers, one keyframe; two callers of that keyframe -/
def twoCfg : Config :=
  { frames := [{ skip := true },
               { spawn := [0], pre := [0], chans := [(some 0, true), (some 0, false)] }],
    keyframes := [1] }

/-- caller 0 runs up to the composite of frame 1, caller 1 goes to sleep on frame 1, then an
allocation inside caller 0's composite fails and caller 0 returns the error -/
def failSched : List Label :=
  List.replicate 10 (run 0) ++ [run 1, run 1] ++ [run 0, runFail 0, run 0, run 0]

/-- **F2 in the interleaving model.** With the unrepaired exit the schedule ends in a deadlock:
caller 0 has returned `Err`, caller 1 sleeps on a handle that stays `Rendering` and that nobody
owns. With the repair caller 1 has been woken up and returns an error (its `wait_until_render`
replaces `ErrTaken` by `None`, as in the code). -/
theorem C20_unrepaired_blend_deadlocks :
    let σ := sysRun twoCfg c20Codec .old (initSys twoCfg [.keyframe 0, .keyframe 0]) failSched
    let σ' := sysRun twoCfg c20Codec .fixed (initSys twoCfg [.keyframe 0, .keyframe 0])
      (failSched ++ [run 1, run 1, run 1])
    σ.hs = [.blended 101, .rendering] ∧
    σ.ths.map (fun th => (th.acts.length, th.asleep, th.result, th.owned)) =
      [(0, none, some (.err .oom), []), (1, some 1, none, [])] ∧
    σ'.hs = [.blended 101, .none] ∧
    σ'.ths.map (fun th => (th.acts.length, th.asleep, th.result)) =
      [(0, none, some (.err .oom)), (0, none, some (.err .failedRef))] := by
  decide +kernel

/-- frame 1 overwrites the slot of frame 0 without blending over it; a background `run` of
frame 0 (spawned by `do_render`, rayon pool) is in flight -/
def clobCfg : Config :=
  { frames := [{ }, { spawn := [0], reset := some 0 }], keyframes := [1], inline := false }

/-- **`reset` can clobber (unrepaired `reset`).** Background render 1 starts decoding frame 0; the
caller's composite of frame 1 resets frame 0 (`None`, no notify) while it is `Rendering`; a second
background render then starts decoding frame 0 as well: two executions of frame 0 at once. With
the guard the handle stays `Rendering` and the second background render does not start. -/
theorem C20_reset_can_clobber :
    let sched := [run 1, run 0, run 0, run 0, run 0, run 2]
    let σ := sysRun clobCfg c20Codec .old
      (initSys clobCfg [.keyframe 0, .background 0, .background 0]) sched
    let σ' := sysRun clobCfg c20Codec .fixed
      (initSys clobCfg [.keyframe 0, .background 0, .background 0]) sched
    σ.clobbered = true ∧ σ.ths.map (·.owned) = [[1], [0], [0]] ∧ σ.hs = [.rendering, .rendering] ∧
    σ'.clobbered = false ∧ σ'.ths.map (·.owned) = [[1], [0], []] := by
  decide +kernel

/-- frames 1 and 2 are keyframes that blend over the non-keyframe 0; frame 2 also overwrites its
slot (and therefore resets it after compositing) -/
def spCfg : Config :=
  { frames := [{ skip := true }, { pre := [0], chans := [(some 0, false)] },
               { pre := [0], chans := [(some 0, false)], reset := some 0 }],
    keyframes := [1, 2] }

def spSched : List Label :=
  List.replicate 8 (run 0) ++ List.replicate 12 (run 1) ++ List.replicate 3 (run 0)

/-- **Spurious error.** Nothing fails. Caller 0 (keyframe 0 = frame 1) has passed
`run_with_image` of frame 0 and is about to `blend` it; caller 1 (keyframe 1 = frame 2) finishes
its composite and resets frame 0; caller 0 then finds `None`, fails with `IncompleteFrame`, and
frame 1 is left `ErrTaken` (every later render of keyframe 0 fails with `FailedReference`). -/
theorem C20_spurious_error :
    let σ := sysRun spCfg c20Codec .fixed (initSys spCfg [.keyframe 0, .keyframe 1]) spSched
    σ.clobbered = false ∧ σ.hs = [.none, .errTaken, .rendering] ∧
    (σ.ths.map (·.result))[0]? = some (some (.err .incomplete)) := by
  decide +kernel

/-- non-vacuity: the example structures are well formed; a schedule leads to an unclobbered state
with a sleeper, an owner and a `Rendering` handle (reachable by `sysRun_reachable` below) -/
example : twoCfg.wf = true ∧ clobCfg.wf = true ∧ spCfg.wf = true ∧
    (let σ := sysRun twoCfg c20Codec .fixed (initSys twoCfg [.keyframe 0, .keyframe 0])
        (List.replicate 10 (run 0) ++ [run 1, run 1])
     σ.clobbered = false ∧ σ.hs = [.blended 101, .rendering] ∧
     σ.ths.map (fun th => (th.asleep, th.owned)) = [(none, [1]), (some 1, [])]) := by
  decide +kernel

theorem sysRun_reachable (cfg : Config) (cd : Codec) (var : Variant) (σ₀ : Sys) :
    ∀ (ls : List Label) (σ : Sys), Reachable cfg cd var σ₀ σ →
      Reachable cfg cd var σ₀ (sysRun cfg cd var σ ls)
  | [], σ, h => h
  | l :: ls, σ, h => by
    simp only [sysRun]
    split
    · rename_i σ' hn
      exact sysRun_reachable cfg cd var σ₀ ls σ' (.step l h hn)
    · exact h

end Jxl.RenderState
