import JxlModel.Proofs.TaskStages
import JxlModel.Props.C02
/-!
# C07 — output does not depend on threads, scheduling or repetition (partial)

**What is proved** (about the models in `Model/Tasks.lean`, `Model/TaskStages.lean`):

* `C07_disjoint_tasks_confluent` — jobs with pairwise `W_i ∩ (R_j ∪ W_j) = ∅` give the store of
  the sequential order under *every* permutation of the job list and under *every*
  order-preserving interleaving of their steps (cell / row granularity).
* `C07_partition_independent_of_pool` — the job lists of the parallel stages are functions of
  sub-grid geometry only; the RCT bands are exactly rows `16k .. min(16k+16, h)`.
* `C07_partition_tasks_disjoint` — jobs built on an `into_groups` partition (own cells read and
  written, a shared read-only area read) satisfy the disjointness premise (C02's partition
  theorems are imported); `C07_rct_jobs_disjoint` — the same for jobs that own one group of each
  of three grids; `C07_band_jobs_confluent` — in-place row jobs on the full-width 16-row groups
  of one grid: disjointness premise, confluence and the explicit bands in one statement.
* `C07_error_presence_schedule_independent` — with the shared error slot, Ok/Err-ness of the
  result is `initial ∨ ⋁ job fails on the initial store` for every schedule. The error *value* is
  whatever the last failing job wrote and does depend on the schedule
  (`C07_error_value_depends_on_schedule_witness`) — the property does not ask for more.
* `C07_none_pool_eq_any_pool`, `C07_pipeline_pool_independent` — the in-place loop of
  `JxlThreadPool::none()` is one admissible schedule, every admissible schedule of any pool gives
  its outcome, stage after stage.

**Partial.** Real interleavings are sampled by the differential run (`tools/props/c07.py`), not
enumerated; that the Rust jobs *have* the declared footprints (data-race freedom of the `unsafe`
sub-grid sharing) is C02's partial subject; rayon (`scope`/`for_each` run every job exactly once
and join) and `std::sync` (`Mutex`, `RwLock`, `Once`, `Condvar`, per-location coherence of
relaxed atomics) are trusted; nested fork-joins are flattened; memory limits are outside the
model (the instantaneous tracked total is schedule dependent — see the check's evidence).
-/
namespace Jxl.Tasks
open Jxl.Subgrid

section
variable {V : Type} [Inhabited V]

theorem C07_disjoint_tasks_confluent (ts : List (Task V)) (hd : ts.Pairwise Task.Indep)
    (s : Store V) :
    (∀ order : List (Task V), order.Perm ts → runTasks order s = runTasks ts s) ∧
    (∀ steps : List (Step V), Interleaving (ts.map Task.steps) steps →
      runSteps steps s = runTasks ts s) :=
  ⟨fun _ hp => runTasks_perm hd hp s,
   fun _ hi => by rw [runTasks_eq_noneOrder]; exact runSteps_interleaving hd hi s⟩

/-- The right-hand sides do not mention the schedule. The stored error value is not determined:
`C07_error_value_depends_on_schedule_witness`. -/
theorem C07_error_presence_schedule_independent (ts : List (Task V))
    (hd : ts.Pairwise Task.Indep) (st : St V) :
    (∀ steps : List (Step V), Interleaving (ts.map Task.steps) steps →
      (execSteps steps st).slot.isSome = (st.slot.isSome || ts.any fun t => t.failsAlone st.store) ∧
      (execSteps steps st).store = runTasks ts st.store) ∧
    (∀ order : List (Task V), order.Perm ts →
      (execSteps (noneOrder order) st).slot.isSome =
        (st.slot.isSome || ts.any fun t => t.failsAlone st.store) ∧
      (execSteps (noneOrder order) st).store = runTasks ts st.store) := by
  -- whole jobs in another order are one of the interleavings
  suffices key : _ from ⟨key, fun order hp => key _ (noneOrder_interleaving hp)⟩
  intro steps hi
  obtain ⟨h1, h2⟩ := execSteps_store_flag steps st
  rw [h1, h2, execStepsB_interleaving hd hi, execStepsB_noneOrder hd _ _ _ fun _ _ _ _ => rfl]
  exact ⟨rfl, rfl⟩

/-- Last part: the in-place loop of `none()` is itself one of the interleavings a multi-threaded pool
may produce. -/
theorem C07_none_pool_eq_any_pool (ts : List (Task V)) (hd : ts.Pairwise Task.Indep)
    (p : Pool) (steps : List (Step V)) (ha : Admissible p ts steps) (st : St V) :
    (execSteps steps st).store = (execSteps (noneOrder ts) st).store ∧
    (execSteps steps st).slot.isSome = (execSteps (noneOrder ts) st).slot.isSome ∧
    (∀ n, Admissible (.rayon n) ts (noneOrder ts)) := by
  obtain ⟨h1, h2⟩ := execSteps_store_flag steps st
  obtain ⟨h3, h4⟩ := execSteps_store_flag (noneOrder ts) st
  rw [h1, h2, h3, h4, execStepsB_interleaving hd ha.interleaving]
  exact ⟨rfl, rfl, fun _ => interleaving_flatten _⟩

/-- A render is a sequence of fork-join stages; the job list `jobs i` of stage `i` is geometry, not
store or pool; the pools may differ per stage. -/
theorem C07_pipeline_pool_independent (jobs : Nat → List (Task V))
    (hd : ∀ i, (jobs i).Pairwise Task.Indep) (p q : Nat → Pool)
    (sched sched' : Nat → List (Step V))
    (h : ∀ i, Admissible (p i) (jobs i) (sched i)) (h' : ∀ i, Admissible (q i) (jobs i) (sched' i))
    (k n : Nat) (s : Store V) :
    runPipeline sched k n s = runPipeline sched' k n s := by
  induction n generalizing k s with
  | zero => rfl
  | succ n ih =>
    simp only [runPipeline]
    rw [runSteps_interleaving (hd k) (h k).interleaving,
      runSteps_interleaving (hd k) (h' k).interleaving]
    exact ih _ _

end

/-! ### non-vacuity: three jobs with real footprints

A 3×6 grid at offset 1 with stride 4 (25 cells of address space), cut into 2-row bands by
`into_groups(3, 2)`; each job rewrites its rows in place, one atomic step per row, every new
sample depending on the sample and its right neighbour in the row. -/

def exGrid : SubGrid := ⟨1, 3, 6, 4, none⟩
def exBands : List SubGrid := [⟨1, 3, 2, 4, some 1⟩, ⟨9, 3, 2, 4, some 1⟩, ⟨17, 3, 2, 4, some 1⟩]
def exRow : Store Int → Cell → Int := fun s c => 2 * s c + s (c + 1)
def exJobs : List (Task Int) := exBands.map (inPlaceRowTask exRow)
def exStore : Store Int := fun c => (c : Int) * c - 7
def dump (s : Store Int) : List Int := (List.range 25).map s

example : intoGroups .checked exGrid 3 2 = .ok exBands := by decide
example : Valid 25 exGrid := by decide
example : exJobs.Pairwise Task.Indep := by decide
example : (exJobs.map fun t => (t.reads, t.writes)) =
    [([1, 2, 3, 5, 6, 7], [1, 2, 3, 5, 6, 7]), ([9, 10, 11, 13, 14, 15], [9, 10, 11, 13, 14, 15]),
     ([17, 18, 19, 21, 22, 23], [17, 18, 19, 21, 22, 23])] := by decide
example : (perms exJobs).length = 6 ∧
    ((perms exJobs).all fun o => dump (runTasks o exStore) == dump (runTasks exJobs exStore)) = true ∧
    (interleavings 6 (exJobs.map Task.steps)).length = 90 ∧
    ((interleavings 6 (exJobs.map Task.steps)).all fun o =>
      dump (runSteps o exStore) == dump (runTasks exJobs exStore)) = true ∧
    dump (runTasks exJobs exStore) ≠ dump exStore := by
  -- the enumerated orders are schedules, so the confluence theorem applies to each of them
  have hd : exJobs.Pairwise Task.Indep := by decide
  refine ⟨by decide, ?_, by decide, ?_, by decide⟩
  · refine List.all_eq_true.2 fun o ho => beq_iff_eq.2 ?_
    rw [runTasks_perm hd (perms_perm _ _ ho)]
  · refine List.all_eq_true.2 fun o ho => beq_iff_eq.2 ?_
    rw [runTasks_eq_noneOrder, runSteps_interleaving hd (interleavings_sound 6 _ o (by decide) ho)]

/-- The premise matters: a job that reads a cell another job writes (bands that overlap by one
row under a filter that looks at the row above, say) — the jobs are not independent and the two
orders give different samples. -/
theorem C07_dependent_jobs_not_confluent_witness :
    let t1 : Task Int := .atomic { reads := [9], writes := [9], f := fun s _ => 2 * s 9 + 1 }
    let t2 : Task Int := .atomic { reads := [9, 13], writes := [13], f := fun s _ => s 13 + s 9 }
    ¬ [t1, t2].Pairwise Task.Indep ∧
    dump (runTasks [t1, t2] exStore) ≠ dump (runTasks [t2, t1] exStore) := by decide

/-- The stored error value is last-writer-wins: two failing independent jobs, two orders, two
different values — while Ok/Err-ness agrees. -/
theorem C07_error_value_depends_on_schedule_witness :
    let t1 : Task Int := .atomic { reads := [0], writes := [0], f := fun s _ => s 0, fail := fun _ => some 1 }
    let t2 : Task Int := .atomic { reads := [1], writes := [1], f := fun s _ => s 1, fail := fun _ => some 2 }
    [t1, t2].Pairwise Task.Indep ∧
    (execSteps (noneOrder [t1, t2]) ⟨exStore, none⟩).slot = some 2 ∧
    (execSteps (noneOrder [t2, t1]) ⟨exStore, none⟩).slot = some 1 := by decide

/-- Why "nobody ever writes `Ok` into the slot" matters (the discipline `run_with_threads` of
jxl-color violated before its repair, replayed on the real code by corpus/c07/00_*): if every job
stores its own result, one failing and one succeeding independent job give `Ok` in one order and
`Err` in the other — success/failure depends on the schedule. -/
theorem C07_overwriting_slot_schedule_dependent_witness :
    let t1 : Task Int := .atomic { reads := [0], writes := [0], f := fun s _ => s 0, fail := fun _ => some 1 }
    let t2 : Task Int := .atomic { reads := [1], writes := [1], f := fun s _ => s 1 }
    [t1, t2].Pairwise Task.Indep ∧
    (execStepsOverwriting (noneOrder [t1, t2]) ⟨exStore, none⟩).slot = none ∧
    (execStepsOverwriting (noneOrder [t2, t1]) ⟨exStore, none⟩).slot = some 1 ∧
    (execSteps (noneOrder [t1, t2]) ⟨exStore, none⟩).slot = some 1 ∧
    (execSteps (noneOrder [t2, t1]) ⟨exStore, none⟩).slot = some 1 := by decide

/-- None of the partition functions of the parallel stages looks at the pool. The RCT bands come in
popped, i.e. reversed, order. -/
theorem C07_partition_independent_of_pool (p q : Pool) (g : SubGrid) (groupDim fuel height len : Nat) :
    rctBands p g = rctBands q g ∧ squeezeHBands p g = squeezeHBands q g ∧
    squeezeVStrips p g = squeezeVStrips q g ∧ groupGrid p g groupDim = groupGrid q g groupDim ∧
    epfBands p fuel g = epfBands q fuel g ∧ gaborChunks p height = gaborChunks q height ∧
    colourChunks p len = colourChunks q len ∧
    (∀ gs, g.w ≠ 0 → g.h ≠ 0 → rctBands p g = .ok gs →
      gs = ((List.range (ceilDiv g.h 16)).map (band16 g g.off)).reverse) := by
  refine ⟨rfl, rfl, rfl, rfl, ?_, rfl, rfl, fun gs hw hh h => rctBands_eq h hw hh⟩
  induction fuel generalizing g with
  | zero => rfl
  | succ n ih => simp only [epfBands, ih]

example : rctBands (.rayon 8) ⟨0, 5, 40, 5, none⟩ =
    .ok [⟨160, 5, 8, 5, some 0⟩, ⟨80, 5, 16, 5, some 0⟩, ⟨0, 5, 16, 5, some 0⟩] := by decide
example : squeezeHBands .none ⟨0, 5, 40, 5, none⟩ =
    .ok [⟨0, 5, 16, 5, some 0⟩, ⟨80, 5, 16, 5, some 0⟩, ⟨160, 5, 8, 5, some 0⟩] := by decide
example : squeezeVStrips .none ⟨0, 40, 3, 40, none⟩ =
    .ok [⟨0, 16, 3, 40, some 0⟩, ⟨16, 16, 3, 40, some 0⟩, ⟨32, 8, 3, 40, some 0⟩] := by decide
example : epfBands (.rayon 3) 5 ⟨0, 4, 19, 4, none⟩ =
    .ok [⟨0, 4, 8, 4, some 0⟩, ⟨32, 4, 8, 4, some 0⟩, ⟨64, 4, 3, 4, some 0⟩] := by decide
example : gaborChunks .none 20 = [(1, 8), (9, 8), (17, 2)] ∧
    colourChunks .none 262144 = [(0, 65536), (65536, 65536), (131072, 65536), (196608, 65536)] ∧
    colourChunks .none 65537 = [(0, 65536), (65536, 1)] := by decide

section
variable {V : Type}

theorem intoGroups_partition {L : Nat} {g : SubGrid} (hv : Valid L g) {gw gh : Nat}
    {gs : List SubGrid} (h : intoGroups .checked g gw gh = .ok gs) :
    gs.Pairwise Disjoint ∧ ∀ sg ∈ gs, ∀ c ∈ cells sg, c ∈ cells g :=
  ⟨C02_groups_pairwise_disjoint L g hv .checked gw gh _ _ gs (Or.inl rfl) (Or.inr ⟨h, rfl, rfl⟩),
   fun sg hsg => ((C02_groups_within_parent L g hv .checked gw gh 0 0 gs (Or.inr h)).1 sg hsg).2⟩

/-- `ro`: a read-only area outside the grid (the input buffer of Gabor/EPF, the noise groups, the LF
image). -/
theorem C07_partition_tasks_disjoint (L : Nat) (g : SubGrid) (hv : Valid L g) (gw gh : Nat)
    (gs : List SubGrid) (h : intoGroups .checked g gw gh = .ok gs)
    (ro : List Cell) (hro : ∀ c ∈ ro, c ∉ cells g) (mk : SubGrid → Task V)
    (hw : ∀ sg ∈ gs, ∀ c ∈ (mk sg).writes, c ∈ cells sg)
    (hr : ∀ sg ∈ gs, ∀ c ∈ (mk sg).reads, c ∈ cells sg ∨ c ∈ ro) :
    (gs.map mk).Pairwise Task.Indep := by
  obtain ⟨hdis, hin⟩ := intoGroups_partition hv h
  exact indep_of_regions cells ro mk gs hdis
    (fun sg hsg c hc hcro => hro c hcro (hin sg hsg c hc)) hw hr

/-- three channels at once (`RctJob { grids: [a, b, c] }`): job `k` owns band `k` of each of three
pairwise disjoint valid grids cut the same way -/
theorem C07_rct_jobs_disjoint (L : Nat) (a b c : SubGrid) (ha : Valid L a) (hb : Valid L b)
    (hc : Valid L c) (hab : Disjoint a b) (hac : Disjoint a c) (hbc : Disjoint b c)
    (gw gh : Nat) (as bs cs : List SubGrid)
    (h1 : intoGroups .checked a gw gh = .ok as) (h2 : intoGroups .checked b gw gh = .ok bs)
    (h3 : intoGroups .checked c gw gh = .ok cs)
    (mk : SubGrid × SubGrid × SubGrid → Task V)
    (hfoot : ∀ j ∈ as.zip (bs.zip cs), ∀ x, (x ∈ (mk j).writes ∨ x ∈ (mk j).reads) →
      x ∈ cells j.1 ∨ x ∈ cells j.2.1 ∨ x ∈ cells j.2.2) :
    ((as.zip (bs.zip cs)).map mk).Pairwise Task.Indep := by
  obtain ⟨da, ia⟩ := intoGroups_partition ha h1
  obtain ⟨db, ib⟩ := intoGroups_partition hb h2
  obtain ⟨dc, ic⟩ := intoGroups_partition hc h3
  refine indep_of_regions
    (fun j : SubGrid × SubGrid × SubGrid => cells j.1 ++ (cells j.2.1 ++ cells j.2.2))
    [] mk _ ?_ (fun _ _ _ _ h => nomatch h) ?_ ?_
  · -- a cell of two jobs lies in two groups of one grid, or in two of the grids
    refine (pairwise_zip da (pairwise_zip db dc)).imp_of_mem ?_
    intro i j hi hj ⟨d1, d2, d3⟩ x hx hy
    have mi := List.of_mem_zip hi
    have mi2 := List.of_mem_zip mi.2
    have mj := List.of_mem_zip hj
    have mj2 := List.of_mem_zip mj.2
    simp only [List.mem_append] at hx hy
    rcases hx with hx | hx | hx <;> rcases hy with hy | hy | hy
    · exact d1 x hx hy
    · exact hab x (ia _ mi.1 x hx) (ib _ mj2.1 x hy)
    · exact hac x (ia _ mi.1 x hx) (ic _ mj2.2 x hy)
    · exact hab x (ia _ mj.1 x hy) (ib _ mi2.1 x hx)
    · exact d2 x hx hy
    · exact hbc x (ib _ mi2.1 x hx) (ic _ mj2.2 x hy)
    · exact hac x (ia _ mj.1 x hy) (ic _ mi2.2 x hx)
    · exact hbc x (ib _ mj2.1 x hy) (ic _ mi2.2 x hx)
    · exact d3 x hx hy
  · intro j hj x hx
    simpa only [List.mem_append] using hfoot j hj x (Or.inl hx)
  · intro j hj x hx
    exact Or.inl (by simpa only [List.mem_append] using hfoot j hj x (Or.inr hx))

variable [Inhabited V]

/-- `into_groups(width, 16)` is the cut of the RCT and horizontal-squeeze stages. -/
theorem C07_band_jobs_confluent (L : Nat) (g : SubGrid) (hv : Valid L g) (hw : g.w ≠ 0)
    (gs : List SubGrid) (h : intoGroups .checked g g.w 16 = .ok gs)
    (rowf : Store V → Cell → V) (p : Pool) (steps : List (Step V))
    (ha : Admissible p (gs.map (inPlaceRowTask rowf)) steps) (s : Store V) :
    runSteps steps s = runSteps (noneOrder (gs.map (inPlaceRowTask rowf))) s ∧
    gs = (List.range (ceilDiv g.h 16)).map (band16 g (splitBase g)) := by
  have hd := C07_partition_tasks_disjoint (V := V) L g hv g.w 16 gs h [] (by simp)
    (inPlaceRowTask rowf)
    (fun sg _ c hc => (inPlaceRowTask_footprint rowf sg).2 ▸ hc)
    (fun sg _ c hc => Or.inl ((inPlaceRowTask_footprint rowf sg).1 ▸ hc))
  exact ⟨runSteps_interleaving hd ha.interleaving s, intoGroups_bands16 hw h⟩

end

/-- If every job overwrites what it reads from the scratch, the samples do not depend on the
scratch a thread starts with — `init`, a clone of it, or another job's leftovers. -/
theorem C07_scratch_oblivious_jobs_schedule_independent {U V : Type} (jobs : List (ScratchJob U V))
    (ho : ∀ j ∈ jobs, j.Oblivious) (u u' : U) (s : Store V) :
    (runWithScratch jobs u s).2 = (runWithScratch jobs u' s).2 := by
  induction jobs generalizing u u' s with
  | nil => rfl
  | cons j jobs ih =>
    show (runWithScratch jobs (j.run u s).1 (j.run u s).2).2 =
      (runWithScratch jobs (j.run u' s).1 (j.run u' s).2).2
    rw [← ho j List.mem_cons_self u u' s]
    exact ih (fun k hk => ho k (List.mem_cons_of_mem _ hk)) _ _ _

/-- The EPF `sigma_row` pattern (`if let Some(grid) = sigma_grid_map[idx] { *sigma = .. }`, no
`else`): a job that leaves a scratch entry untouched and then uses it. Job 0 has a sigma grid
(writes 5), job 1 has none: run on the same thread after job 0 it uses 5, run first on a fresh
clone it uses the initial 1 — the samples differ. (All entries are `None` for Modular frames and
all `Some` for completely loaded VarDCT frames, so this needs a partially loaded VarDCT frame.) -/
theorem C07_scratch_dependence_witness :
    let j0 : ScratchJob Int Int := ⟨fun _ s => (5, fun c => if c = 0 then 5 else s c)⟩
    let j1 : ScratchJob Int Int := ⟨fun u s => (u, fun c => if c = 1 then u else s c)⟩
    ¬ j1.Oblivious ∧
    (runWithScratch [j0, j1] 1 exStore).2 1 = 5 ∧
    (runWithScratch [j0] 1 (runWithScratch [j1] 1 exStore).2).2 1 = 1 := by
  refine ⟨fun h => ?_, by decide, by decide⟩
  have := congrFun (h 0 1 exStore) 1
  simp at this

/-- all calls of `render_by_index` on one handle, each with whatever render / composite closures
(pool, schedule) it brings -/
def Handle.renderMany {Img : Type} (h : Handle Img) :
    List ((Unit → Img) × (Img → Img)) → Handle Img × List (Option Img)
  | [] => (h, [])
  | (r, c) :: calls =>
    let (h1, v) := h.renderKeyframe r c
    let (h2, vs) := Handle.renderMany h1 calls
    (h2, v :: vs)

theorem C07_rerender_idempotent {Img : Type} (h : Handle Img) (r : Unit → Img) (c : Img → Img)
    (calls : List ((Unit → Img) × (Img → Img))) :
    let first := h.renderKeyframe r c
    first.2.isSome ∧ first.1 = .blended (first.2.getD (r ())) ∧
    (first.1.renderMany calls).1 = first.1 ∧ ∀ v ∈ (first.1.renderMany calls).2, v = first.2 := by
  have key : ∀ (i : Img) (calls : List ((Unit → Img) × (Img → Img))),
      ((Handle.blended i).renderMany calls).1 = .blended i ∧
      ∀ v ∈ ((Handle.blended i).renderMany calls).2, v = some i := by
    intro i calls
    induction calls with
    | nil => simp [Handle.renderMany]
    | cons rc calls ih =>
      obtain ⟨r', c'⟩ := rc
      simp only [Handle.renderMany, Handle.renderKeyframe, Handle.runWithImage, Handle.blend]
      exact ⟨ih.1, List.forall_mem_cons.2 ⟨rfl, ih.2⟩⟩
  cases h <;> exact ⟨rfl, rfl, key _ calls⟩

example : (Handle.none.renderKeyframe (fun _ => 3) (· + 10) : Handle Nat × Option Nat) =
      (.blended 13, some 13) ∧
    ((Handle.blended 13).renderMany [(fun _ => 99, (· + 1)), (fun _ => 7, id)] :
      Handle Nat × List (Option Nat)) = (.blended 13, [some 13, some 13]) := by decide

/-- `call_once` / `or_insert_with` with a pure initialiser. -/
theorem C07_lazy_init_idempotent {T : Type} (init : Unit → T) (slot : Option T)
    (hs : slot = none ∨ slot = some (init ())) (n : Nat) :
    (∀ t ∈ (lazyGets slot init n).2, t = init ()) ∧
    (lazyGet (lazyGet slot init).1 init = ((lazyGet slot init).1, (lazyGet slot init).2)) ∧
    (lazyGet slot init).1 = some (init ()) := by
  have hget : ∀ slot, slot = none ∨ slot = some (init ()) →
      lazyGet slot init = (some (init ()), init ()) := by
    rintro _ (rfl | rfl) <;> rfl
  refine ⟨?_, by rw [hget slot hs]; rfl, by rw [hget slot hs]⟩
  induction n generalizing slot with
  | zero => exact fun _ ht => nomatch ht
  | succ n ih =>
    simp only [lazyGets, hget slot hs]
    exact List.forall_mem_cons.2 ⟨rfl, ih _ (Or.inr rfl)⟩

/-- `AllGroupOffsets`: a trace of lookups and stores by any number of threads, every store writing
the one value `v` all threads compute; `0` is "unknown". -/
theorem C07_monotone_cache_deterministic (v : Nat) (evs : List CacheEv)
    (hst : ∀ x, CacheEv.store x ∈ evs → x = v) (c0 : Nat) (hc0 : c0 = 0 ∨ c0 = v) :
    (∀ o ∈ (runCache v c0 evs).2, o = v) ∧
    ((runCache v c0 evs).1 = 0 ∨ (runCache v c0 evs).1 = v) ∧
    (c0 = v → (runCache v c0 evs).1 = v) ∧
    ((∃ x, CacheEv.store x ∈ evs) → (runCache v c0 evs).1 = v) := by
  induction evs generalizing c0 with
  | nil => exact ⟨fun _ ho => (nomatch ho), hc0, id, fun ⟨_, hx⟩ => (nomatch hx)⟩
  | cons e evs ih =>
    have hst' : ∀ x, CacheEv.store x ∈ evs → x = v := fun x hx => hst x (List.mem_cons_of_mem _ hx)
    cases e with
    | lookup =>
      obtain ⟨i1, i2, i3, i4⟩ := ih hst' c0 hc0
      -- a miss recomputes `v`, a hit finds `v`
      have hused : (if c0 = 0 then v else c0) = v := by
        rcases hc0 with rfl | rfl
        · exact if_pos rfl
        · exact ite_self _
      rw [runCache_lookup, hused]
      exact ⟨List.forall_mem_cons.2 ⟨rfl, i1⟩, i2, i3,
        fun ⟨x, hx⟩ => i4 ⟨x, (List.mem_cons.1 hx).resolve_left fun h => nomatch h⟩⟩
    | store x =>
      obtain rfl : x = v := hst x List.mem_cons_self
      obtain ⟨i1, i2, i3, _⟩ := ih hst' x (Or.inr rfl)
      rw [runCache_store]
      exact ⟨i1, i2, fun _ => i3 rfl, fun _ => i3 rfl⟩

/-- two threads both miss, both store, a third hits: all use 1234 -/
example : runCache 1234 0 [.lookup, .lookup, .store 1234, .store 1234, .lookup] =
    (1234, [1234, 1234, 1234]) := by decide

/-- The thread that ends up convolving the group is not an input of the noise seed; a seed taken from
a per-thread job counter (last part) would depend on it. -/
theorem C07_noise_seed_independent_of_thread (visible invisible width groupDim groupIdx : Nat) :
    (∀ tid tid', noiseSeed visible invisible width groupDim groupIdx tid =
      noiseSeed visible invisible width groupDim groupIdx tid') ∧
    (∀ x0 y0 x0' y0', x0 < 2 ^ 32 → y0 < 2 ^ 32 → x0' < 2 ^ 32 → y0' < 2 ^ 32 →
      rngSeed1 x0 y0 = rngSeed1 x0' y0' → x0 = x0' ∧ y0 = y0') ∧
    noiseSeedFromThreadCounter visible invisible 0 1 ≠ noiseSeedFromThreadCounter visible invisible 1 0 := by
  refine ⟨fun _ _ => rfl, ?_, ?_⟩
  · intro x0 y0 x0' y0' h1 h2 h3 h4 h
    -- below `2 ^ 32` nothing wraps, and the two coordinates are the digits of the seed
    have e : ∀ x y, x < 2 ^ 32 → y < 2 ^ 32 → rngSeed1 x y = x * 2 ^ 32 + y := by
      intro x y hx hy
      simp only [rngSeed1, U64]
      omega
    rw [e _ _ h1 h2, e _ _ h3 h4] at h
    omega
  · simp only [noiseSeedFromThreadCounter, rngSeed1, U64, ne_eq, Prod.mk.injEq, not_and]
    intro _
    decide

example : noiseSeed 1 0 300 128 4 7 = (4294967296, 549755813888 + 128) := by decide

end Jxl.Tasks
