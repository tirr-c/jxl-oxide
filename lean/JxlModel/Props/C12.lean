import JxlModel.Proofs.Narrow
/-!
# C12 — 16-bit and 32-bit Modular buffers give identical results

The decoder instantiates the whole Modular pipeline at `i16` when the image header says
`modular_16bit_buffers` (and wide buffers are not forced), at `i32` otherwise
(`jxl-render/src/lib.rs: narrow_modular`). In the model every sample operation takes the sample
width `sb`; the narrow run is `sb = 16`, the wide run `sb = 32`.

"Truthfully declares that 16-bit buffers suffice" is `TruthfulSubimage` and the hypotheses
`∀ v ∈ …, I16 v` below: **every listed value of the wide (`sb = 32`) run is an `i16`**. The lists
(`wideSamples`, `decodeChannelsWide`, `unsqueezeLineTrace`, `rctTrace`, `inverseAllTrace`, … in
`Model/Modular/Narrow.lean`) are executable — the driver (`jxlmodel c12`, ops `sq`, `rct`,
`range`) evaluates them for every generated case — and minimal:

* token level (`unpack`, `mul-add`, `from_i32`, `add`): only the **decoded sample**; the
  unpacked token, the scaled residual and the prediction may be anything, because these are ring
  operations and truncation to 16 bits is a ring homomorphism (`C12_sampleOf_narrow_is_truncation`);
* RCT: the three results, and for types 4/5 the sum `a + f` that is halved; types 0–3 and 6
  are ring operations on the inputs (`C12_rct_ring_types_narrow_is_truncation`);
* squeeze: per reconstructed pair `diff`, `first`, `second`, the numerator
  `4a − 3c − b ± 6` of `tendency` and the operand differences `left − a`, `a − next`.
  The partial products `4a`, `3c` need **not** fit (the `i16` code computes the numerator modulo
  `2^16`), the numerator itself must: with `i16` operands whose numerator is 35006 the `i16` and
  `i32` `tendency` differ (`C12_tendency_numerator_must_fit`). For 12-bit samples after one RCT
  (`|v| ≤ 4095`) the numerator is at most `4·8190 + 6 = 32766`, so it fits — with 1 to spare
  (`C12_tendency_numerator_fits_12bit`). The two differences are not needed by the scalar code
  (the theorems about it ignore them) but by the vector kernels, which form them in 16-bit lanes
  before testing monotonicity (`C12_vector_tendency_needs_differences`);
* palette: the expanded value and the `i32` value of the delta pass.

The AVX2/SSE4.1 squeeze kernels use a different formula for `tendency`
(`(|a−b|/3 + |a−c| + 2) >> 2` on absolute differences, `mulhi` by `0x5556` for the division by 3,
sign restored at the end) and `(d + (d >>> 15)) >> 1` for `d / 2`. Their **lane semantics** is
transcribed (`tendencyVec`, `halveVec`, `unsqueezeGoVec`) and proved equal to the wide scalar line
under the same hypothesis (`C12_vector_lane_*`). Their **data movement** (8/16-row transposes,
head/tail handling per width class, the fall-backs to the scalar kernel) is not modelled: it is
tied to the scalar kernels by exhaustive-width runs through hook H7.

Not covered by theorems (tied by the differential run only): that data movement, the group
partition and re-assembly, the conversion of Modular samples to the frame buffer, and that the
model mirrors `jxl-modular` (C03's correspondence plus the `c12` kernel runs).
-/
namespace Jxl.Modular

/-- `i32 as i16`: truncating the wide value gives the narrow value -/
theorem C12_wrap16_wrap32 (x : Int) : wrap 16 (wrap 32 x) = wrap 16 x :=
  wrap_wrap_of_le 16 32 (by decide) x

theorem C12_wrap_add (n : Nat) (a b : Int) : wrap n (a + b) = wrap n (wrap n a + wrap n b) := by
  rw [wrap_add_left, wrap_add_right]
theorem C12_wrap_sub (n : Nat) (a b : Int) : wrap n (a - b) = wrap n (wrap n a - wrap n b) := by
  rw [wrap_sub_left, wrap_sub_right]
theorem C12_wrap_mul (n : Nat) (a b : Int) : wrap n (a * b) = wrap n (wrap n a * wrap n b) := by
  rw [wrap_mul_left, wrap_mul_right]

theorem C12_narrow_of_wide_fits (x : Int) (h : I16 (wrap 32 x)) : wrap 16 x = wrap 32 x := by
  rw [← wrap_wrap_of_le 16 32 (by decide) x]
  exact wrap16_of_I16 _ h

/-! Sample operations (`jxl-modular/src/sample.rs`) -/

theorem C12_sUnpack_narrow_eq_wide (tok : Nat) (h : I16 (sUnpack 32 tok)) :
    sUnpack 16 tok = sUnpack 32 tok := by
  rw [sUnpack_trunc, wrap16_of_I16 _ h]

theorem C12_sAdd_narrow_eq_wide (a b : Int) (h : I16 (sAdd 32 a b)) : sAdd 16 a b = sAdd 32 a b := by
  rw [sAdd_trunc, wrap16_of_I16 _ h]

theorem C12_sMulAdd_narrow_eq_wide (a mul add : Int) (h : I16 (sMulAdd 32 a mul add)) :
    sMulAdd 16 a mul add = sMulAdd 32 a mul add := by
  rw [sMulAdd_trunc, wrap16_of_I16 _ h]

theorem C12_sFromI32_narrow_eq_wide (v : Int) (h : I16 (sFromI32 32 v)) :
    sFromI32 16 v = sFromI32 32 v := by
  rw [sFromI32_trunc, wrap16_of_I16 _ h]

theorem C12_sAdd_narrow_is_truncation (a b : Int) :
    sAdd 16 (wrap 16 a) (wrap 16 b) = wrap 16 (sAdd 32 a b) := by
  unfold sAdd; rw [wrap_wrap_of_le 16 32 (by decide), wrap_add_left, wrap_add_right]

theorem C12_sMulAdd_narrow_is_truncation (a mul add : Int) :
    sMulAdd 16 (wrap 16 a) mul add = wrap 16 (sMulAdd 32 a mul add) := by
  unfold sMulAdd
  rw [wrap_wrap_of_le 16 32 (by decide), ← wrap_add_left, wrap_mul_left, wrap_add_left]

/-- the Rust `i16` mul-add truncates the `i32` multiplier and offset first; same result -/
theorem C12_sMulAdd16_truncated_operands (a mul add : Int) :
    wrap 16 (wrap 16 (a * wrap 16 mul) + wrap 16 add) = sMulAdd 16 a mul add := by
  unfold sMulAdd
  rw [wrap_add_left, wrap_add_right, ← wrap_add_left, wrap_mul_right, wrap_add_left]

/-- `grad_clamped` is computed in a wider type by both implementations and lies between its
operands: no truncation happens at either width -/
theorem C12_gradClamped_narrow_eq_wide (n w nw : Int) (hn : I16 n) (hw : I16 w) :
    wrap 16 (gradClamped n w nw) = gradClamped n w nw ∧
    wrap 32 (gradClamped n w nw) = gradClamped n w nw :=
  ⟨wrap16_of_I16 _ (gradClamped_I16 n w nw hn hw),
   wrap32_of_I32 _ (I32_of_I16 (gradClamped_I16 n w nw hn hw))⟩

/-- one decoded sample (`decode_one`) -/
theorem C12_sampleOf_narrow_is_truncation (leaf : Leaf) (pred : Int) (tok : Nat) :
    sampleOf 16 leaf pred tok = wrap 16 (sampleOf 32 leaf pred tok) := by
  unfold sampleOf
  rw [sUnpack_trunc, C12_sMulAdd_narrow_is_truncation, sFromI32_trunc, C12_sAdd_narrow_is_truncation]

theorem C12_sampleOf_narrow_eq_wide (leaf : Leaf) (pred : Int) (tok : Nat)
    (h : I16 (sampleOf 32 leaf pred tok)) : sampleOf 16 leaf pred tok = sampleOf 32 leaf pred tok := by
  rw [C12_sampleOf_narrow_is_truncation, wrap16_of_I16 _ h]

/-! Squeeze (`transform/squeeze.rs`) -/

/-- `tendency_i16 = tendency_i32` as soon as the numerator `4a − 3c − b ± 6` is an `i16`
(nothing is assumed about `4a`, `3c`, or even about `a`, `b`, `c` themselves) -/
theorem C12_tendency_narrow_eq_wide (a b c : Int) (h : I16 (tendencyNum a b c)) :
    tendency 16 a b c = tendency 32 a b c := by
  rw [tendency_exact wrap16_of_I16 a b c h,
    tendency_exact (fun x hx => wrap32_of_I32 x (I32_of_I16 hx)) a b c h]

/-- the hypothesis cannot be weakened to "operands and result fit": `i16` operands, `i16`
result, numerator 35006 -/
theorem C12_tendency_numerator_must_fit :
    I16 10000 ∧ I16 5000 ∧ I16 0 ∧ I16 (tendency 32 10000 5000 0) ∧
    ¬ I16 (tendencyNum 10000 5000 0) ∧ tendency 16 10000 5000 0 ≠ tendency 32 10000 5000 0 := by
  decide

/-- … whereas an overflowing partial product is harmless: `4a` is 32800 resp. 48000 -/
theorem C12_tendency_partial_products_may_overflow :
    ¬ I16 (4 * 8200) ∧ I16 (tendencyNum 8200 8200 8200) ∧
    tendency 16 8200 8200 8200 = tendency 32 8200 8200 8200 ∧
    ¬ I16 (4 * 12000) ∧ I16 (tendencyNum 12000 11000 9000) ∧
    tendency 16 12000 11000 9000 = tendency 32 12000 11000 9000 := by
  decide

/-- 12-bit samples, also after one RCT (`|v| ≤ 4095`): the numerator always fits -/
theorem C12_tendency_numerator_fits_12bit (a b c : Int)
    (ha : -4095 ≤ a ∧ a ≤ 4095) (hc : -4095 ≤ c ∧ c ≤ 4095) :
    I16 (tendencyNum a b c) := by
  unfold tendencyNum I16
  omega

/-- one lane of the AVX2/SSE4.1 `tendency` -/
theorem C12_vector_lane_tendency_eq_wide (a b c : Int) (ha : I16 a) (hc : I16 c)
    (hab : I16 (a - b)) (hbc : I16 (b - c)) (h : I16 (tendencyNum a b c)) :
    tendencyVec a b c = tendency 32 a b c := tendencyVec_eq_wide a b c hab hbc h

/-- the differences are needed: `i16` operands, not monotone (scalar result 0, numerator 0), but
`a − b = 60000` wraps in its lane, the sign test sees a monotone triple and the lane returns
garbage -/
theorem C12_vector_tendency_needs_differences :
    I16 30000 ∧ I16 (-30000) ∧ I16 (-20000) ∧ I16 (tendencyNum 30000 (-30000) (-20000)) ∧
    tendency 16 30000 (-30000) (-20000) = 0 ∧ tendency 32 30000 (-30000) (-20000) = 0 ∧
    tendencyVec 30000 (-30000) (-20000) ≠ 0 := by decide

/-- outside the hypothesis the vector lane is *closer* to the wide result than the scalar `i16`
code: numerator 35006, the lane still returns the wide value 2917, the scalar `i16` code −2544 -/
theorem C12_vector_lane_more_tolerant_than_scalar :
    tendencyVec 10000 5000 0 = tendency 32 10000 5000 0 ∧ tendency 32 10000 5000 0 = 2917 ∧
    tendency 16 10000 5000 0 = -2544 := by decide

/-- the vector kernels' halving = Rust's truncating `diff / 2` -/
theorem C12_vector_lane_halve_eq_tdiv (d : Int) (h : I16 d) : halveVec d = tdiv d 2 := by
  unfold halveVec tdiv
  unfold I16 at h
  by_cases hd : d < 0
  · rw [if_pos hd, wrap16_of_I16 _ ⟨by omega, by omega⟩]
    have := tdiv_bounds_nonpos d 2 (by omega) (by omega)
    omega
  · rw [if_neg hd, wrap16_of_I16 _ ⟨by omega, by omega⟩]
    have := tdiv_bounds_nonneg d 2 (by omega) (by omega)
    omega

theorem unsqueezeGoVec_eq_wide (avg res : List Int) (left : Int)
    (h : ∀ v ∈ unsqueezeTrace avg res left, I16 v) :
    unsqueezeGoVec avg res left = unsqueezeGo (wrap 32) (tendency 32) avg res left := by
  induction avg generalizing res left with
  | nil => simp only [unsqueezeGo, unsqueezeGoVec]
  | cons a as ih =>
    cases res with
    | nil => simp only [unsqueezeGo, unsqueezeGoVec]
    | cons r rs =>
      simp only [unsqueezeTrace, unsqueezeStepTrace, List.forall_mem_append, List.forall_mem_cons] at h
      obtain ⟨⟨hN, hd, hf, hs, h1, h2, -⟩, hrest⟩ := h
      simp only [unsqueezeGo, unsqueezeGoVec]
      rw [tendencyVec_eq_wide _ _ _ h1 h2 hN, C12_narrow_of_wide_fits _ hd, C12_vector_lane_halve_eq_tdiv _ hd,
        C12_narrow_of_wide_fits _ hf, C12_narrow_of_wide_fits _ hs, ih rs _ hrest]

theorem C12_vector_lane_line_eq_wide (avg res : List Int) (havg : ∀ v ∈ avg, I16 v)
    (h : ∀ v ∈ unsqueezeLineTrace avg res, I16 v) :
    unsqueezeLineVec avg res = unsqueezeLine 32 avg res :=
  unsqueezeGoVec_eq_wide avg res _ h

theorem unsqueezeGo_narrow_eq_wide (avg res : List Int) (left : Int)
    (h : ∀ v ∈ unsqueezeTrace avg res left, I16 v) :
    unsqueezeGo (wrap 16) (tendency 16) avg res left = unsqueezeGo (wrap 32) (tendency 32) avg res left := by
  induction avg generalizing res left with
  | nil => simp only [unsqueezeGo]
  | cons a as ih =>
    cases res with
    | nil => simp only [unsqueezeGo]
    | cons r rs =>
      simp only [unsqueezeTrace, unsqueezeStepTrace, List.forall_mem_append, List.forall_mem_cons] at h
      obtain ⟨⟨hN, hd, hf, hs, -⟩, hrest⟩ := h
      simp only [unsqueezeGo]
      rw [C12_tendency_narrow_eq_wide _ _ _ hN, C12_narrow_of_wide_fits _ hd, C12_narrow_of_wide_fits _ hf,
        C12_narrow_of_wide_fits _ hs, ih rs _ hrest]

theorem C12_unsqueezeLine_narrow_eq_wide (avg res : List Int)
    (h : ∀ v ∈ unsqueezeLineTrace avg res, I16 v) :
    unsqueezeLine 16 avg res = unsqueezeLine 32 avg res :=
  unsqueezeGo_narrow_eq_wide avg res _ h

theorem C12_unsqueezeChan_narrow_eq_wide (horizontal : Bool) (avg res : Chan)
    (h : ∀ v ∈ unsqueezeChanTrace horizontal avg res, I16 v) :
    unsqueezeChan 16 horizontal avg res = unsqueezeChan 32 horizontal avg res := by
  unfold unsqueezeChan
  unfold unsqueezeChanTrace at h
  cases horizontal with
  | true => rw [if_pos rfl, if_pos rfl, map_congr_of_trace _ _ _ (fun y => C12_unsqueezeLine_narrow_eq_wide _ _) _ h]
  | false =>
    rw [if_neg Bool.false_ne_true, if_neg Bool.false_ne_true,
      map_congr_of_trace _ _ _ (fun x => C12_unsqueezeLine_narrow_eq_wide _ _) _ h]

/-! RCT (`transform/rct.rs`) -/

/-- every type: the code has 0..6, the statement holds for every `ty : Nat` of the model -/
theorem C12_rctInvSample_narrow_eq_wide (ty : Nat) (a b c : Int) (h : ∀ v ∈ rctTrace ty a b c, I16 v) :
    rctInvSample 16 ty a b c = rctInvSample 32 ty a b c := by
  unfold rctTrace rctInvSample rctInvSampleG at h
  unfold rctInvSample rctInvSampleG
  by_cases h6 : ty = 6
  · subst h6
    simp only [beq_self_eq_true, if_true, bne_self_eq_false, Bool.false_eq_true, false_and, if_false,
      List.nil_append, List.forall_mem_cons, wrap_add_left, wrap_add_right, wrap_sub_left] at h ⊢
    obtain ⟨hd, he, hf, -⟩ := h
    rw [C12_narrow_of_wide_fits _ hd, C12_narrow_of_wide_fits _ he, C12_narrow_of_wide_fits _ hf]
  · simp only [beq_false_of_ne h6, bne_iff_ne, ne_eq, h6, not_false_eq_true, true_and, Bool.false_eq_true,
      if_false, List.forall_mem_append, List.forall_mem_cons] at h ⊢
    obtain ⟨hh, -, he, hf, -⟩ := h
    -- the third component first: the second one uses it for the types 4 and 5
    have ef : (if ty % 2 == 1 then wrap 16 (c + a) else c) = (if ty % 2 == 1 then wrap 32 (c + a) else c) := by
      cases hp : ty % 2 == 1
      · rw [if_neg Bool.false_ne_true, if_neg Bool.false_ne_true]
      · rw [hp, if_pos rfl] at hf
        exact C12_narrow_of_wide_fits _ hf
    rw [ef]
    refine Prod.ext rfl (Prod.ext ?_ rfl)
    cases h1 : ty / 2 == 1
    · cases h2 : ty / 2 == 2
      · simp only [Bool.false_eq_true, if_false]
      · rw [h1, h2] at he
        rw [h2] at hh
        simp only [Bool.false_eq_true, if_false, if_true, List.forall_mem_cons] at he hh ⊢
        rw [C12_narrow_of_wide_fits _ hh.1, C12_narrow_of_wide_fits _ he]
    · rw [h1, if_pos rfl] at he
      exact C12_narrow_of_wide_fits _ he

/-- `hty`: types 0–3 and 6, ring operations on the inputs; no range hypothesis on anything computed -/
theorem C12_rct_ring_types_narrow_is_truncation (ty : Nat) (a b c : Int) (hty : ty = 6 ∨ ty / 2 ≠ 2)
    (ha : I16 a) (hb : I16 b) (hc : I16 c) :
    rctInvSample 16 ty a b c =
      (wrap 16 (rctInvSample 32 ty a b c).1, wrap 16 (rctInvSample 32 ty a b c).2.1,
       wrap 16 (rctInvSample 32 ty a b c).2.2) := by
  unfold rctInvSample rctInvSampleG
  by_cases h6 : ty = 6
  · subst h6
    simp only [beq_self_eq_true, if_true, wrap_add_left, wrap_add_right, wrap_sub_left,
      wrap_wrap_of_le 16 32 (by decide)]
  · -- truncation goes through the selections; a selected input is its own truncation
    simp only [beq_false_of_ne h6, beq_false_of_ne (hty.resolve_left h6), Bool.false_eq_true, if_false,
      apply_ite (wrap 16), wrap_wrap_of_le 16 32 (by decide), wrap16_of_I16 _ ha, wrap16_of_I16 _ hb,
      wrap16_of_I16 _ hc]

/-- whole channels, all 42 `rct_type`s (type and permutation) -/
theorem C12_rctInverse_narrow_eq_wide (rctType : Nat) (a b c : Chan)
    (h : ∀ v ∈ rctChanTrace rctType a b c, I16 v) :
    rctInverse 16 rctType a b c = rctInverse 32 rctType a b c := by
  unfold rctInverse
  simp only []
  rw [map_congr_of_trace _ _ _ (fun i hi => by rw [C12_rctInvSample_narrow_eq_wide _ _ _ _ hi]) _ h]

/-! Palette (`transform/palette.rs`) -/

theorem C12_paletteValue_narrow_eq_wide (pal : Chan) (nbColours bitDepth : Nat) (index : Int) (c : Nat)
    (h : I16 (paletteValue 32 pal nbColours bitDepth index c)) :
    paletteValue 16 pal nbColours bitDepth index c = paletteValue 32 pal nbColours bitDepth index c := by
  obtain ⟨t, ht | ht⟩ := paletteValue_width pal nbColours bitDepth index c
  · rw [ht, ht]
  · rw [ht] at h ⊢
    rw [ht]
    exact C12_narrow_of_wide_fits t h

theorem paletteDeltaStep_narrow_eq_wide (dPred : Nat) (isDelta : Nat → Nat → Bool) (w : Nat)
    (st : PState × Chan) (i : Nat) (h : ∀ v ∈ paletteDeltaStepTrace dPred isDelta w st i, I16 v) :
    paletteDeltaStep 16 dPred isDelta w st i = paletteDeltaStep 32 dPred isDelta w st i := by
  obtain ⟨ps, ch⟩ := st
  unfold paletteDeltaStep
  unfold paletteDeltaStepTrace at h
  simp only [] at h ⊢
  by_cases hd : isDelta (i % w) (i / w) = true
  · simp only [hd, if_true, List.mem_cons, List.not_mem_nil, or_false, forall_eq] at h ⊢
    unfold sFromI32
    unfold wrap32 at h ⊢
    rw [wrap16_of_I16 _ h, wrap_idem]
  · simp only [hd, Bool.false_eq_true, if_false]

theorem C12_paletteDeltaPass_narrow_eq_wide (dPred : Nat) (wp : Wp) (isDelta : Nat → Nat → Bool) (c : Chan)
    (h : ∀ v ∈ paletteDeltaTrace dPred wp isDelta c, I16 v) :
    paletteDeltaPass 16 dPred wp isDelta c = paletteDeltaPass 32 dPred wp isDelta c := by
  rw [paletteDeltaPass_eq_fold, paletteDeltaPass_eq_fold]
  rw [foldl_congr_of_trace _ _ _ (paletteDeltaStep_narrow_eq_wide dPred isDelta c.w) _ _ h]

/-- **Token decoder.** For every way of finding leaves (any tree / flattening), every predictor
state, previous-channel set, sample count and token list: if every sample the *wide* decoder
produces is an `i16`, the narrow decoder produces the same samples, consumes the same tokens,
ends in the same state — or fails at the same point. -/
theorem C12_decode_narrow_eq_wide (leafOf : LeafOf) (prev : List Chan) (n : Nat) (ps : PState)
    (toks : List Nat) (h : ∀ v ∈ wideSamples leafOf prev n ps toks, I16 v) :
    decodeSamples 16 leafOf prev n ps toks = decodeSamples 32 leafOf prev n ps toks := by
  induction n generalizing ps toks with
  | zero => simp [decodeSamples]
  | succ n ih =>
    unfold decodeSamples
    unfold wideSamples at h
    simp only [] at h ⊢
    split
    · rename_i leaf tok rest hl
      rw [hl] at h
      simp only [List.mem_cons, forall_eq_or_imp] at h
      rw [C12_sampleOf_narrow_eq_wide _ _ _ h.1, ih _ _ h.2]
    · rfl

theorem C12_decode_narrow_eq_wide_of_result (leafOf : LeafOf) (prev : List Chan) (n : Nat) (ps : PState)
    (toks : List Nat) (vs : List Int) (rest : List Nat) (ps' : PState)
    (hw : decodeSamples 32 leafOf prev n ps toks = some (vs, rest, ps')) (h : ∀ v ∈ vs, I16 v) :
    decodeSamples 16 leafOf prev n ps toks = some (vs, rest, ps') := by
  rw [← hw]
  apply C12_decode_narrow_eq_wide
  rw [wideSamples_of_decode leafOf prev n ps toks vs rest ps' hw]
  exact h

/-- weaker: the hypothesis also covers the unpacked token, the scaled residual and the prediction -/
theorem C12_decode_narrow_eq_wide_of_trace (leafOf : LeafOf) (prev : List Chan) (n : Nat) (ps : PState)
    (toks : List Nat) (h : ∀ v ∈ decodeTrace leafOf prev n ps toks, I16 v) :
    decodeSamples 16 leafOf prev n ps toks = decodeSamples 32 leafOf prev n ps toks :=
  C12_decode_narrow_eq_wide leafOf prev n ps toks
    (fun v hv => h v (wideSamples_subset_trace leafOf prev n ps toks v hv))

theorem decodeChannel_narrow_eq_wide (tree : Tree) (wp : Wp) (chanIdx stream : Nat)
    (info : ChanInfo) (prevSame : List Chan) (tokens : List Nat)
    (h : ∀ v ∈ decodeChannelWide tree wp chanIdx stream info prevSame tokens, I16 v) :
    decodeChannel 16 tree wp chanIdx stream info prevSame tokens =
      decodeChannel 32 tree wp chanIdx stream info prevSame tokens := by
  unfold decodeChannel
  unfold decodeChannelWide at h
  simp only [] at h ⊢
  rw [C12_decode_narrow_eq_wide _ _ _ _ _ h]

/-- all channels of a sub-image (`decode_inner`), incl. previous-channel properties -/
theorem C12_decodeChannels_narrow_eq_wide (tree : Tree) (wp : Wp) (stream : Nat)
    (infos : List ChanInfo) (idx : Nat) (done : List (ChanInfo × Chan)) (tokens : List Nat)
    (h : ∀ v ∈ decodeChannelsWide tree wp stream infos idx done tokens, I16 v) :
    decodeChannels 16 tree wp stream infos idx done tokens =
      decodeChannels 32 tree wp stream infos idx done tokens := by
  induction infos generalizing idx done tokens with
  | nil => simp [decodeChannels]
  | cons info rest ih =>
    unfold decodeChannels
    unfold decodeChannelsWide at h
    split
    · rename_i hz
      rw [if_pos hz] at h
      exact ih _ _ _ h
    · rename_i hz
      rw [if_neg hz, List.forall_mem_append] at h
      simp only []
      rw [decodeChannel_narrow_eq_wide _ _ _ _ _ _ _ h.1]
      split
      · rfl
      · rename_i c tokens' hd
        have h2 := h.2
        rw [hd] at h2
        exact ih _ _ _ h2

theorem squeezeInvStep_narrow_eq_wide (chans : List Chan) (sp : SqueezeParam)
    (h : ∀ v ∈ squeezeInvStepTrace chans sp, I16 v) :
    squeezeInvStep 16 chans sp = squeezeInvStep 32 chans sp := by
  unfold squeezeInvStep
  unfold squeezeInvStepTrace at h
  simp only [] at h ⊢
  rw [map_congr_of_trace _ _ _ (fun i => C12_unsqueezeChan_narrow_eq_wide _ _ _) _ h]

theorem inverseOne_narrow_eq_wide (bitDepth : Nat) (wp : Wp) (chans : List Chan) (t : Transform)
    (h : ∀ v ∈ inverseOneTrace bitDepth wp chans t, I16 v) :
    inverseOne 16 bitDepth wp chans t = inverseOne 32 bitDepth wp chans t := by
  cases t with
  | rct b ty =>
    simp only [inverseOne]
    simp only [inverseOneTrace] at h
    split
    · rename_i a bb c h1 h2 h3
      rw [h1, h2, h3] at h
      rw [C12_rctInverse_narrow_eq_wide ty a bb c h]
    · rfl
  | squeeze ps =>
    rw [inverseOne_squeeze_eq_fold, inverseOne_squeeze_eq_fold]
    exact foldl_congr_of_trace _ _ _ squeezeInvStep_narrow_eq_wide _ _ h
  | palette b n nbc nbd dp =>
    simp only [inverseOne]
    simp only [inverseOneTrace] at h
    cases chans with
    | nil => rfl
    | cons pal rest =>
      simp only [] at h ⊢
      cases hidx : rest[b]? with
      | none => rfl
      | some idx =>
        rw [hidx] at h
        simp only [List.forall_mem_append] at h
        obtain ⟨hbase, hdelta⟩ := h
        refine congrArg (fun o => List.take b rest ++ o ++ List.drop (b + 1) rest) ?_
        apply List.map_congr_left
        intro c hc
        have hbase : (Chan.ofFn idx.w idx.h fun x y => paletteValue 16 pal nbc bitDepth (idx.get x y) c)
            = (Chan.ofFn idx.w idx.h fun x y => paletteValue 32 pal nbc bitDepth (idx.get x y) c) := by
          apply Chan.ofFn_congr
          intro i hi
          apply C12_paletteValue_narrow_eq_wide
          apply hbase
          unfold paletteBaseTrace
          exact List.mem_flatMap.mpr ⟨c, hc, List.mem_map.mpr ⟨i, List.mem_range.mpr hi, rfl⟩⟩
        rw [hbase]
        split
        · rename_i hany
          rw [if_pos hany] at hdelta
          exact C12_paletteDeltaPass_narrow_eq_wide _ _ _ _ fun v hv =>
            hdelta v (List.mem_flatMap.mpr ⟨c, hc, hv⟩)
        · rfl

/-- **Transform chain.** Any list of (resolved) transforms — RCT, palette incl. delta entries
with any predictor, squeeze with any parameters — on any channel list. -/
theorem C12_inverseAll_narrow_eq_wide (bitDepth : Nat) (wp : Wp) (ts : List Transform) (chans : List Chan)
    (h : ∀ v ∈ inverseAllTrace bitDepth wp ts chans, I16 v) :
    inverseAll 16 bitDepth wp ts chans = inverseAll 32 bitDepth wp ts chans := by
  unfold inverseAllTrace at h
  rw [List.forall_mem_append] at h
  exact foldl_congr_of_trace (inverseOne 16 bitDepth wp) (inverseOne 32 bitDepth wp) _
    (fun s t hst => inverseOne_narrow_eq_wide bitDepth wp s t (List.forall_mem_append.mp hst).1) _ _ h.2

/-- every listed value of the wide run of one Modular sub-image is an `i16`: decoded samples, then
the transform chain on the channels they give -/
def TruthfulSubimage (bitDepth : Nat) (tree : Tree) (wp : Wp) (stream : Nat) (infos : List ChanInfo)
    (ts : List Transform) (tokens : List Nat) : Prop :=
  (∀ v ∈ decodeChannelsWide tree wp stream infos 0 [] tokens, I16 v) ∧
  (∀ chans rest, decodeChannels 32 tree wp stream infos 0 [] tokens = some (chans, rest) →
    ∀ v ∈ inverseAllTrace bitDepth wp ts chans, I16 v)

/-- **Sub-image.** Tokens → samples → inverse transforms: a truthful sub-image decodes to the
same channels at both widths (and fails at both widths if it fails). -/
theorem C12_subimage_narrow_eq_wide (bitDepth : Nat) (tree : Tree) (wp : Wp) (stream : Nat)
    (infos : List ChanInfo) (ts : List Transform) (tokens : List Nat)
    (h : TruthfulSubimage bitDepth tree wp stream infos ts tokens) :
    (decodeChannels 16 tree wp stream infos 0 [] tokens).map (fun r => inverseAll 16 bitDepth wp ts r.1) =
    (decodeChannels 32 tree wp stream infos 0 [] tokens).map (fun r => inverseAll 32 bitDepth wp ts r.1) := by
  obtain ⟨h1, h2⟩ := h
  rw [C12_decodeChannels_narrow_eq_wide tree wp stream infos 0 [] tokens h1]
  apply Option.map_congr
  intro p hp
  exact C12_inverseAll_narrow_eq_wide bitDepth wp ts p.1 (h2 p.1 p.2 hp)

/-- **Frame, partial.** Every stream of a frame (LfGlobal and one per pass group; each with its
own stream index, channel list and tokens) decodes to the same channels at both widths when each
stream's wide samples are `i16`. -/
theorem C12_frame_narrow_eq_wide_partial (tree : Tree) (wp : Wp)
    (streams : List (Nat × List ChanInfo × List Nat))
    (h : ∀ s ∈ streams, ∀ v ∈ decodeChannelsWide tree wp s.1 s.2.1 0 [] s.2.2, I16 v) :
    streams.map (fun s => decodeChannels 16 tree wp s.1 s.2.1 0 [] s.2.2) =
    streams.map (fun s => decodeChannels 32 tree wp s.1 s.2.1 0 [] s.2.2) := by
  apply List.map_congr_left
  intro s hs
  exact C12_decodeChannels_narrow_eq_wide tree wp s.1 s.2.1 0 [] s.2.2 (h s hs)

/-
Not proved: the statement for a whole frame — LfGlobal stream plus one stream per pass group,
channels cut into group rectangles, decoded per group with `decodeChannels`, pasted back, then
`inverseAll`. The partition and the pasting (`groupPieceChans`, `pasteGroups`,
`Model/Enc/Frame.lean`) move samples without arithmetic and do not depend on `sb`, but the decoder
model has no frame-level function that composes them with `decodeChannels` and `inverseAll`; the
composition is checked by the differential run (multi-group images). `C12_subimage_narrow_eq_wide`
is the single-stream case, `C12_frame_narrow_eq_wide_partial` the per-stream part of the general
case, `C12_inverseAll_narrow_eq_wide` the transform chain on the pasted channels.
-/

/-! Non-vacuity: concrete 12-bit data -/

/-- a 12-bit line with full-range swings, squeezed by the reference encoder -/
def c12ExLine : List Int := [4095, 0, 4095, 4095, 17, 2048, 0, 0, 4095, 1, 3000]

example : (squeezeLine 32 c12ExLine) = ([2048, 4095, 1032, 0, 2048, 3000], [4096, 0, -3310, 0, 5015]) := by
  decide +kernel
example : allI16 (unsqueezeLineTrace (squeezeLine 32 c12ExLine).1 (squeezeLine 32 c12ExLine).2) = true := by
  decide +kernel
example : unsqueezeLine 16 (squeezeLine 32 c12ExLine).1 (squeezeLine 32 c12ExLine).2 = c12ExLine := by
  decide +kernel
example : unsqueezeLine 32 (squeezeLine 32 c12ExLine).1 (squeezeLine 32 c12ExLine).2 = c12ExLine := by
  decide +kernel

example : unsqueezeLineVec (squeezeLine 32 c12ExLine).1 (squeezeLine 32 c12ExLine).2 = c12ExLine := by
  decide +kernel
example : tendencyVec 4095 0 (-4095) = 2389 ∧ tendencyVec (-4095) 0 4095 = -2389 ∧
    tendencyVec 4095 (-4095) (-4095) = 0 ∧ tendencyVec 0 100 0 = 0 := by decide

/-- chroma-like values after an RCT (`|v| ≤ 4095`), extreme monotone run: numerator 32766 -/
example : tendencyNum 4095 (-4095) (-4095) = 32766 ∧ I16 (tendencyNum 4095 (-4095) (-4095)) := by decide
example : tendency 16 4095 (-4095) (-4095) = 0 ∧ tendency 32 4095 (-4095) (-4095) = 0 := by decide
example : tendency 16 4095 0 (-4095) = tendency 32 4095 0 (-4095) ∧ tendency 32 4095 0 (-4095) = 2389 := by decide

/-- 12-bit RGB through the forward YCoCg-style RCT (type 6) and back at both widths -/
example : rctFwdSample 6 4095 0 4095 = (2047, 0, -4095) := by decide
example : allI16 (rctTrace 6 2047 0 (-4095)) = true := by decide
example : rctInvSample 16 6 2047 0 (-4095) = (4095, 0, 4095) ∧
    rctInvSample 32 6 2047 0 (-4095) = (4095, 0, 4095) := by decide
example : allI16 (rctTrace 4 4095 (-2000) 4095) = true ∧
    rctInvSample 16 4 4095 (-2000) 4095 = rctInvSample 32 4 4095 (-2000) 4095 := by decide

/-- outside the hypothesis the two widths do differ (so the theorems are not about nothing):
type 4 halves `a + f = 40000` -/
example : allI16 (rctTrace 4 20000 0 20000) = false ∧
    rctInvSample 16 4 20000 0 20000 ≠ rctInvSample 32 4 20000 0 20000 := by decide

/-- a 12-bit channel, a tree with the gradient and the weighted predictor, narrow = wide -/
def c12ExTree : Tree :=
  .dec 9 3 (.leaf { ctx := 0, pred := 5, offset := 0, mul := 1 })
    (.dec 3 1 (.leaf { ctx := 1, pred := 6, offset := 1, mul := 1 })
              (.leaf { ctx := 2, pred := 13, offset := 0, mul := 1 }))

def c12ExChan : Chan := { w := 4, h := 3, data := #[4095, 9, 2000, 7, 0, 4095, 13, 13, 900, 4091, 4092, 1] }

def c12ExInfo : ChanInfo := { w := 4, h := 3, hshift := 0, vshift := 0 }

def c12ExToks : List Nat := ((encodeChannel 16 c12ExTree {} 0 0 c12ExChan []).getD []).map (·.2)

theorem c12ExToks_eq :
    c12ExToks = [8190, 8171, 3982, 3985, 8189, 7434, 8163, 10, 1286, 7, 8158, 8181] := by
  decide +kernel

example : c12ExToks.length = 12 := by
  rw [c12ExToks_eq]
  rfl
example : allI16 (decodeChannelsWide c12ExTree {} 0 [c12ExInfo] 0 [] c12ExToks) = true := by
  rw [c12ExToks_eq]
  decide +kernel
example : (decodeChannels 16 c12ExTree {} 0 [c12ExInfo] 0 [] c12ExToks).map (·.1.map (·.data.toList)) =
    some [c12ExChan.data.toList] := by
  rw [c12ExToks_eq]
  decide +kernel
example : (decodeChannels 32 c12ExTree {} 0 [c12ExInfo] 0 [] c12ExToks).map (·.1.map (·.data.toList)) =
    some [c12ExChan.data.toList] := by
  rw [c12ExToks_eq]
  decide +kernel

/-- an RCT (type 6) and one horizontal squeeze step of all three channels, on 12-bit data, are
within the hypothesis -/
def c12ExRgb : List Chan := [
  { w := 4, h := 2, data := #[4095, 0, 4095, 4095, 17, 2048, 0, 0] },
  { w := 4, h := 2, data := #[0, 4095, 1, 3000, 4095, 4095, 0, 1] },
  { w := 4, h := 2, data := #[4095, 4095, 0, 0, 1, 2, 4095, 0] }]

def c12ExTs : List Transform :=
  [.rct 0 6, .squeeze [{ horizontal := true, inPlace := true, beginC := 0, numC := 3 }]]

def c12ExCoded : List Chan := (forwardAll 32 c12ExTs [] c12ExRgb).getD []

example : c12ExCoded.length = 6 := by decide +kernel
example : allI16 (inverseAllTrace 12 {} c12ExTs c12ExCoded) = true := by decide +kernel
example : (inverseAll 16 12 {} c12ExTs c12ExCoded).map (·.data.toList) = c12ExRgb.map (·.data.toList) := by
  decide +kernel
example : (inverseAll 32 12 {} c12ExTs c12ExCoded).map (·.data.toList) = c12ExRgb.map (·.data.toList) := by
  decide +kernel

end Jxl.Modular
