import JxlModel.Proofs.Bundle
import JxlModel.Proofs.Headers
import JxlModel.Proofs.F16
import JxlModel.Model.Headers
import JxlModel.Gen.Headers
/-!
# C14 — image header, frame header and table of contents are reported exactly as encoded,
and parsing stops at exactly the bit the writer stopped at

* `C14_bundle_roundtrip` is ONE theorem over every header description (`Bundle`), every context,
  every canonical value, every selector choice of the writer and every continuation of the stream.
  It is instantiated below at the pinned descriptions of all `define_bundle!` structs, at the
  hand-modelled parsers and at the image header / frame header / TOC.
* `C14_generated_matches_pinned` ties the descriptions to the current Rust source:
  `tools/translate.py` regenerates `Gen/Headers.lean` on every run and the kernel re-checks that it
  equals the pinned descriptions the executable model (and the differential run) is built from.
-/
namespace Jxl.Headers
open Jxl Jxl.Bundle

theorem C14_generated_matches_pinned : Gen.allBundles = Pinned.allBundles := rfl

/-- enum discriminants, `TryFrom<u32>` domains, float tables, the primitive reads (incl. every
`U32` distribution) and the source hashes of all hand-modelled functions are the pinned ones -/
theorem C14_generated_tables_match_pinned :
    Gen.enums = Pinned.enums ∧ Gen.tryFrom = Pinned.tryFrom ∧ Gen.floatConsts = Pinned.floatConsts ∧
    Gen.handPrims = Pinned.handPrims ∧ Gen.handHashes = Pinned.handHashes ∧
    Gen.helperHashes = Pinned.helperHashes := ⟨rfl, rfl, rfl, rfl, rfl, rfl⟩

/-- what the hand-written model assumes about the hand-written Rust parsers is what the
translator extracts: the primitive reads in source order, the enum domains, the float tables,
and `Customxy` (needed before the generated file) -/
theorem C14_hand_model_matches_source :
    (Parts.expectedPrims.all fun kp => Gen.handPrims.contains kp) = true ∧
    Gen.tryFrom = Parts.expectedTryFrom ∧ Gen.floatConsts = Parts.expectedFloatConsts ∧
    Gen.Customxy = Parts.customxyFields :=
  ⟨by decide +kernel, rfl, rfl, rfl⟩

theorem C14_u32_all_selectors (d0 d1 d2 d3 : Dist) (k v : Nat) (rest : Bits) (hk : k < 4)
    (hw : (selDist d0 d1 d2 d3 k).canWrite v = true) :
    readU32 d0 d1 d2 d3 (writeU32With d0 d1 d2 d3 k v ++ rest) = .ok (v, rest) :=
  readU32_writeU32With d0 d1 d2 d3 k v rest hk hw

example : (selDist (.const 0) (.bits 1 4) (.bits 9 6) (.bits 41 8) 3).canWrite 41 = true := by decide
example : (selDist (.bits 1 9) (.bits 1 13) (.bits 1 18) (.bits 1 30) 3).canWrite (2 ^ 30) = true := by decide

/-- `U64`: all forms — selector 0, 1, 2, selector 3 with 0..6 continuation groups (form `3+g`) and
the longest form with the 4-bit tail (form 10, reaches 2^64 − 1) -/
theorem C14_u64_all_forms (form v : Nat) (rest : Bits) (h : u64CanWrite form v = true) :
    readU64 (writeU64With form v ++ rest) = .ok (v, rest) :=
  readU64_writeU64With form v rest h

example : u64CanWrite 10 (2 ^ 64 - 1) = true := by decide
example : (writeU64With 10 (2 ^ 64 - 1)).length = 73 := by decide
example : u64CanWrite 9 0 = true ∧ u64CanWrite 3 4095 = true ∧ u64CanWrite 5 (2 ^ 28 - 1) = true := by decide

theorem C14_f16_bits_roundtrip (b : Nat) (rest : Bits) (sc : Env) (total : Nat) (h : f16Valid b = true) :
    parseTy total sc .f16 (toBits 16 b ++ rest) = .ok (.f16 b, rest) := by
  have hlt : b < 2 ^ 16 := by simp [f16Valid] at h; exact h.1
  simp [parseTy, rd_toBits 16 b rest hlt, h]

/-- NaN and Infinity patterns are rejected (`InvalidFloat`) -/
theorem C14_f16_rejects_nonfinite (b : Nat) (rest : Bits) (sc : Env) (total : Nat) (hb : b < 2 ^ 16)
    (h : f16Valid b = false) :
    parseTy total sc .f16 (toBits 16 b ++ rest) = .error (.invalid "float") := by
  simp [parseTy, rd_toBits 16 b rest hb, h]

example : f16Valid 0x0001 = true ∧ f16Valid 0x83ff = true ∧ f16Valid 0x7bff = true ∧
    f16Valid 0x7c00 = false ∧ f16Valid 0xfe01 = false := by decide

/-- `F16` → `f32`, the value: for every finite binary16 pattern `b`, the binary32 pattern the
decoder reports (`f16ToF32Bits`, the integer transcription of `read_f16_as_f32`) denotes the same
real number. Both sides are read by the IEEE-754 field definition as integer multiples of a power
of two — `f16Scaled b · 2^-24` and `f32Scaled x · 2^-149` — so equality of the numbers is
`f32Scaled x = f16Scaled b · 2^125`. -/
theorem C14_f16_value_exact (b : Nat) (h : f16Valid b = true) :
    f32Scaled (f16ToF32Bits b) = f16Scaled b * 2 ^ 125 ∧
      f16ToF32Bits b / 0x800000 % 256 ≠ 255 ∧ f16ToF32Bits b < 2 ^ 32 :=
  f16_value_exact b h

-- smallest subnormal 2^-24, largest negative subnormal, 1.0, −0, most negative finite value
example : f16ToF32Bits 0x0001 = 0x33800000 ∧ f32Scaled 0x33800000 = 2 ^ 125 ∧ f16Scaled 0x0001 = 1 := by decide
example : f16ToF32Bits 0x83ff = 0xb87fc000 ∧ f16Scaled 0x83ff = -1023 ∧
    f16ToF32Bits 0x3c00 = 0x3f800000 ∧ f16Scaled 0x3c00 = 2 ^ 24 ∧
    f16ToF32Bits 0x8000 = 0x80000000 ∧ f16ToF32Bits 0xfbff = 0xc77fe000 ∧
    f16Scaled 0xfbff = -(65504 * 2 ^ 24) := by decide

theorem C14_f16_value_injective_up_to_zero (a b : Nat) (ha : f16Valid a = true)
    (hb : f16Valid b = true) (hab : f32Scaled (f16ToF32Bits a) = f32Scaled (f16ToF32Bits b)) :
    a = b ∨ (a % 32768 = 0 ∧ b % 32768 = 0) := by
  rw [(f16_value_exact a ha).1, (f16_value_exact b hb).1] at hab
  exact f16Scaled_injective_up_to_zero a b ha hb
    (Int.eq_of_mul_eq_mul_right (by decide) hab)

example : f32Scaled (f16ToF32Bits 0x0000) = f32Scaled (f16ToF32Bits 0x8000) ∧ 0x8000 % 32768 = 0 := by decide

/-- `+0 = 0x0000 ↦ 0x00000000` and `−0 = 0x8000 ↦ 0x80000000` stay apart: the only two patterns with
equal value -/
theorem C14_f16_conversion_injective_up_to_zero (a b : Nat) (ha : f16Valid a = true)
    (hb : f16Valid b = true) (hab : f16ToF32Bits a = f16ToF32Bits b) : a = b := by
  rcases C14_f16_value_injective_up_to_zero a b ha hb (by rw [hab]) with h | ⟨ha0, hb0⟩
  · exact h
  · simp only [f16Valid, Bool.and_eq_true, decide_eq_true_eq] at ha hb
    have zero : ∀ v, v < 65536 → v % 32768 = 0 → f16ToF32Bits v = v / 0x8000 % 2 * 2147483648 := by
      intro v hv h0
      have he : v / 1024 % 32 = 0 := by omega
      have hm : v % 1024 = 0 := by omega
      simp [f16ToF32Bits, he, hm]
    rw [zero a ha.1 ha0, zero b hb.1 hb0] at hab
    omega

example : f16Valid 0x0000 = true ∧ f16Valid 0x8000 = true ∧ f16ToF32Bits 0x0000 ≠ f16ToF32Bits 0x8000 ∧
    f16Scaled 0x0000 = f16Scaled 0x8000 := by decide

/-- `read_enum`; outside the domain: `InvalidEnum` -/
theorem C14_enum_roundtrip (valid : List Nat) (k v : Nat) (rest : Bits) (sc : Env) (total : Nat)
    (hk : k < 4) (hw : (selDist enumD0 enumD1 enumD2 enumD3 k).canWrite v = true) :
    parseTy total sc (.enum valid) (writeU32With enumD0 enumD1 enumD2 enumD3 k v ++ rest) =
      if valid.contains v then .ok (.nat v, rest) else .error (.invalid "enum") := by
  simp only [FieldTy.enum, parseTy, readU32_writeU32With _ _ _ _ k v rest hk hw]

theorem C14_unpack_signed_inv : (∀ i : Int, unpackSigned (packSigned i) = i) ∧
    (∀ x : Nat, packSigned (unpackSigned x) = x) := by
  refine ⟨unpack_pack, fun x => ?_⟩
  unfold unpackSigned packSigned
  simp only [Int.ofNat_eq_natCast, beq_iff_eq]
  split <;> split <;> omega

example : unpackSigned 0 = 0 ∧ unpackSigned 1 = -1 ∧ unpackSigned 2 = 1 ∧
    unpackSigned (2 ^ 32 - 1) = -(2 ^ 31) := by decide

/-- `Canonical`: `env` lists exactly the fields of `desc`, fields whose condition is false hold their
default, nested values likewise. `hw`: every present field is a value of its type. `choice`: the
selector choices of the writer. -/
theorem C14_bundle_roundtrip (desc : Bundle) (ctx env : Env) (choice : Nat → Nat) (pos : Nat)
    (bits rest : Bits) (hc : Canonical desc ctx env) (hw : writeAt desc choice ctx pos env = some bits) :
    parseAt desc ctx pos (bits ++ rest) = .ok (env, rest) := by
  have := parseFields_writeFields choice desc ctx [] pos env bits rest
    (pos + (bits ++ rest).length) hc hw (by simp [List.length_append]; omega)
  simpa [parseAt] using this

theorem C14_parse_stops_at_writer_bit (desc : Bundle) (ctx env : Env) (choice : Nat → Nat) (pos : Nat)
    (bits rest : Bits) (hc : Canonical desc ctx env) (hw : writeAt desc choice ctx pos env = some bits) :
    ∃ env' rest', parseAt desc ctx pos (bits ++ rest) = .ok (env', rest') ∧ rest' = rest ∧
      (bits ++ rest).length - rest'.length = bits.length :=
  ⟨env, rest, C14_bundle_roundtrip desc ctx env choice pos bits rest hc hw, rfl, by simp⟩

theorem C14_type_roundtrip (t : FieldTy) (sc : Env) (v : Val) (choice : Nat → Nat) (pos : Nat)
    (bits rest : Bits) (hc : canonicalTy sc t v = true) (hw : writeTy choice sc t pos v = some bits) :
    parseTy (pos + (bits ++ rest).length) sc t (bits ++ rest) = .ok (v, rest) :=
  parseTy_writeTy choice t sc pos v bits rest _ hc hw (by simp [List.length_append]; omega)

theorem C14_image_header_roundtrip (img : Env) (choice : Nat → Nat) (bits rest : Bits)
    (hc : Canonical imageHeaderDesc [] img) (hw : writeImageHeader choice img = some bits) :
    parseImageHeader (bits ++ rest) = .ok (img, rest) :=
  C14_bundle_roundtrip imageHeaderDesc [] img choice 0 bits rest hc hw

theorem C14_frame_header_roundtrip (img fh : Env) (choice : Nat → Nat) (bits rest : Bits)
    (hc : Canonical Pinned.FrameHeader (frameCtx img) fh) (hw : writeFrameHeader choice img fh = some bits) :
    parseFrameHeader img (bits ++ rest) = .ok (fh, rest) :=
  C14_bundle_roundtrip Pinned.FrameHeader (frameCtx img) fh choice 0 bits rest hc hw

/-- table of contents without permutation (flag, padding, sizes, padding), at any bit position -/
theorem C14_toc_plain_roundtrip (n : Nat) (t : Env) (choice : Nat → Nat) (pos : Nat) (bits rest : Bits)
    (hc : Canonical tocPlain [("entry_count", .nat n)] t)
    (hw : writeAt tocPlain choice [("entry_count", .nat n)] pos t = some bits) :
    parseAt tocPlain [("entry_count", .nat n)] pos (bits ++ rest) = .ok (t, rest) :=
  C14_bundle_roundtrip tocPlain _ t choice pos bits rest hc hw

/-- table of contents **with** permutation (`Toc::parse`): flag, entropy-coded Lehmer code, padding,
sizes, padding. The entropy coder is a parameter: `hdec` is exactly C04's round-trip theorem for the
stream written by `encodePermutation`. `writeToc` succeeds only if `entry_count ≤ 65536` and every
size is a value of the size distribution. -/
theorem C14_toc_permuted_roundtrip (dec : PermDecoder) (choice : Nat → Nat)
    (pos numGroups numLfGroups : Nat) (sizes lehmer : List Nat) (enc bits rest : Bits)
    (hdec : ∀ r, dec sizes.length (enc ++ r) = .ok (lehmer, r))
    (hw : writeToc choice pos sizes (some enc) = some bits) :
    parseToc dec (pos + (bits ++ rest).length) numGroups numLfGroups sizes.length (bits ++ rest) =
      .ok ({ entryCount := sizes.length, numLfGroups := numLfGroups, numGroups := numGroups,
             permuted := true, perm := lehmerToPerm sizes.length lehmer, sizes := sizes,
             base := (pos + bits.length) / 8 }, rest) :=
  parseToc_writeToc_permuted dec choice pos numGroups numLfGroups sizes lehmer enc bits rest hdec hw

-- the coder hypothesis is satisfiable: the hand-made trivial code (`trivialPermDecoder`, the one the
-- differential run uses) on the stream `trivialPermWrite 5 [0, 1, 2, 3] [3, 0, 2]`
example : trivialPermWrite 5 [0, 1, 2, 3] [3, 0, 2] = some demoPermBits ∧
    (∀ r, trivialPermDecoder 5 (demoPermBits ++ r) = .ok ([3, 0, 2], r)) ∧
    lehmerValid 5 [3, 0, 2] = true :=
  ⟨demoPermBits_eq, trivialPermDecoder_demo, by decide⟩

-- with it: 5 sections with sizes from all four selectors, TOC starting at bit 3
example : (writeToc (fun p => p) 3 [10, 2000, 0, 5000000, 70000] (some demoPermBits)).isSome = true := by
  decide +kernel

example (bits rest : Bits)
    (hw : writeToc (fun p => p) 3 [10, 2000, 0, 5000000, 70000] (some demoPermBits) = some bits) :
    parseToc trivialPermDecoder (3 + (bits ++ rest).length) 2 1 5 (bits ++ rest) =
      .ok ({ entryCount := 5, numLfGroups := 1, numGroups := 2, permuted := true,
             perm := [3, 0, 4, 1, 2], sizes := [10, 2000, 0, 5000000, 70000],
             base := (3 + bits.length) / 8 }, rest) :=
  C14_toc_permuted_roundtrip trivialPermDecoder _ 3 2 1 [10, 2000, 0, 5000000, 70000] [3, 0, 2]
    demoPermBits bits rest trivialPermDecoder_demo hw

/-- `SizeHeader`, and `PreviewHeader`, which shares `compute_default_width`; `2^30` is the largest
coded height -/
theorem C14_size_header_dims (d : Bool) (a h r b : Nat) (hr : r < 8) (hh : h ≤ 2 ^ 30) (hb : b ≤ 2 ^ 20) :
    (evalBool [("div8", .bool d)] (fieldCond Pinned.SizeHeader 1) = some d ∧
     evalBool [("div8", .bool d), ("h_div8", .nat a)] (fieldCond Pinned.SizeHeader 2) = some (!d) ∧
     evalBool (sizeScope d a h r b) (fieldCond Pinned.SizeHeader 4) = some (d && r == 0) ∧
     evalBool (sizeScope d a h r b) (fieldCond Pinned.SizeHeader 5) = some (!d && r == 0)) ∧
    -- values of the fields that are not coded
    eval [("div8", .bool d), ("h_div8", .nat a)] (fieldDefault Pinned.SizeHeader 2) = some (.nat (8 * a)) ∧
    eval (sizeScope d a h r b) (fieldDefault Pinned.SizeHeader 5) = some (.nat (specDefaultWidth r b h)) ∧
    -- the preview size uses the very same expressions
    fieldDefault Pinned.PreviewHeader 5 = fieldDefault Pinned.SizeHeader 5 ∧
    fieldDefault Pinned.PreviewHeader 2 = fieldDefault Pinned.SizeHeader 2 :=
  ⟨sizeHeader_conds d a h r b, sizeHeader_height_default d a, sizeHeader_width_default d a h r b hr hh hb, rfl, rfl⟩

example : specDefaultWidth 5 0 1080 = 1920 ∧ specDefaultWidth 3 0 768 = 1024 ∧ specDefaultWidth 0 32 7 = 256 ∧
    specDefaultWidth 7 0 (2 ^ 30) = 2 ^ 31 := by decide

/-- end to end through writer and parser, exhaustively for the div8 forms -/
example : (List.range 32).all (fun a => (List.range 8).all fun r => [1, 17, 32].all fun b =>
    match canon Pinned.SizeHeader [] [("div8", .bool true), ("h_div8", .nat (a + 1)), ("ratio", .nat r), ("w_div8", .nat b)] with
    | some e =>
      match write Pinned.SizeHeader (fun p => p) [] e with
      | some bits =>
        match parse Pinned.SizeHeader [] (bits ++ [true, false]) with
        | .ok (e', rest) => rest == [true, false] &&
            (Val.record e').get "height" == .nat (8 * (a + 1)) &&
            (Val.record e').get "width" == .nat (specDefaultWidth r b (8 * (a + 1)))
        | .error _ => false
      | none => false
    | none => false) = true := by decide +kernel

/-- `width()/height()`: the sides are swapped exactly for orientations 5..8 -/
theorem C14_oriented_dims (o w h : Nat) :
    (5 ≤ o → orientedDims o w h = (h, w)) ∧ (o < 5 → orientedDims o w h = (w, h)) := by
  unfold orientedDims
  constructor <;> intro h' <;> simp <;> omega

/-- TOC: section offsets (bitstream order) are the prefix sums of the sizes, starting at the end
of the TOC -/
theorem C14_toc_offsets (t : TocVal) :
    t.offsets.length = t.sizes.length ∧
    ∀ i, i < t.sizes.length → t.offsets.getD i 0 = t.base + (t.sizes.take i).sum :=
  ⟨prefixSums_length _ _, fun i hi => prefixSums_getD t.sizes t.base i hi⟩

/-- TOC: a Lehmer code accepted by `read_permutation` decodes to a permutation `perm` of the
sections, and `bitstream_to_original` is its inverse: the section with original index `j` sits in
bitstream slot `perm[j]` (`group_index_bitstream_order`), and slot `perm[j]` maps back to `j` -/
theorem C14_toc_permutation_inverse (size : Nat) (lehmer : List Nat) (hv : lehmerValid size lehmer = true) :
    let perm := lehmerToPerm size lehmer
    perm.Perm (List.range size) ∧
    ∀ j (hj : j < perm.length), (invPerm perm)[perm[j]]? = some j := by
  intro perm
  have hp : perm.Perm (List.range size) := lehmerToPerm_perm size lehmer hv
  refine ⟨hp, fun j hj => ?_⟩
  have hlen : perm.length = size := by simpa using hp.length_eq
  exact invPerm_spec perm (hp.nodup_iff.mpr List.nodup_range)
    (fun x hx => by rw [hlen]; exact List.mem_range.mp (hp.mem_iff.mp hx)) j hj

example : lehmerValid 5 [3, 0, 2] = true ∧ lehmerToPerm 5 [3, 0, 2] = [3, 0, 4, 1, 2] ∧
    invPerm [3, 0, 4, 1, 2] = [1, 3, 4, 0, 2] := by decide

theorem C14_toc_permuted_order (dec : PermDecoder) (choice : Nat → Nat)
    (pos numGroups numLfGroups : Nat) (sizes lehmer : List Nat) (enc bits rest : Bits)
    (hdec : ∀ r, dec sizes.length (enc ++ r) = .ok (lehmer, r))
    (hw : writeToc choice pos sizes (some enc) = some bits)
    (hv : lehmerValid sizes.length lehmer = true) :
    ∃ t, parseToc dec (pos + (bits ++ rest).length) numGroups numLfGroups sizes.length (bits ++ rest) =
        .ok (t, rest) ∧ t.sizes = sizes ∧ t.perm.Perm (List.range sizes.length) ∧
      ∀ j (hj : j < t.perm.length), t.bitstreamToOriginal[t.perm[j]]? = some j :=
  ⟨_, C14_toc_permuted_roundtrip dec choice pos numGroups numLfGroups sizes lehmer enc bits rest hdec hw,
    rfl, (C14_toc_permutation_inverse sizes.length lehmer hv).1,
    (C14_toc_permutation_inverse sizes.length lehmer hv).2⟩

/-! ## the code's description against the format

Everything above is about the descriptions extracted from the code. Whether a description is the
one the *format* defines is a matter of reading the standard; for `PreviewHeader`, where the code
once deviated (finding `c14:preview-ratio`), the two are compared: -/

/-- `PreviewHeader` as the format defines it (`Spec.previewHeader`: `w_div8`/`width` only when
`ratio == 0`, the shape of `SizeHeader`) **is** the description extracted from the code — since the
repair of finding `c14:preview-ratio` (before it, the code read a `width` that a conformant writer
never wrote for `ratio != 0`: the 14-bit string "not div8, height 100, ratio 1:1" ran into EOF). -/
theorem C14_preview_header_matches_format : Spec.previewHeader = Pinned.PreviewHeader := by
  rfl

/-- the witness of finding `c14:preview-ratio` parses as the format says: preview 100×100, nothing
left over -/
theorem C14_preview_header_ratio_witness :
    let bits : Bits := [false] ++ toBits 2 1 ++ toBits 8 35 ++ toBits 3 1
    (match parse Pinned.PreviewHeader [] bits with
      | .ok (e, r) => r.isEmpty && (Val.record e).get "height" == .nat 100 && (Val.record e).get "width" == .nat 100
      | .error _ => false) = true := by
  decide +kernel

/-! ## non-vacuity: every description has canonical, writable values with its optional parts present

`witness desc ctx raw k`: the canonical completion of `raw` is `Canonical`, the writer succeeds on
it, and `k` of the top-level fields are present (condition true). Evaluated by the kernel. -/

def rawMeta : Env := [
  ("all_default", .bool false), ("extra_fields", .bool true), ("orientation", .nat 8),
  ("have_intr_size", .bool true),
  ("intrinsic_size", .record [("div8", .bool false), ("height", .nat 100), ("ratio", .nat 3)]),
  ("have_preview", .bool true),
  ("preview", .record [("div8", .bool true), ("h_div8", .nat 16), ("ratio", .nat 1), ("w_div8", .nat 32)]),
  ("have_animation", .bool true),
  ("animation", .record [("tps_numerator", .nat 1000), ("tps_denominator", .nat 1001), ("num_loops", .nat 7),
    ("have_timecodes", .bool true)]),
  ("bit_depth", .record [("float_sample", .bool true), ("fbits", .nat 32), ("exp_bits", .nat 8)]),
  ("modular_16bit_buffers", .bool false),
  ("num_extra", .nat 3),
  ("ec_info", .list [.record [("default_alpha_channel", .bool true)],
    .record [("default_alpha_channel", .bool false), ("ty", .nat 2),
      ("bit_depth", .record [("float_sample", .bool false), ("ibits", .nat 16)]), ("dim_shift", .nat 3),
      ("name", .record [("len", .nat 2), ("data", .list [.nat 0xc3, .nat 0xa9])]),
      ("spot", .list [.f16 0x3c00, .f16 0x0001, .f16 0x8000, .f16 0x7bff])],
    .record [("default_alpha_channel", .bool false), ("ty", .nat 5),
      ("bit_depth", .record [("float_sample", .bool false), ("ibits", .nat 8)]), ("dim_shift", .nat 0),
      ("name", .record [("len", .nat 0)]), ("cfa_channel", .nat 274)]]),
  ("xyb_encoded", .bool true),
  ("colour_encoding", .record [("all_default", .bool false), ("want_icc", .bool false), ("colour_space", .nat 0),
    ("white_point", .record [("disc", .nat 2), ("custom", .record [("x", .int (-5)), ("y", .int 2097151)])]),
    ("primaries", .record [("disc", .nat 2), ("red", .record [("x", .int 1), ("y", .int 2)]),
      ("green", .record [("x", .int 3), ("y", .int (-4))]), ("blue", .record [("x", .int 524288), ("y", .int 0)])]),
    ("tf", .record [("has_gamma", .bool true), ("gamma", .nat 4545455)]), ("rendering_intent", .nat 3)]),
  ("tone_mapping", .record [("all_default", .bool false), ("intensity_target", .f16 0x5bd0), ("min_nits", .f16 0x0001),
    ("relative_to_max_display", .bool true), ("linear_below", .f16 0x3c00)]),
  ("extensions", .record [("extension_bits", .nat 5), ("lens", .list [.nat 3, .nat 17])]),
  ("default_m", .bool false),
  ("opsin_inverse_matrix", .record [("all_default", .bool false), ("inv_mat", .list [.list [.f16 1, .f16 2, .f16 3]]),
    ("opsin_bias", .list [.f16 4]), ("quant_bias", .list [.f16 5]), ("quant_bias_numerator", .f16 6)]),
  ("cw_mask", .nat 7),
  ("up2_weight", .list [.f16 0x3c00, .f16 0x8001]), ("up4_weight", .list [.f16 0x1234]),
  ("up8_weight", .list [.f16 0x0400, .f16 0xfbff])]

def rawImage (xyb : Bool) (cs : Nat) : Env :=
  [("size", .record [("div8", .bool false), ("height", .nat 600), ("ratio", .nat 5)]),
   ("metadata", .record (rawMeta.map fun kv =>
      if kv.1 == "xyb_encoded" then (kv.1, .bool xyb)
      else if kv.1 == "colour_encoding" && cs != 0 then
        (kv.1, .record [("all_default", .bool false), ("want_icc", .bool false), ("colour_space", .nat cs),
          ("white_point", .record [("disc", .nat 10)]), ("tf", .record [("has_gamma", .bool false), ("tf", .nat 8)]),
          ("rendering_intent", .nat 0)])
      else kv))]

-- all 6 SizeHeader fields exist; each variant reads 3 or 4 of them
example : witness Pinned.SizeHeader [] [("div8", .bool true), ("h_div8", .nat 32), ("ratio", .nat 0), ("w_div8", .nat 1)] 4 = true := by decide +kernel
example : witness Pinned.SizeHeader [] [("div8", .bool false), ("height", .nat 1073741824), ("ratio", .nat 0), ("width", .nat 300)] 4 = true := by decide +kernel
example : witness Pinned.SizeHeader [] [("div8", .bool false), ("height", .nat 262145), ("ratio", .nat 7)] 3 = true := by decide +kernel
example : witness Pinned.PreviewHeader [] [("div8", .bool true), ("h_div8", .nat 541), ("ratio", .nat 2)] 3 = true := by decide +kernel
example : witness Pinned.PreviewHeader [] [("div8", .bool true), ("h_div8", .nat 541), ("ratio", .nat 0), ("w_div8", .nat 33)] 4 = true := by decide +kernel
example : witness Pinned.PreviewHeader [] [("div8", .bool false), ("height", .nat 5440), ("ratio", .nat 0), ("width", .nat 65)] 4 = true := by decide +kernel
example : witness Pinned.AnimationHeader [] [("tps_numerator", .nat 1073741824), ("tps_denominator", .nat 1024), ("num_loops", .nat 4294967295), ("have_timecodes", .bool true)] 4 = true := by decide +kernel
example : witness Pinned.Customxy [] [("x", .int (-1048576)), ("y", .int 2097151)] 2 = true := by decide +kernel
example : witness Pinned.ToneMapping [] [("all_default", .bool false), ("intensity_target", .f16 0x7bff), ("min_nits", .f16 0x8001), ("relative_to_max_display", .bool true), ("linear_below", .f16 0x03ff)] 5 = true := by decide +kernel
example : witness Pinned.OpsinInverseMatrix [] [("all_default", .bool false), ("inv_mat", .list [.list [.f16 1, .f16 0x8002, .f16 3]]), ("opsin_bias", .list [.f16 4]), ("quant_bias", .list [.f16 5]), ("quant_bias_numerator", .f16 6)] 5 = true := by decide +kernel
-- ImageMetadata with every one of its 23 fields present (intrinsic size, preview, animation, float
-- samples, three extra channels, custom colour encoding, tone mapping, extensions, opsin matrix,
-- all three upsampling weight tables)
example : witness Pinned.ImageMetadata [] rawMeta 23 = true := by decide +kernel
example : witness imageHeaderDesc [] (("signature", .nat 0xaff) :: rawImage true 0) 8 = true := by decide +kernel
example : witness Pinned.Passes [] [("num_passes", .nat 11), ("num_ds", .nat 4), ("shift", .list [.nat 3, .nat 0, .nat 1]), ("downsample", .list [.nat 8, .nat 4, .nat 2]), ("last_pass", .list [.nat 0, .nat 7])] 5 = true := by decide +kernel
example : witness Pinned.RestorationFilter [("encoding", .nat 0)] [("all_default", .bool false),
    ("gab", .record [("enabled", .bool true), ("custom", .bool true), ("w0", .list [.f16 0x3000, .f16 0x2000]), ("w1", .list [.f16 0xb400, .f16 1]), ("w2", .list [.f16 0, .f16 0])]),
    ("epf", .record [("iters", .nat 3), ("sharp_custom", .bool true), ("sharp_lut", .list [.f16 1, .f16 2]), ("weight_custom", .bool true), ("channel_scale", .list [.f16 3]), ("_ignored", .nat 4294967295), ("sigma_custom", .bool true), ("quant_mul", .f16 5), ("pass0_sigma_scale", .f16 6), ("pass2_sigma_scale", .f16 7), ("border_sad_mul", .f16 8)]),
    ("extensions", .record [("extension_bits", .nat 9223372036854775808), ("lens", .list [.nat 2])])] 4 = true := by decide +kernel
example : witness Pinned.RestorationFilter [("encoding", .nat 1)] [("all_default", .bool false),
    ("gab", .record [("enabled", .bool false)]),
    ("epf", .record [("iters", .nat 1), ("weight_custom", .bool false), ("sigma_custom", .bool true), ("pass0_sigma_scale", .f16 6), ("pass2_sigma_scale", .f16 7), ("border_sad_mul", .f16 8), ("sigma_for_modular", .f16 0x0001)]),
    ("extensions", .record [("extension_bits", .nat 0)])] 4 = true := by decide +kernel
-- BlendingInfo in the context of a cropped frame with extra channels: all four fields present
example : witness Pinned.BlendingInfo [("context", .list [.bool true, .none, .record [("have_crop", .bool true), ("x0", .int 5), ("y0", .int 0), ("width", .nat 10), ("height", .nat 10), ("size", .record [("width", .nat 100), ("height", .nat 100)])]])]
    [("mode", .nat 3), ("alpha_channel", .nat 10), ("clamp", .bool true), ("source", .nat 3)] 4 = true := by decide +kernel

/-- raw frame header: regular frame, Modular, crop, two passes, blend, named, custom filter -/
def rawFrameA : Env := [
  ("all_default", .bool false), ("frame_type", .nat 0), ("encoding", .nat 1), ("flags", .nat 1099511627776),
  ("do_ycbcr", .bool false), ("upsampling", .nat 4), ("ec_upsampling", .list [.nat 1, .nat 8, .nat 2]),
  ("group_size_shift", .nat 3),
  ("passes", .record [("num_passes", .nat 3), ("num_ds", .nat 1), ("shift", .list [.nat 2]), ("downsample", .list [.nat 4]), ("last_pass", .list [.nat 1])]),
  ("have_crop", .bool true), ("x0", .int (-1152)), ("y0", .int 9344), ("width", .nat 18688), ("height", .nat 255),
  ("blending_info", .record [("mode", .nat 2), ("alpha_channel", .nat 1), ("clamp", .bool true), ("source", .nat 2)]),
  ("ec_blending_info", .list [.record [("mode", .nat 4), ("clamp", .bool false), ("source", .nat 1)],
     .record [("mode", .nat 0), ("source", .nat 3)]]),
  ("duration", .nat 4294967295), ("timecode", .nat 305419896), ("is_last", .bool false),
  ("save_as_reference", .nat 3),
  ("name", .record [("len", .nat 3), ("data", .list [.nat 0xe4, .nat 0xb8, .nat 0xad])]),
  ("restoration_filter", .record [("all_default", .bool false), ("gab", .record [("enabled", .bool true), ("custom", .bool false)]),
     ("epf", .record [("iters", .nat 0)]), ("extensions", .record [("extension_bits", .nat 0)])]),
  ("extensions", .record [("extension_bits", .nat 2), ("lens", .list [.nat 9])])]

def witnessFrame (img fh : Env) (k : Nat) : Bool :=
  match mkImageHeader img with
  | some i => witness Pinned.FrameHeader (frameCtx i) fh k
  | none => false

-- regular Modular frame (not XYB image): 23 of the 31 fields are read
example : witnessFrame (rawImage false 1) rawFrameA 23 = true := by decide +kernel
-- LF frame of an XYB VarDCT image: lf_level, x_qm_scale, b_qm_scale present
example : witnessFrame (rawImage true 0) [("all_default", .bool false), ("frame_type", .nat 1), ("encoding", .nat 0),
    ("flags", .nat 128), ("upsampling", .nat 1), ("ec_upsampling", .list [.nat 1]), ("x_qm_scale", .nat 7), ("b_qm_scale", .nat 0),
    ("passes", .record [("num_passes", .nat 1)]), ("lf_level", .nat 4),
    ("name", .record [("len", .nat 0)]), ("restoration_filter", .record [("all_default", .bool true)]),
    ("extensions", .record [("extension_bits", .nat 0)])] 13 = true := by decide +kernel
-- reference-only YCbCr frame: do_ycbcr, jpeg_upsampling, have_crop, save_as_reference, save_before_ct present
example : witnessFrame (rawImage false 0) [("all_default", .bool false), ("frame_type", .nat 2), ("encoding", .nat 0),
    ("flags", .nat 0), ("do_ycbcr", .bool true), ("jpeg_upsampling", .list [.nat 1, .nat 2, .nat 3]), ("upsampling", .nat 2),
    ("ec_upsampling", .list [.nat 4]), ("have_crop", .bool true), ("width", .nat 1), ("height", .nat 1073760511),
    ("save_as_reference", .nat 1), ("save_before_ct", .bool false),
    ("name", .record [("len", .nat 0)]), ("restoration_filter", .record [("all_default", .bool true)]),
    ("extensions", .record [("extension_bits", .nat 0)])] 16 = true := by decide +kernel
-- the all-default frame header: one bit
example : witnessFrame (rawImage true 0) [("all_default", .bool true)] 1 = true := by decide +kernel

-- Modular / VarDCT side bundles that use the same macro (descriptions are generated for the
-- components that model those layers; `TransformInfo` and `HfBlockContext` are external parsers)
example : witness Pinned.WpHeader [] [("default_wp", .bool false), ("wp_p1", .nat 31), ("wp_w3", .nat 15)] 12 = true := by decide +kernel
example : witness Pinned.ModularHeader [] [("use_global_tree", .bool true), ("wp_params", .record [("default_wp", .bool true)]), ("nb_transforms", .nat 0)] 4 = true := by decide +kernel
example : witness Pinned.Rct [] [("begin_c", .nat 9287), ("rct_type", .nat 41)] 2 = true := by decide +kernel
example : witness Pinned.Squeeze [] [("num_sq", .nat 2), ("sp", .list [.record [("horizontal", .bool true), ("in_place", .bool false), ("begin_c", .nat 7), ("num_c", .nat 19)]])] 2 = true := by decide +kernel
example : witness Pinned.SqueezeParams [] [("horizontal", .bool true), ("in_place", .bool true), ("begin_c", .nat 72), ("num_c", .nat 3)] 4 = true := by decide +kernel
example : witness Pinned.Quantizer [] [("global_scale", .nat 73728), ("quant_lf", .nat 16)] 2 = true := by decide +kernel
example : witness Pinned.LfChannelDequantization [] [("all_default", .bool false), ("m_x_lf", .f16 1), ("m_y_lf", .f16 2), ("m_b_lf", .f16 3)] 4 = true := by decide +kernel
example : witness Pinned.LfChannelCorrelation [] [("all_default", .bool false), ("colour_factor", .nat 65793), ("base_correlation_x", .f16 0x8000), ("base_correlation_b", .f16 0x3c00), ("x_factor_lf", .nat 255), ("b_factor_lf", .nat 0)] 6 = true := by decide +kernel
-- LfGlobalVarDct contains `Bundle(HfBlockContext)`, a parser outside this component: the writer
-- has no value for it, so the round-trip theorem holds for it only vacuously.
example : witness Pinned.LfGlobalVarDct [] [] 3 = false := by decide +kernel

-- a table of contents with 5 sections (sizes from all four selectors of the size distribution)
example : witness tocPlain [("entry_count", .nat 5)]
    [("permuted", .bool false), ("sizes", .list [.nat 0, .nat 1023, .nat 17407, .nat 4211711, .nat 1077953535])] 6 = true := by decide +kernel

/-! ## what is not proved here (partial scope)

* **F16 → f32.** Not proved: that `f16ToF32Bits` *is* `read_f16_as_f32`. The normal and zero branches of the Rust are integer bit operations
  transcribed one to one; the subnormal branch is `f32` arithmetic
  (`(1.0 / 16384.0) * (mantissa as f32 / 1024.0)`), argued exact on paper in the doc comment of
  `f16ToF32Bits` (no formal model of binary32 rounding here). Tie: all 2^16 patterns are run
  through the real conversion and the model on every check.
* **Permuted TOC.** `C14_toc_permuted_roundtrip` / `C14_toc_permuted_order` cover `permuted = true`
  end to end through `writeToc` / `parseToc` *relative to* the entropy coder: the hypothesis
  `∀ r, dec n (enc ++ r) = ok (lehmer, r)` is C04's round-trip theorem. In this file it is
  discharged only for the hand-made trivial code on a concrete stream (see the `example`s);
  `Props/C14Toc.lean` discharges it for the entropy decoder model of C04
  (`C14_toc_entropy_perm_decoder`). `parseToc` is parameterised by the decoder for that reason.
  The differential run covers permuted TOCs written with the trivial code.
* **Hand-written parsers** are hand-modelled descriptions; their tie to the source is the
  extracted primitive-read sequences / distributions / domains / hashes
  (`C14_hand_model_matches_source`) and the differential run, not a translation.
* **Derived frame quantities** (`frameDerived`: sample sizes, group counts, keyframe flags) and the
  report lines are definitions compared with the accessors of the real structs by execution. -/

end Jxl.Headers
