import JxlModel.Proofs.Container
import JxlModel.Proofs.AuxBox
/-!
# C10 — container framing

Property theorems about the model of `ContainerBoxHeader::parse` and the `ContainerParser` state
machine (`Model/Container.lean`, which mirrors the code **with the F1 repair applied**).
They quantify over every byte string, every parser state, every split of the input into
successive `feed_bytes` calls (the caller re-offers what was not consumed, as the API demands) and
every container file of the `Spec` type.

"Concatenation-normalised event stream" = `toks events`: the events with every `Codestream` /
`AuxBoxData` payload flattened to one token per byte (`C10_normal_form_canonical`: equal flattenings
⇔ equal event lists after merging adjacent data events and dropping empty ones).

Brotli is outside the parser layer: a `brob` box is delivered as inner type + raw compressed
payload.  The second half of this file (`namespace Jxl.AuxBox`, theorems `C10_aux_*`) is about the
layer above, `AuxBoxList` as driven by `JxlImage::feed_bytes / finalize / read`
(`Model/AuxBox.lean`), where Brotli and the jbrd data enter as the parameter `Codec`.

## F1 (genuine defect of the unrepaired code, DESIGN.md §5)
`parseHeaderOld` is the header parser of the unrepaired code: with 8..15 bytes of a 64-bit header
available it answers `invalid`, not `needMore`, so a split of the input inside such a header turns
a valid file into `Error::InvalidBox` (`C10_F1_old_code_witness`; replayed on the real code by
`corpus/C10/00_f1_xlbox_header_split.hex`, every 2-way split at offsets 20..27 of that 31-byte
file).  The repair is one match arm in `box_header.rs` (`[0, 0, 0, 1, ..] => NeedMoreData`).
-/
namespace Jxl.Container
open Spec

/-- Parse ∘ serialise = id for all three size forms (32-bit, 64-bit, to-end-of-file), whatever
follows the header. -/
theorem C10_header_roundtrip (ty : Bytes) (hty : ty.length = 4) (n : Nat) (e : Enc)
    (hfit : fits n e) (rest : Bytes) :
    parseHeader (serHeader ty n e ++ rest) =
      .done ⟨ty, if e = .toEof then none else some n⟩ (serHeader ty n e).length :=
  header_roundtrip ty hty n e hfit rest

/-- Every proper prefix of a serialised header (8- or 16-byte form) asks for more data. This is
the statement that fails for the unrepaired code (F1). -/
theorem C10_header_prefix_needs_more_data (ty : Bytes) (hty : ty.length = 4) (n : Nat) (e : Enc)
    (rest : Bytes) (k : Nat) (hk : k < (serHeader ty n e).length) :
    parseHeader ((serHeader ty n e ++ rest).take k) = .needMore := by
  rw [List.take_append_of_le_length (by omega)]
  by_cases h8 : k < 8
  · unfold parseHeader
    have : ((serHeader ty n e).take k).length < 8 := by rw [List.length_take]; omega
    rw [if_pos this]
  · cases e with
    | short => simp [serHeader, hty] at hk; omega
    | toEof => simp [serHeader, hty] at hk; omega
    | long =>
      simp only [serHeader, List.length_append, beEnc_length, hty] at hk
      have hsplit : (serHeader ty n .long).take k = beEnc 4 1 ++ ty ++ (beEnc 8 (n + 16)).take (k - 8) := by
        simp only [serHeader]
        rw [List.take_append]
        have : (beEnc 4 1 ++ ty).length = 8 := by simp [hty]
        rw [this, List.take_of_length_le (by omega)]
      rw [hsplit, parseHeader_size32 ty hty 1 (by decide)]
      have : ((beEnc 8 (n + 16)).take (k - 8)).length < 8 := by rw [List.length_take]; simp; omega
      simp only [if_true, if_pos this]

theorem C10_header_answer_stable (a b : Bytes) (h : parseHeader a ≠ .needMore) :
    parseHeader (a ++ b) = parseHeader a :=
  parseHeader_append a b h

/-- Witness of F1 on the code before the repair: 9 bytes of the 16-byte header of a box "abcd"
with 64-bit size 19 — the old parser rejects, the repaired one waits; and the old parser is *not*
stable under extension (it accepts the complete header). -/
theorem C10_F1_old_code_witness :
    let hdr := serHeader [0x61, 0x62, 0x63, 0x64] 3 .long
    parseHeaderOld (hdr.take 9) = .invalid ∧ parseHeader (hdr.take 9) = .needMore ∧
    parseHeaderOld hdr = .done ⟨[0x61, 0x62, 0x63, 0x64], some 3⟩ 16 := by decide

/-- 2-way split, from any parser state: one call on `a ++ b` against a call on `a`, then (unless that
failed) one on its unconsumed tail followed by `b`. -/
theorem C10_events_chunking_invariant_2way (s : PState) (a b : Bytes) :
    let r := feed s a
    let w := feed s (a ++ b)
    match r.error with
    | some e => toks w.events = toks r.events ∧ w.error = some e
    | none =>
      let r' := feed r.state (r.rest ++ b)
      toks w.events = toks r.events ++ toks r'.events ∧ w.state = r'.state ∧ w.rest = r'.rest ∧
        w.error = r'.error := by
  have h := feed_append b s a
  unfold thenFeed at h
  cases he : (feed s a).error with
  | some e => simp only [he] at h ⊢; exact ⟨h.1, h.2.2.2⟩
  | none => simp only [he] at h ⊢; exact ⟨by rw [h.1, toks_append], h.2.1, h.2.2.1, h.2.2.2⟩

/-- Any chunking, from any parser state, against one call on the whole buffer. -/
theorem C10_events_chunking_invariant (s : PState) (chunks : List Bytes) :
    let r := feedChunks s [] chunks
    let w := feed s chunks.flatten
    toks r.events = toks w.events ∧ r.error = w.error ∧ r.state = w.state ∧
      (r.error = none → r.rest = w.rest) :=
  feedChunks_same s [] chunks fun _ => step_nil s

/-- The flattening is a faithful normal form (`normalize` merges adjacent data events of the same
box and drops empty ones). -/
theorem C10_normal_form_canonical (a b : List Event) :
    toks a = toks b ↔ normalize a = normalize b :=
  ⟨fun h => by rw [normalize_bytewise a, normalize_bytewise b, h],
   fun h => by rw [← normalize_toks a, ← normalize_toks b, h]⟩

theorem C10_events_chunking_invariant_merged (s : PState) (chunks : List Bytes) :
    normalize (feedChunks s [] chunks).events = normalize (feed s chunks.flatten).events :=
  (C10_normal_form_canonical _ _).mp (C10_events_chunking_invariant s chunks).1

/-- Every well-formed file, every chunking of its bytes: no error, everything consumed, and the
events are `kind container` followed by the Spec's expected tokens. -/
theorem C10_wellformed_events_exact (bs : List Box) (hwf : wf bs = true) (chunks : List Bytes)
    (hc : chunks.flatten = serFile bs) :
    let r := feedChunks init [] chunks
    r.error = none ∧ r.rest = [] ∧ toks r.events = Tok.kind .container :: expected bs := by
  obtain ⟨h1, h2, h3⟩ := feed_wf bs hwf
  obtain ⟨c1, c2, -, c4⟩ := feedChunks_same init [] chunks fun _ => step_nil init
  rw [hc] at c1 c2 c4
  exact ⟨c2.trans h1, (c4 (c2.trans h1)).trans h2, c1.trans h3⟩

/-- The codestream events concatenate to exactly the `jxlc`/`jxlp` payloads in file order. -/
theorem C10_codestream_exact (bs : List Box) (hwf : wf bs = true) (chunks : List Bytes)
    (hc : chunks.flatten = serFile bs) :
    codestreamOf (toks (feedChunks init [] chunks).events) = codestream bs := by
  rw [(C10_wellformed_events_exact bs hwf chunks hc).2.2]
  simp [codestreamOf, expected, codestreamOf_expectedM]

/-- Every auxiliary box is delivered with its type, its compression flag and its exact raw
payload, in file order (for `brob`: inner type and the compressed bytes). -/
theorem C10_aux_boxes_exact (bs : List Box) (hwf : wf bs = true) (chunks : List Bytes)
    (hc : chunks.flatten = serFile bs) :
    auxOf (toks (feedChunks init [] chunks).events) = aux bs := by
  rw [(C10_wellformed_events_exact bs hwf chunks hc).2.2]
  simp [auxOf, expected, auxOf_expectedM]

/-- The same for a well-formed box list followed by arbitrary further bytes `t` (e.g. a truncated
next box), from any sequence state: the parser continues on `t` at a box boundary. -/
theorem C10_wellformed_prefix_exact (jx jx' : JxlpState) (bs : List Box) (t : Bytes)
    (hs : shapeOk bs = true) (ht : t ≠ [] → ∀ b ∈ bs, b.enc ≠ .toEof)
    (hq : seqFrom jx bs = some jx') :
    let r := feed ⟨.waitingBoxHeader, jx⟩ (serBoxes bs ++ t)
    let r' := feed ⟨.waitingBoxHeader, jx'⟩ t
    toks r.events = expectedM (!t.isEmpty) bs ++ toks r'.events ∧ r.error = r'.error ∧
      r.rest = r'.rest := by
  have := feed_boxes t bs jx hs ht
  rw [hq] at this
  exact this

/-- Boxes that are individually representable but violate the codestream-box discipline
(duplicate `jxlc`, `jxlc` after `jxlp` or vice versa, `jxlp` index not starting at 0 / skipped /
repeated, `jxlp` after the final one): `Error::InvalidBox`, for every chunking. -/
theorem C10_ill_formed_sequence_rejected (bs : List Box) (hs : shapeOk bs = true)
    (hq : seqFrom .initial bs = none) (chunks : List Bytes) (hc : chunks.flatten = serFile bs) :
    (feedChunks init [] chunks).error = some .invalidBox := by
  have hb := feed_boxes [] bs .initial hs (fun h => absurd rfl h)
  rw [hq, List.append_nil] at hb
  rw [(C10_events_chunking_invariant init chunks).2.1, hc]
  exact reaches_cont (step_init_container _) hb

/-- A well-formed run of sized boxes followed by an undersized box (32-bit size field 2..7, 64-bit
size < 16, `jxlp` payload < 4, `brob` payload < 4): `Error::InvalidBox`, for every chunking. -/
theorem C10_undersized_rejected (pre : List Box) (t : Bytes) (hs : shapeOk pre = true)
    (hsz : ∀ b ∈ pre, b.enc ≠ .toEof) (hq : (seqFrom .initial pre).isSome) (hu : Undersized t)
    (chunks : List Bytes) (hc : chunks.flatten = contSig ++ (serBoxes pre ++ t)) :
    (feedChunks init [] chunks).error = some .invalidBox := by
  obtain ⟨jx', hj⟩ := Option.isSome_iff_exists.1 hq
  rw [(C10_events_chunking_invariant init chunks).2.1, hc, feed_of_cont (step_init_container _)]
  exact (C10_wellformed_prefix_exact .initial jx' pre t hs (fun _ => hsz) hj).2.1.trans
    (undersized_err jx' t hu)

/-- A `brob` box whose inner type is reserved (`jxl?`, `brob`, `jbrd`) after a well-formed run of
sized boxes: `Error::ValidationFailed`, for every chunking. -/
theorem C10_brob_reserved_rejected (pre : List Box) (hs : shapeOk pre = true)
    (hsz : ∀ b ∈ pre, b.enc ≠ .toEof) (hq : (seqFrom .initial pre).isSome)
    (n : Nat) (e : Enc) (inner rest : Bytes) (hin : inner.length = 4)
    (hres : reservedInner inner = true) (hf : fits n e) (hn : e = .toEof ∨ 4 ≤ n)
    (chunks : List Bytes)
    (hc : chunks.flatten = contSig ++ (serBoxes pre ++ (serHeader tyBrob n e ++ (inner ++ rest)))) :
    (feedChunks init [] chunks).error = some .validationFailed := by
  obtain ⟨jx', hj⟩ := Option.isSome_iff_exists.1 hq
  rw [(C10_events_chunking_invariant init chunks).2.1, hc, feed_of_cont (step_init_container _)]
  exact (C10_wellformed_prefix_exact .initial jx' pre _ hs (fun _ => hsz) hj).2.1.trans
    (brob_reserved_err jx' n e inner rest hin hres hf hn)

/-- What a call leaves unconsumed is a suffix of what it was offered:
`previous_consumed_bytes ≤ input.len()` and `rest = input[consumed..]`. -/
theorem C10_consumed_le_input (s : PState) (buf : Bytes) :
    consumed buf (feed s buf) ≤ buf.length ∧
      (feed s buf).rest = buf.drop (consumed buf (feed s buf)) :=
  ⟨Nat.sub_le _ _, List.suffix_iff_eq_drop.1 (feed_rest_suffix s buf)⟩

/-- Every iteration of `emit_single` that does not return `Ok(None)`/`Err` strictly decreases
`4·|buffer| + rank(state)`: the loop terminates, and the model's fuel is never exhausted (a run ends
in an error or where the next step is `Ok(None)`). -/
theorem C10_progress_measure (s : PState) (buf : Bytes) :
    (∀ ev s' rest, step s buf = .cont ev s' rest → measure s' rest < measure s buf) ∧
    ((feed s buf).error = none → step (feed s buf).state (feed s buf).rest = .stop) :=
  ⟨fun ev s' rest h => step_cont s buf ev s' rest h, feed_final_stop s buf⟩

/-- No livelock: a call that reports no error, consumes nothing and emits nothing left the parser
untouched, and was offered fewer than 16 bytes (it waits for a signature, a box header, a jxlp index
or a brob inner type). -/
theorem C10_no_livelock (s : PState) (buf : Bytes) (he : (feed s buf).error = none)
    (hc : consumed buf (feed s buf) = 0) (hev : (feed s buf).events = []) :
    (feed s buf).state = s ∧ buf.length < 16 := by
  cases hs : step s buf with
  | stop => exact ⟨by rw [feed_of_stop hs], step_stop_short s buf hs⟩
  | err e rest => rw [feed_of_err hs] at he; cases he
  | cont ev s' rest =>
    exfalso
    rw [feed_of_cont hs] at hc hev
    -- no event: the step was silent, so it consumed at least 4 bytes
    obtain ⟨k, hk, rfl, -, h4, -⟩ := step_shape_of hs
    have hnone : ev = none := by cases ev <;> simp_all
    have h2 := (feed_rest_suffix s' (buf.drop k)).length_le
    have := h4 hnone
    simp only [consumed, List.length_drop] at hc h2
    omega

/-- The panic sites of the parser (`unreachable!` in `WaitingJxlpIndex`; `usize` underflow of
`bytes_left -= 4` / `box_size - 4` in the jxlp-index and the brob arm) are unreachable from
`ContainerParser::new()` whatever is fed in whatever chunks. -/
theorem C10_no_panic (chunks : List Bytes) (e : Err)
    (h : (feedChunks init [] chunks).error = some e) :
    e = .invalidBox ∨ e = .validationFailed := by
  have := (feedChunks_inv chunks init [] inv_init).2 e h
  cases e <;> simp_all [Err.isPanic]

/-- ftyp, a 64-bit-sized jxlp, a brob(Exif), the final jxlp, an xml box running to end of file -/
def exFile : List Box :=
  [.aux [0x66, 0x74, 0x79, 0x70] [1, 2] .short,
   .jxlp 0 false [0xff, 0x0a, 7] .long,
   .brob [0x45, 0x78, 0x69, 0x66] [9, 9, 9] .short,
   .jxlp 1 true [8, 9] .short,
   .aux [0x78, 0x6d, 0x6c, 0x20] [5] .toEof]

/-- the hypotheses of `C10_wellformed_events_exact` hold for `exFile`; 83 bytes; the delivered codestream is `ff 0a 07 08 09` -/
example : wf exFile = true ∧ (serFile exFile).length = 83 ∧
    codestream exFile = [0xff, 0x0a, 7, 8, 9] ∧
    aux exFile = [⟨[0x66, 0x74, 0x79, 0x70], false, [1, 2]⟩, ⟨[0x45, 0x78, 0x69, 0x66], true, [9, 9, 9]⟩,
      ⟨[0x78, 0x6d, 0x6c, 0x20], false, [5]⟩] := by decide

/-- the model run on `exFile` split inside the 64-bit header really produces that codestream -/
example :
    codestreamOf (toks (feedChunks init [] [(serFile exFile).take 30, (serFile exFile).drop 30]).events)
      = [0xff, 0x0a, 7, 8, 9] := by decide +kernel

/-- `C10_ill_formed_sequence_rejected`: second jxlp repeats index 0; a jxlc after a jxlp; both shape-correct -/
example : shapeOk [Box.jxlp 0 false [1] .short, .jxlp 0 true [2] .short] = true ∧
    seqFrom .initial [Box.jxlp 0 false [1] .short, .jxlp 0 true [2] .short] = none ∧
    seqFrom .initial [Box.jxlp 0 true [1] .short, .jxlc [2] .long] = none := by decide

example : Undersized (beEnc 4 7 ++ [0x61, 0x62, 0x63, 0x64] ++ [1, 2, 3]) :=
  .sizeField 7 _ _ (by decide) (by decide) rfl

example : Undersized (serHeader tyJxlp 3 .short ++ [0, 0, 0]) :=
  .jxlpSmall 3 .short _ (by decide) (by decide) (by simp [fits])

example : reservedInner tyJxlc = true ∧ reservedInner tyJbrd = true ∧
    reservedInner [0x45, 0x78, 0x69, 0x66] = false := by decide

/-- a stalled call exists (7 bytes of a header) and a progressing one does -/
example : (feed ⟨.waitingBoxHeader, .initial⟩ [0, 0, 0, 1, 0x61, 0x62, 0x63]).rest.length = 7 ∧
    consumed (serFile exFile) (feed init (serFile exFile)) = 83 := by decide +kernel

end Jxl.Container

/-! # The auxiliary box list behind `JxlImage::aux_boxes()` (`Model/AuxBox.lean`)

`Sess.run c chunks` = `build_uninit()`, one `feed_bytes(leftover ++ chunk)` per chunk (stopping at
the first error), `finalize()`.  `c : Codec` = Brotli decompression and the jbrd acceptance test,
both arbitrary (every theorem holds for every `c`).  `deliverAll c St.init (aux bs)` = the
specification: the file's auxiliary boxes in file order, each with its type and its payload
(decompressed with `c.decompress` for `brob` boxes), `jbrd` boxes routed to the reconstruction
data. -/
namespace Jxl.AuxBox
open Jxl.Container Jxl.Container.Spec

/-- Every well-formed container file, every chunking of its bytes: feeding everything and calling
`finalize()` ends — for sized and to-end-of-file final boxes alike — with exactly the specified list,
nothing open, `last_box` set, nothing left to re-offer; if the specification fails (a `brob` payload
that does not decompress, jbrd data that is not accepted) the session fails with that error, never
a panic. -/
theorem C10_aux_list_exact (c : Codec) (bs : List Box) (hwf : wf bs = true) (chunks : List Bytes)
    (hc : chunks.flatten = serFile bs) :
    match deliverAll c St.init (aux bs) with
    | .ok a => ∃ s, Sess.run c chunks = .ok s ∧ s.a = { a with lastBox := true } ∧ s.pending = []
    | .error e => Sess.run c chunks = .error (.aux e) ∧ e ≠ .panic := by
  obtain ⟨he, hrest, htk⟩ := C10_wellformed_events_exact bs hwf chunks hc
  have hrun : andThen (runToks c St.init (expectedM false bs)) (eof c) = _ :=
    run_expected c bs St.init false ⟨rfl, rfl⟩ (Bool.and_eq_true_iff.1 hwf).1
  simp only [Sess.run, pushAll_eq, Sess.init, sessOf, he, hrest]
  rw [runEvents_eq_runToks c _ _ (feedChunks_noEmpty chunks _ _), htk]
  -- the list ignores `kind`; what is left is the two sides of `hrun` with the session around them,
  -- for each way the two runs can end
  simp only [runToks, handleTok, expected]
  cases hr : runToks c St.init (expectedM false bs) <;>
    cases hd : deliverAll c St.init (aux bs) <;> simp_all [Sess.finalize, setLast]
  all_goals exact deliverAll_not_panic c _ _ _ hd

/-- What the specified list is: the non-jbrd boxes in file order with type and decoded payload,
every one of them decodable; nothing is left open. -/
theorem C10_aux_delivered_boxes (c : Codec) (l : List AuxBox) (a : St)
    (h : deliverAll c St.init l = .ok a) :
    a.boxes = (l.filter (fun b => b.ty != tyJbrd)).map
        (fun b => (b.ty, Finished.raw ((decodedPayload c b).getD []))) ∧
      (∀ b ∈ l, b.ty ≠ tyJbrd → (decodedPayload c b).isSome = true) ∧
      a.curTy = none ∧ a.cur = .init := by
  obtain ⟨h1, h2, h3, h4⟩ := deliverAll_boxes c l St.init a h
  exact ⟨by simpa [deliveredList, St.init] using h1, h4, h2, h3⟩

/-- `first_of_type` after `finalize()`: the decoded payload of the first box of that type in the
file, `NotFound` if the file has none — never `Decoding`. -/
theorem C10_aux_first_of_type_exact (c : Codec) (bs : List Box) (hwf : wf bs = true)
    (chunks : List Bytes) (hc : chunks.flatten = serFile bs) (a : St)
    (hd : deliverAll c St.init (aux bs) = .ok a) (ty : Bytes) (hty : ty ≠ tyJbrd) :
    ∃ s, Sess.run c chunks = .ok s ∧
      firstOfType s.a ty =
        match (aux bs).find? (fun b => b.ty == ty) with
        | some b => .data ((decodedPayload c b).getD [])
        | none => .notFound := by
  have h := C10_aux_list_exact c bs hwf chunks hc
  rw [hd] at h
  obtain ⟨s, h1, h2, _⟩ := h
  refine ⟨s, h1, ?_⟩
  obtain ⟨b1, b2, _, _⟩ := deliverAll_boxes c (aux bs) St.init a hd
  have hfind := find_deliveredList c ty hty (aux bs)
  simp only [firstOfType, h2, b1, St.init, List.nil_append, hfind, b2]
  cases (aux bs).find? (fun b => b.ty == ty) with
  | none => simp
  | some b => simp [Finished.data]

/-- `RawExif::new` accepts exactly the boxes with a 4-byte offset field and an offset inside the
payload, and returns that offset and the bytes after the field. -/
theorem C10_aux_exif_validation (box : Bytes) (off : Nat) (p : Bytes) :
    rawExif box = some (off, p) ↔
      4 ≤ box.length ∧ off = beNat (box.take 4) ∧ p = box.drop 4 ∧ off < p.length := by
  unfold rawExif
  constructor
  · intro h
    split at h
    · cases h
    · split at h
      · cases h
      · cases h; exact ⟨by omega, rfl, rfl, by omega⟩
  · rintro ⟨h1, h2, h3, h4⟩
    subst h2 h3
    rw [if_neg (by omega), if_neg (by omega)]

/-- `first_exif()` after `finalize()`: the first `Exif` box of the file (plain or `brob`), decoded
and validated; `NotFound` without one. -/
theorem C10_aux_first_exif_exact (c : Codec) (bs : List Box) (hwf : wf bs = true)
    (chunks : List Bytes) (hc : chunks.flatten = serFile bs) (a : St)
    (hd : deliverAll c St.init (aux bs) = .ok a) :
    ∃ s, Sess.run c chunks = .ok s ∧
      firstExif s.a =
        match (aux bs).find? (fun b => b.ty == tyExif) with
        | some b => (rawExif ((decodedPayload c b).getD [])).map .data
        | none => some .notFound := by
  obtain ⟨s, h1, h2⟩ := C10_aux_first_of_type_exact c bs hwf chunks hc a hd tyExif (by decide)
  refine ⟨s, h1, ?_⟩
  unfold firstExif
  rw [h2]
  cases (aux bs).find? (fun b => b.ty == tyExif) <;> rfl

/-- `first_xml()` after `finalize()`. -/
theorem C10_aux_first_xml_exact (c : Codec) (bs : List Box) (hwf : wf bs = true)
    (chunks : List Bytes) (hc : chunks.flatten = serFile bs) (a : St)
    (hd : deliverAll c St.init (aux bs) = .ok a) :
    ∃ s, Sess.run c chunks = .ok s ∧
      firstXml s.a =
        match (aux bs).find? (fun b => b.ty == tyXml) with
        | some b => .data ((decodedPayload c b).getD [])
        | none => .notFound :=
  C10_aux_first_of_type_exact c bs hwf chunks hc a hd tyXml (by decide)

/-- For every byte string (well-formed or not) and every chunking, the session — list, parser
state, bytes to re-offer, or the error — is that of one `feed_bytes` call on the whole buffer. -/
theorem C10_aux_chunking_invariant (c : Codec) (chunks : List Bytes) :
    Sess.run c chunks = Sess.run c [chunks.flatten] := by
  cases chunks with
  | nil => simp [Sess.run, Sess.pushAll, Sess.push, Sess.init, feed_nil, runEvents]
  | cons c0 cs => simp only [Sess.run, pushAll_singleton]; rw [pushAll_flatten]

/-- `JxlImage::builder().read(file)` (4096-byte refill loop, then `finalize()`) gives, for every
byte string, the result of feeding the whole file in one call and finalising. -/
theorem C10_aux_read_eq_whole (c : Codec) (file : Bytes) : read c file = Sess.run c [file] := by
  obtain ⟨chunks, e1, e2⟩ := readLoop_chunks c (file.length + 1) Sess.init file (by omega)
    (by simp [Sess.init])
  rw [read, e2, ← e1]
  exact C10_aux_chunking_invariant c chunks

theorem C10_aux_read_exact (c : Codec) (bs : List Box) (hwf : wf bs = true) :
    match deliverAll c St.init (aux bs) with
    | .ok a => ∃ s, read c (serFile bs) = .ok s ∧ s.a = { a with lastBox := true } ∧ s.pending = []
    | .error e => read c (serFile bs) = .error (.aux e) ∧ e ≠ .panic := by
  rw [C10_aux_read_eq_whole]
  exact C10_aux_list_exact c bs hwf [serFile bs] (by simp)

/-- An answer `Data` never changes: whatever is fed afterwards (any bytes, any chunks) and through
`finalize()`, `first_of_type` keeps returning the same bytes. -/
theorem C10_aux_data_stable (c : Codec) (m : Sess) (post : List Bytes) (ty d : Bytes)
    (h : firstOfType m.a ty = .data d) (s : Sess) (hs : Sess.pushAll c m post = .ok s) :
    firstOfType s.a ty = .data d ∧ ∀ f, s.finalize c = .ok f → firstOfType f.a ty = .data d := by
  obtain ⟨p, hp, hpd⟩ := firstOfType_data_found m.a ty d h
  have h1 := pushAll_boxes_prefix c post m s hs
  refine ⟨by rw [firstOfType_of_prefix m.a s.a ty h1 p hp, hpd], ?_⟩
  intro f hf
  have h2 := finalize_sess_boxes_prefix c s f hf
  rw [firstOfType_of_prefix m.a f.a ty (List.IsPrefix.trans h1 h2) p hp, hpd]

/-- Well-formed file, any chunking, any point between two chunks: a definite answer given early
(`Data d` or `NotFound`) is the answer after `finalize()` — which `C10_aux_first_of_type_exact`
shows to be the right one.  So before the end a box that is still arriving, or may still come, is
reported `Decoding`: never wrong data, never a premature `NotFound`. -/
theorem C10_aux_early_answer_final (c : Codec) (bs : List Box) (hwf : wf bs = true)
    (pre post : List Bytes) (hc : (pre ++ post).flatten = serFile bs) (m f : Sess)
    (hm : Sess.init.pushAll c pre = .ok m) (hf : Sess.run c (pre ++ post) = .ok f) (ty : Bytes) :
    (∀ d, firstOfType m.a ty = .data d → firstOfType f.a ty = .data d) ∧
      (firstOfType m.a ty = .notFound → firstOfType f.a ty = .notFound) := by
  simp only [Sess.run, pushAll_append, hm] at hf
  cases hs2 : Sess.pushAll c m post with
  | error e => rw [hs2] at hf; cases hf
  | ok s2 =>
    rw [hs2] at hf
    simp only at hf
    refine ⟨fun d hd => (C10_aux_data_stable c m post ty d hd s2 hs2).2 f hf, ?_⟩
    intro hnf
    cases hfind : m.a.boxes.find? (fun p => p.1 == ty) with
    | some p =>
      -- a finished box without data: the list only grows
      have hpre := (pushAll_boxes_prefix c post m s2 hs2).trans (finalize_sess_boxes_prefix c s2 f hf)
      rw [firstOfType_of_prefix m.a f.a ty hpre p hfind, ← hnf, firstOfType, hfind]
    | none =>
    obtain ⟨hl, hct⟩ : m.a.lastBox = true ∧ m.a.curTy ≠ some ty := by
      simpa [firstOfType, hfind] using hnf
    have he : eof c s2.a = .ok f.a := by
      unfold Sess.finalize at hf
      cases he : eof c s2.a with
      | error x => rw [he] at hf; cases hf
      | ok a' => rw [he] at hf; cases hf; rfl
    -- before the first call `last_box` is not set; after the last chunk no token is to come
    rcases pre with _ | ⟨c0, pre⟩
    · cases hm; cases hl
    rcases post with _ | ⟨d0, post⟩
    · cases hs2
      exact notFound_final c [] m.a f.a ty trivial hfind hct he
    -- one call for `pre`, one for `post`: together they see the tokens of the file
    rw [pushAll_flatten, push_eq_sessOf] at hm hs2
    obtain ⟨e1, t1, p1, r1⟩ := sessOf_ok c _ _ m hm
    obtain ⟨-, t2, -, -⟩ := sessOf_ok c _ _ s2 hs2
    rw [runEvents_eq_runToks c _ _ (feed_noEmpty _ _)] at t1 t2
    rw [p1, r1] at t2
    obtain ⟨h1, -⟩ := feed_append (d0 :: post).flatten Sess.init.p (Sess.init.pending ++ (c0 :: pre).flatten)
    simp only [thenFeed, e1, toks_append] at h1
    have hfile : Sess.init.pending ++ (c0 :: pre).flatten ++ (d0 :: post).flatten = serFile bs := by
      rw [← hc, List.flatten_append]; rfl
    rw [hfile] at h1
    have htail : Tail (phase St.init) (Tok.kind .container :: expected bs) :=
      tail_expected bs (Bool.and_eq_true_iff.1 hwf).1
    rw [(feed_wf bs hwf).2.2.symm.trans h1] at htail
    have hq := tail_run c _ St.init m.a _ htail t1
    rw [phase, hl] at hq
    exact notFound_final c _ m.a f.a ty hq hfind hct (by rw [t2]; exact he)

/-- In particular: as long as the first box of a type that the file does contain is not finished,
`first_of_type` says `Decoding`. -/
theorem C10_aux_arriving_box_decoding (c : Codec) (bs : List Box) (hwf : wf bs = true)
    (pre post : List Bytes) (hc : (pre ++ post).flatten = serFile bs) (m : Sess) (a : St)
    (hm : Sess.init.pushAll c pre = .ok m) (hd : deliverAll c St.init (aux bs) = .ok a)
    (ty : Bytes) (hty : ty ≠ tyJbrd) (b : AuxBox)
    (hb : (aux bs).find? (fun b => b.ty == ty) = some b)
    (hnone : m.a.boxes.find? (fun p => p.1 == ty) = none) :
    firstOfType m.a ty = .decoding := by
  obtain ⟨f, hf, hans⟩ := C10_aux_first_of_type_exact c bs hwf (pre ++ post) hc a hd ty hty
  rw [hb] at hans
  have := C10_aux_early_answer_final c bs hwf pre post hc m f hm hf ty
  cases hq : firstOfType m.a ty with
  | decoding => rfl
  | data d =>
    obtain ⟨p, hp, _⟩ := firstOfType_data_found m.a ty d hq
    rw [hnone] at hp; cases hp
  | notFound =>
    have := this.2 hq
    rw [hans] at this; cases this

/-- For every byte string, every chunking and every codec the `panic!()` in
`AuxBoxReader::ensure_raw` / `ensure_brotli` (the reader already holds data of the other kind) is
never reached: `handle_event` installs a fresh reader at every `AuxBoxStart` before it calls them,
so they only ever see an untouched reader.  (The parser's own panic sites: `C10_no_panic`.) -/
theorem C10_aux_no_panic (c : Codec) (chunks : List Bytes) :
    Sess.init.pushAll c chunks ≠ .error (.aux .panic) ∧ Sess.run c chunks ≠ .error (.aux .panic) := by
  refine ⟨pushAll_no_panic c chunks Sess.init, ?_⟩
  unfold Sess.run
  cases hp : Sess.init.pushAll c chunks with
  | error e => exact fun hc => pushAll_no_panic c chunks _ (hp.trans hc)
  | ok s =>
    simp only [Sess.finalize, eof]
    cases hf : finalize c s.a with
    | error x => exact fun hc => finalize_no_panic c s.a (hf.trans (by cases hc; rfl))
    | ok a' => nofun

/-- `storedBrotli` (the stored-only Brotli decoder that instantiates `Codec.decompress` in the
driver) gives back the concatenated data for every stream the campaign's generator can write: any
number of uncompressed meta-blocks of 1..65536 bytes each (none = the empty stream `06`). -/
theorem C10_aux_stored_brotli_roundtrip (parts : List Bytes)
    (hp : ∀ p ∈ parts, 1 ≤ p.length ∧ p.length ≤ 65536) :
    storedBrotli (storedEncode parts) = some parts.flatten := by
  cases parts with
  | nil => simp [storedBrotli, storedEncode, storedEncodeFrom]
  | cons p r =>
    obtain ⟨h1, _⟩ := hp p (List.mem_cons_self ..)
    have hz : (storedEncode (p :: r) == [0x06]) = false := by
      cases p with
      | nil => simp at h1
      | cons x p' => simp [storedEncode, storedEncodeFrom, storedHeader]
    simp only [storedBrotli, hz, Bool.false_eq_true, if_false]
    exact storedBlocks_encode (p :: r) true _ hp (by simp) (by simp [storedEncode])

/-- a decompressor for the examples: the one-byte stream `[n]` stands for a zero offset field
followed by `n` bytes `07`; everything else is invalid -/
def exCodec : Codec :=
  ⟨fun z => match z with | [n] => some ([0, 0, 0, 0] ++ List.replicate n.toNat 7) | _ => none, fun _ => false⟩

/-- codestream, a `brob` Exif box, an `xml ` box running to the end of the file -/
def exAuxFile : List Box :=
  [.jxlc [0xff, 0x0a] .short, .brob tyExif [2] .long, .aux tyXml [0x3c, 0x3e] .toEof]

/-- the hypotheses of `C10_aux_list_exact` hold and the specification is what one expects -/
example : wf exAuxFile = true ∧
    (deliverAll exCodec St.init (aux exAuxFile)).toOption.map (·.boxes) =
      some [(tyExif, .raw [0, 0, 0, 0, 7, 7]), (tyXml, .raw [0x3c, 0x3e])] := by decide

/-- the model run, 53 bytes, split inside the 64-bit `brob` header and inside the last box: before
`finalize()` the Exif data is there and the xml box (still open) is `Decoding`; afterwards both are
data — the state that a regression returning early from `eof` would never reach. -/
example :
    let f := serFile exAuxFile
    (match Sess.init.pushAll exCodec [f.take 30, (f.drop 30).take 22, f.drop 52] with
      | .ok m => (firstExif m.a, firstXml m.a)
      | .error _ => (none, .notFound)) = (some (.data (0, [7, 7])), .decoding) ∧
    (match Sess.run exCodec [f.take 30, (f.drop 30).take 22, f.drop 52] with
      | .ok s => (firstExif s.a, firstXml s.a)
      | .error _ => (none, .notFound)) = (some (.data (0, [7, 7])), .data [0x3c, 0x3e]) := by
  decide +kernel

/-- a `brob` payload that does not decompress: the error case of `C10_aux_list_exact` -/
example : (match deliverAll exCodec St.init (aux [.brob tyExif [1, 2] .short]) with
    | .error e => some e | .ok _ => none) = some .brotli := by decide

/-- `RawExif::new`: offset 2 into a 3-byte payload is accepted, offset 3 is not, 3 bytes are not -/
example : rawExif [0, 0, 0, 2, 9, 9, 9] = some (2, [9, 9, 9]) ∧ rawExif [0, 0, 0, 3, 9, 9, 9] = none ∧
    rawExif [0, 0, 0] = none := by decide

/-- two meta-blocks `ab`, `c`; the empty stream; a truncated stream is rejected -/
example : storedBrotli (storedEncode [[0x61, 0x62], [0x63]]) = some [0x61, 0x62, 0x63] ∧
    storedEncode [[0x61, 0x62], [0x63]] = [0x10, 0x00, 0x10, 0x61, 0x62, 0x00, 0x00, 0x08, 0x63, 0x03] ∧
    storedBrotli (storedEncode []) = some [] ∧
    storedBrotli ((storedEncode [[0x61, 0x62], [0x63]]).take 9) = none := by decide

end Jxl.AuxBox
