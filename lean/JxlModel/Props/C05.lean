import JxlModel.Proofs.Blend
import Mathlib.Algebra.Order.Field.Rat
/-!
# C05 — frames are composed onto the canvas exactly as the blend rules define

Model: `Model/Blend.lean`.

* **Kernel laws** over any linearly ordered field `K` (exact arithmetic; `fieldScalar` is the
  `Scalar` instance): the per-sample kernels of `blend_single` compute the formulas of the format,
  written out in each statement. The same kernel text runs at `Float32` in the driver, so the
  formula and the executed arithmetic are one definition.
* **Bookkeeping and laziness**, generic in the type `V` of a composed canvas (so they hold for
  pixel canvases, for "set of frame indices composed", and for anything else): the index
  bookkeeping of `preserve_current_frame` denotes the Spec slots after every prefix of frames;
  the lazy, caching, buffer-stealing renderer returns, for every request sequence, the canvases
  of the sequential compositor; keyframes are exactly the normal frames with `is_last` or a
  non-zero duration.
* **Pixel meaning** of the Spec compositor: the sample of the composed canvas at an image position
  is the kernel applied at the frame's signed offset inside the frame rectangle and the source
  slot's sample outside.
* **Patches**: the pixel meaning of one patch target, mode `None`, and that the patch-aware fold
  `keyframesP` is the compositor on images without patches.

Region soundness of the implementation's rectangle arithmetic (`target_region`, `base_topleft`,
`new_topleft`, clipped intersection) is `C05_blend_region_sound` in `Props/C05Region.lean`
(not imported here).

Not proved (runtime part, covered by the correspondence run of `tools/props/c05.py`): that the
Rust code is this model; IEEE rounding (the kernel laws are over exact fields — at `Float32` the
run compares bit patterns); VarDCT layers; the colour transform before saving (an opaque hook).
Format reading: `resets_canvas` and the coding of `source` follow `jxl-frame/src/header.rs`
(decided by the colour channels' mode for every channel).
-/
namespace Jxl.Blend
open Spec Impl

section Kernels
set_option linter.unusedSectionVars false
variable {K : Type} [Field K] [LinearOrder K] [IsStrictOrderedRing K]
attribute [local instance] fieldScalar

theorem C05_replace (base new baseAlpha newAlpha : K) :
    Kernel.replace.apply base new baseAlpha newAlpha = new :=
  rfl

theorem C05_add (base new baseAlpha newAlpha : K) :
    Kernel.add.apply base new baseAlpha newAlpha = base + new :=
  rfl

theorem C05_mul_clamp (clamp : Bool) (base new baseAlpha newAlpha : K) :
    (Kernel.mul clamp).apply base new baseAlpha newAlpha =
      base * (if clamp then max 0 (min new 1) else new) := by
  show base * Scalar.clampIf clamp new = _
  rw [clampIf_eq]

theorem C05_blend_premultiplied (clamp : Bool) (base new baseAlpha newAlpha : K) :
    (Kernel.blend clamp false true).apply base new baseAlpha newAlpha =
      new + base * (1 - (if clamp then max 0 (min newAlpha 1) else newAlpha)) := by
  show new + base * (1 - Scalar.clampIf clamp newAlpha) = _
  rw [clampIf_eq]

theorem C05_blend_straight (clamp : Bool) (base new baseAlpha newAlpha : K) :
    (Kernel.blend clamp false false).apply base new baseAlpha newAlpha =
      (let a := if clamp then max 0 (min newAlpha 1) else newAlpha
       let mixed := 1 - (1 - a) * (1 - baseAlpha)
       if 0 < mixed then (a * new + baseAlpha * base * (1 - a)) / mixed else 0) := by
  show (Scalar.clampIf clamp newAlpha * new + baseAlpha * base * (1 - Scalar.clampIf clamp newAlpha)) *
      Scalar.recipOrZero (1 - (1 - Scalar.clampIf clamp newAlpha) * (1 - baseAlpha)) = _
  rw [clampIf_eq, recipOrZero_eq, mul_ite, mul_zero, ← div_eq_mul_inv]

/-- the `mixed alpha = 0` case: both alphas zero (fully transparent on fully transparent) gives 0,
not a division by zero -/
theorem C05_blend_straight_mixed_alpha_zero (clamp : Bool) (base new : K) :
    (Kernel.blend clamp false false).apply base new 0 0 = 0 := by
  rw [C05_blend_straight]
  simp only [ite_clamp_of_mem clamp le_rfl zero_le_one, sub_zero, mul_one, sub_self, lt_irrefl, if_false]

theorem C05_muladd (clamp : Bool) (base new baseAlpha newAlpha : K) :
    (Kernel.mulAdd clamp false).apply base new baseAlpha newAlpha =
      base + (if clamp then max 0 (min newAlpha 1) else newAlpha) * new := by
  show base + Scalar.clampIf clamp newAlpha * new = _
  rw [clampIf_eq]

/-- Channel `alpha + cc` is the alpha channel the blending info names; the premultiplied flag plays
no part. -/
theorem C05_alpha_channel_rule (hasExtra clamp : Bool) (alpha cc source : Nat) (premul : Option Bool)
    (base new baseAlpha newAlpha : K) :
    (kernelFor hasExtra { mode := .blend, alpha, clamp, source } (alpha + cc) cc premul).apply
        base new baseAlpha newAlpha
      = 1 - (1 - (if clamp then max 0 (min new 1) else new)) * (1 - base) ∧
    (kernelFor hasExtra { mode := .mulAdd, alpha, clamp, source } (alpha + cc) cc premul).apply
        base new baseAlpha newAlpha = base := by
  simp only [kernelFor, beq_self_eq_true, if_true]
  exact ⟨apply_mixAlpha clamp base new baseAlpha newAlpha, rfl⟩

theorem C05_blend_alpha_one_is_replace (clamp premul : Bool) (base new baseAlpha : K) :
    (Kernel.blend clamp false premul).apply base new baseAlpha 1 = new := by
  cases premul
  · rw [C05_blend_straight]
    simp only [ite_clamp_of_mem clamp zero_le_one le_rfl, sub_self, zero_mul, sub_zero, zero_lt_one,
      if_true, one_mul, mul_zero, add_zero, div_one]
  · rw [C05_blend_premultiplied, ite_clamp_of_mem clamp zero_le_one le_rfl, sub_self, mul_zero, add_zero]

/-- Blending with alpha 0 keeps the base — premultiplied when the (premultiplied) new
sample is 0 as it must be, straight when the base is not fully transparent -/
theorem C05_blend_alpha_zero_keeps (clamp : Bool) (base new baseAlpha : K) :
    (Kernel.blend clamp false true).apply base 0 baseAlpha 0 = base ∧
    (0 < baseAlpha → (Kernel.blend clamp false false).apply base new baseAlpha 0 = base) := by
  constructor
  · rw [C05_blend_premultiplied, ite_clamp_of_mem clamp le_rfl zero_le_one, sub_zero, mul_one, zero_add]
  · intro hb
    rw [C05_blend_straight]
    simp only [ite_clamp_of_mem clamp le_rfl zero_le_one, sub_zero, one_mul, sub_sub_cancel, hb, if_true,
      zero_mul, zero_add, mul_one]
    exact mul_div_cancel_left₀ base (ne_of_gt hb)

theorem C05_mixed_alpha_in_range (clamp : Bool) (base new : K) (hb : 0 ≤ base ∧ base ≤ 1)
    (hn : 0 ≤ new ∧ new ≤ 1) :
    0 ≤ (Kernel.mixAlpha clamp false).apply base new 0 0 ∧ (Kernel.mixAlpha clamp false).apply base new 0 0 ≤ 1 := by
  rw [apply_mixAlpha, ite_clamp_of_mem clamp hn.1 hn.2]
  exact ⟨sub_nonneg.2 (mul_le_one₀ (sub_le_self 1 hn.1) (sub_nonneg.2 hb.2) (sub_le_self 1 hb.1)),
    sub_le_self 1 (mul_nonneg (sub_nonneg.2 hn.2) (sub_nonneg.2 hb.2))⟩

/-- Patches use the same arithmetic: the "below" modes are the "above" kernels with the roles of
patch and canvas exchanged. -/
theorem C05_patch_same_arithmetic (clamp premul : Bool) (base new baseAlpha newAlpha : K) :
    (Kernel.blend clamp true premul).apply base new baseAlpha newAlpha =
      (Kernel.blend clamp false premul).apply new base newAlpha baseAlpha ∧
    (Kernel.mulAdd clamp true).apply base new baseAlpha newAlpha =
      (Kernel.mulAdd clamp false).apply new base newAlpha baseAlpha ∧
    (Kernel.mixAlpha clamp true).apply base new baseAlpha newAlpha =
      (Kernel.mixAlpha clamp false).apply new base newAlpha baseAlpha :=
  ⟨rfl, rfl, rfl⟩

example : (Kernel.blend true false false).apply (1/2 : ℚ) (1/4) (1/2) 2 = 1/4 := by
  decide +kernel

example : (Kernel.blend false false false).apply (1 : ℚ) (1/5) (1/2) (1/2) = 7/15 := by
  decide +kernel

example : (Kernel.mul true).apply (3 : ℚ) (-2) 0 0 = 0 ∧ (Kernel.mul false).apply (3 : ℚ) (-2) 0 0 = -6 := by
  decide +kernel

end Kernels

/-- With no extra channels there is no alpha: `Blend` is `Replace` and `MulAdd` is `Add`
(the `new: None` arms of `blend_single`). -/
theorem C05_no_extra_channels_degenerate (info : BlendInfo) (c cc : Nat) (premul : Option Bool) (hc : c < cc) :
    (info.mode = .blend → kernelFor false info c cc premul = .replace) ∧
    (info.mode = .mulAdd → kernelFor false info c cc premul = .add) := by
  have hne : (c == info.alpha + cc) = false := by
    rw [beq_eq_false_iff_ne]
    omega
  constructor <;> intro h <;> simp [kernelFor, h, hne]

section Generic
variable {V : Type}

/-- `n` may exceed the number of frames: then both sides are the final state. -/
theorem C05_refs_bookkeeping_eq_spec (C : Cfg V) (n s : Nat) :
    (stateAfter C n).slots s = ((ctxAfter C n).reference s).map (valOf C) :=
  (book_after_min C n).slots s

theorem C05_refs_slot_holds_last_saved (C : Cfg V) (n s : Nat) (hn : n ≤ C.hdrs.length) :
    (ctxAfter C n).reference s = slotFrame C n s ∧ ∀ j, refOf C n s = some j → j < n :=
  ⟨(book_after C n hn).reference s, fun j h => refOf_lt C n s j h⟩

theorem C05_keyframe_detection (C : Cfg V) (n : Nat) (hn : n ≤ C.hdrs.length) :
    (ctxAfter C n).keyframes =
      (List.range n).filter (fun i =>
        ((C.hdr i).ty == .regular || (C.hdr i).ty == .skipProgressive) &&
        ((C.hdr i).isLast || (C.hdr i).duration != 0)) := by
  exact (book_after C n hn).keyframes

/-- The lazy renderer equals the sequential compositor: for every image, every request sequence
`ks` (any order, with repetitions, out-of-range indices included) and every behaviour of
`try_take_blended` (`steal`), the answers are the Spec canvases of the requested keyframes. -/
theorem C05_lazy_eq_sequential (C : Cfg V) (steal : Nat → Nat → Bool) (ks : List Nat) :
    (renderMany C steal ks St.init).1 = ks.map (canvasAt C) :=
  (renderMany_spec C steal ks St.init (Inv.init C)).1

/-- A stolen or reset handle is re-rendered to the same value: after any request history `ks`,
dropping any set of cached compositions (`drop`) changes no later answer. -/
theorem C05_lazy_rerender_same_value (C : Cfg V) (steal steal' : Nat → Nat → Bool) (ks ks' : List Nat)
    (drop : Nat → Bool) :
    (renderMany C steal' ks'
        ⟨fun j => if drop j then .none else (renderMany C steal ks St.init).2.get j⟩).1
      = ks'.map (canvasAt C) :=
  (renderMany_spec C steal' ks' _
    ((renderMany_spec C steal ks St.init (Inv.init C)).2.drop drop)).1

end Generic

/-! ### Non-vacuity: a concrete four-frame animation whose canvases are "the frames composed" -/

/-- frame 0 saved to slot 1 (duration 0); frame 1 a keyframe (duration 2) adding onto slot 1 and
saved to slot 1 again (so it may steal frame 0's buffer and resets frame 0's handle); frame 2
reference-only into slot 3; frame 3 the last frame, multiplying onto slot 3 (may steal frame 2's
buffer). Values: the list of frame indices that went into the canvas. -/
def exampleCfg : Cfg (List Nat) where
  img := { w := 2, h := 2, colorChannels := 1, ecAlphaAssoc := [] }
  hdrs := [ { isLast := false, saveAsRef := 1, w := 2, h := 2 },
            { isLast := false, saveAsRef := 1, duration := 2, w := 2, h := 2,
              blend := { mode := .add, source := 1 } },
            { ty := .referenceOnly, isLast := false, saveAsRef := 3, w := 2, h := 2 },
            { isLast := true, w := 2, h := 2, blend := { mode := .mul, source := 3 } } ]
  compose := fun i bases => i :: (bases.filterMap id).flatten

def isEmptyHandle {V : Type} : HState V → Bool
  | .none => true
  | _ => false

example : (ctxOf exampleCfg.hdrs).keyframes = [1, 3] := by decide +kernel
example : (List.range 4).map (refOf exampleCfg 3) = [none, some 1, none, some 2] := by decide +kernel
example : (List.range 4).map (canvasAt exampleCfg) = [some [1, 0], some [3, 2], none, none] := by decide +kernel
example : (renderMany exampleCfg (fun _ _ => true) [1, 0, 1, 7, 0] St.init).1
    = [some [3, 2], some [1, 0], some [3, 2], none, some [1, 0]] := by decide +kernel
/-- after both keyframes were asked for, the handle of frame 0 is empty again (reset by frame 1,
whether or not stealing succeeds) and the handle of frame 2 is empty iff frame 3 stole its buffer -/
example : (List.range 4).map (fun j => isEmptyHandle ((renderMany exampleCfg (fun _ _ => false) [0, 1] St.init).2.get j))
    = [true, false, false, false] := by decide +kernel
example : (List.range 4).map (fun j => isEmptyHandle ((renderMany exampleCfg (fun _ _ => true) [0, 1] St.init).2.get j))
    = [true, false, true, false] := by decide +kernel

section Pixels
variable {α : Type} [Scalar α]
open Px

theorem C05_spec_sample (img : ImgInfo) (ct : List (Plane α) → List (Plane α)) (f : Frame α)
    (bases : List (Option (Canvas α))) (c x y : Nat)
    (hc : c < img.colorChannels + img.ecAlphaAssoc.length) (hx : x < img.w) (hy : y < img.h)
    (hns : f.hdr.skipBlending img = false) :
    ((blendFrame img ct f bases).getD c {}).get x y =
      (let hdr := f.hdr
       let cc := img.colorChannels
       let info := hdr.infoFor cc c
       let k := kernelFor (img.ecAlphaAssoc.length != 0) info c cc (img.ecAlphaAssoc.getD info.alpha none)
       let base := bases.getD c none
       let chans := inputChans img ct f
       let fx := (x : Int) - hdr.x0
       let fy := (y : Int) - hdr.y0
       if 0 ≤ fx ∧ fx < hdr.w ∧ 0 ≤ fy ∧ fy < hdr.h then
         k.apply (chanOf base c x y) ((chans.getD c {}).getI fx fy)
           (chanOf base (cc + info.alpha) x y) ((chans.getD (cc + info.alpha) {}).getI fx fy)
       else chanOf base c x y) := by
  unfold blendFrame
  simp only
  rw [getD_map_range _ _ _ _ hc]
  simp only [hns, Bool.false_eq_true, if_false]
  rw [Plane.get_ofFn _ _ _ _ _ hx hy]

/-- `skipBlending`: the frame resets the canvas (full-size `Replace`) or is not a normal frame. -/
theorem C05_spec_sample_unblended (img : ImgInfo) (ct : List (Plane α) → List (Plane α)) (f : Frame α)
    (bases : List (Option (Canvas α))) (c x y : Nat)
    (hc : c < img.colorChannels + img.ecAlphaAssoc.length) (hx : x < img.w) (hy : y < img.h)
    (hs : f.hdr.skipBlending img = true) :
    ((blendFrame img ct f bases).getD c {}).get x y =
      ((inputChans img ct f).getD c {}).getI ((x : Int) - f.hdr.x0) ((y : Int) - f.hdr.y0) := by
  unfold blendFrame
  simp only
  rw [getD_map_range _ _ _ _ hc]
  simp only [hs, if_true]
  rw [Plane.get_ofFn _ _ _ _ _ hx hy]

/-- `patchPixel`: the eight patch modes, channel by channel, the alpha channel read as already
updated. -/
theorem C05_patch_target_sample (img : ImgInfo) (src : List (Plane α)) (p : PatchRef) (t : PatchTarget)
    (chans : List (Plane α)) (c x y : Nat) (hc : c < chans.length)
    (hx : x < (chans.getD c {}).w) (hy : y < (chans.getD c {}).h) :
    ((applyTarget img src p t chans).getD c {}).get x y =
      (let ix := (x : Int) - t.x
       let iy := (y : Int) - t.y
       if 0 ≤ ix ∧ ix < p.w ∧ 0 ≤ iy ∧ iy < p.h then
         (patchPixel img.colorChannels img.ecAlphaAssoc t.infos (chans.map fun q => q.get x y)
            (src.map fun q => q.get (p.x0 + ix.toNat) (p.y0 + iy.toNat))).getD c Scalar.zero
       else (chans.getD c {}).get x y) := by
  unfold applyTarget
  rw [getD_map_range _ _ _ _ hc, Plane.get_ofFn _ _ _ _ _ hx hy]

theorem C05_patch_mode_none_keeps (cc : Nat) (assoc : List (Option Bool)) (infos : List (PatchMode × Nat × Bool))
    (base rv : List α) (h : ∀ i, (infos.getD i (.none, 0, false)).1 = .none) :
    patchPixel cc assoc infos base rv = base := by
  unfold patchPixel
  have hm : ∀ idx, (if idx < cc then infos.getD 0 (PatchMode.none, 0, false)
      else infos.getD (idx - cc + 1) (PatchMode.none, 0, false)).1 = .none := by
    intro idx
    split <;> exact h _
  simp only [hm, patchKernelFor]
  -- every step of the fold over the channels returns its accumulator
  generalize List.range base.length = l
  induction l with
  | nil => rfl
  | cons i l ih => exact ih

/-- On an image none of whose frames has a patch dictionary the patch-aware composition
(`keyframesP`, the specification the correspondence run uses for images with patches) IS the
sequential compositor `keyframes` of the theorems above. -/
theorem C05_patch_free_fold_is_compositor (img : ImgInfo) (fs : List (Frame α)) :
    keyframesP img (fs.map noPatch) = keyframes img fs := by
  unfold keyframesP keyframes
  rw [cutAtLastP_noPatch]
  exact (fold_noPatch img (mkCfg img id fs) rfl (cutAtLast fs) {} {}
    (fun k => congrArg (fun i => blendFrame img id ((cutAtLast fs).getD i {})) (Nat.zero_add k)) ⟨rfl, rfl⟩).2.symm

end Pixels

/-! non-vacuity of the pixel statements: a frame half outside the canvas, added onto a filled slot -/
section PixelExample
open Px
/-- integers as scalars, for concrete examples only (no division) -/
@[reducible] def intScalar : Scalar Int where
  zero := 0
  one := 1
  add a b := a + b
  sub a b := a - b
  mul a b := a * b
  recip _ := 0
  isPos x := decide (0 < x)
  clamp01 x := if x < 0 then 0 else if 1 < x then 1 else x
  ofSample _ v := v
attribute [local instance] intScalar

def exImg : ImgInfo := { w := 3, h := 1, colorChannels := 1, ecAlphaAssoc := [] }
def exFrame : Frame Int :=
  { hdr := { haveCrop := true, x0 := -1, y0 := 0, w := 2, h := 1, blend := { mode := .add, source := 2 } },
    chans := [{ w := 2, h := 1, data := #[100, 200] }] }
def exBase : Canvas Int := [{ w := 3, h := 1, data := #[1, 2, 3] }]

example : exFrame.hdr.skipBlending exImg = false := by decide +kernel
example : (List.range 3).map (fun x => ((blendFrame exImg id exFrame [some exBase]).getD 0 {}).get x 0) = [201, 2, 3] := by
  decide +kernel
def exPatch : PatchRef :=
  { ref := 1, x0 := 1, y0 := 0, w := 2, h := 1,
    targets := [{ x := 2, y := 0, infos := [(.add, 0, false)] }, { x := 0, y := 0, infos := [(.replace, 0, false)] }] }
def exSource : List (Plane Int) := [{ w := 4, h := 1, data := #[7, 8, 9, 10] }]

example : (List.range 3).map (fun x =>
    ((applyPatches exImg (fun _ => exSource) [exPatch] [{ w := 3, h := 1, data := #[1, 2, 3] }]).getD 0 {}).get x 0)
    = [8, 9, 11] := by decide +kernel
end PixelExample

end Jxl.Blend
