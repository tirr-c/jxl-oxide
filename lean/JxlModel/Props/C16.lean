import JxlModel.Proofs.Dct2dFull
import JxlModel.Proofs.DctTables
/-!
# C16 — block transforms match their mathematical definition

Object: the polymorphic model `Jxl.Dct` (`Model/Dct.lean`) of
`jxl-render/src/vardct/generic/dct.rs` (+ the LF injection of `transform_common.rs`), instantiated at
exact reals (`Proofs/Dct.lean`: `sqrt2 = √2`, `cosPi a b = cos(aπ/b)`, therefore
`secHalf n i = 1/(2cos((2i+1)π/(2n)))` and `scaleF c N = cos(cπ/2N)·cos(cπ/N)·cos(2cπ/N)` exactly).
Vectors are arrays read with `rd` (zero outside), so the statements need no length hypotheses on the
inputs; every statement is for all coefficient vectors / blocks.

Everything is over ℝ except `C16_dct2d_transposes_cancel`, which holds for any scalar type (so also
for `f32`/`f64` executions). `C16_dct2d_eq_def` includes all special-case branches of `dct_2d`
(1×1, 2×1, 1×2, 2×2, h = 1, w = 1, h = 2, w = 2).

NOT covered by proof (covered only by the differential run of `tools/props/c16.py`, i.e. testing):
* floating-point rounding: the theorems are about exact real arithmetic; the run measures
  `|f32 implementation − binary64 definition| ≤ 1e-4 · max|block|`;
* that the literal tables of `dct_common.rs` (`SEC_HALF_SMALL`, `SCALE_F`, `0.5411961`, `1.306563`,
  the SIMD copies) and the `f32` run-time `sec_half` tables for n ≥ 64 are the numbers
  `secHalf` / `scaleF` (compared numerically by the ops `sec` / `scalef`; proved only for the two
  entries of `sec_half(4)`, `C16_sec_table_n4_correct_partial`);
* the x86_64 kernels (lane-transposed SSE2/SSE4.1 code): compared by execution only;
* the non-DCT transforms — 2×2 pyramid (Dct2), the 4×4 / 4×8 / 8×4 splits, Hornuss, AFV0–3: no
  theorems; binary64 transcriptions in `Model/DctSmall.lean`, compared by execution;
* that forward and inverse are mutually inverse (DCT orthogonality) is not proved; it follows
  numerically from both matching their definitions in the run.
-/
open Finset Real

namespace Jxl.Dct

/-- The model's `secHalf` over the reals is the exact secant value the tables approximate. -/
theorem C16_secHalf_exact (n i : ℕ) :
    (secHalf n i : ℝ) = 1 / (2 * Real.cos ((2 * i + 1) * π / (2 * n))) :=
  secHalf_real n i

/-- `istep`: de-interleave, running sum, `√2`, two recursive calls, `sec_half` scaling, butterfly. -/
theorem C16_idct_step (m : ℕ) (hm : 0 < m) (rec : Array ℝ → Array ℝ)
    (hrec : ∀ c : Array ℝ, ∀ j < m, rd (rec c) j = idctDef m (rd c) j) :
    ∀ c : Array ℝ, ∀ j < 2 * m, rd (istep (2 * m) rec c) j = idctDef (2 * m) (rd c) j := by
  intro c j hj
  rw [idctDef_eq_S _ (by omega)]
  refine istep_computes m rec ?_ c j hj
  intro c j hj
  rw [hrec c j hj, idctDef_eq_S _ hm]

theorem C16_idct_rec_eq_def (k : ℕ) (c : Array ℝ) (j : ℕ) (hj : j < 2 ^ k) :
    rd (idct k c) j = idctDef (2 ^ k) (rd c) j := by
  rw [idctDef_eq_S _ (by positivity)]
  exact idct_computes k c j hj

/-- The same with the cosine sum written out (no `idctDef` on the right). -/
theorem C16_idct_rec_eq_cosine_sum (k : ℕ) (c : Array ℝ) (j : ℕ) (hj : j < 2 ^ k) :
    rd (idct k c) j =
      rd c 0 + √2 * ∑ n ∈ range (2 ^ k - 1),
        rd c (n + 1) * Real.cos (((n + 1 : ℕ) : ℝ) * ((2 * j + 1) * π / (2 * (2 ^ k : ℕ)))) := by
  rw [idct_computes k c j hj]
  obtain ⟨M, hM⟩ : ∃ M, 2 ^ k = M + 1 := ⟨2 ^ k - 1, (Nat.sub_add_cancel Nat.one_le_two_pow).symm⟩
  rw [hM, S_succ, Nat.add_sub_cancel, theta]

/-- `fstep`: butterfly, `sec_half` scaling, two recursive calls, `√2`, pairwise sums, interleave. -/
theorem C16_fdct_step (m : ℕ) (hm : 0 < m) (rec : Array ℝ → Array ℝ)
    (hrec : ∀ x : Array ℝ, ∀ n < m, rd (rec x) n = fdctDef m (rd x) n) :
    ∀ x : Array ℝ, ∀ n < 2 * m, rd (fstep (2 * m) rec x) n = fdctDef (2 * m) (rd x) n := by
  intro x n hn
  rw [fdctDef_eq_F]
  refine fstep_computes m rec ?_ x n hn
  intro x n hn
  rw [hrec x n hn, fdctDef_eq_F]

theorem C16_fdct_rec_eq_def (k : ℕ) (x : Array ℝ) (n : ℕ) (hn : n < 2 ^ k) :
    rd (fdct k x) n = fdctDef (2 ^ k) (rd x) n := by
  rw [fdctDef_eq_F]
  exact fdct_computes k x n hn

theorem C16_dct2d_transposes_cancel {α : Type} [Scalar α] (dir : Dir) (g : Grid α) (a b : ℕ)
    (ha : 2 ≤ a) (hb : 2 ≤ b) (hw : g.w = 2 ^ a) (hh : g.h = 2 ^ b)
    (x y : ℕ) (hx : x < g.w) (hy : y < g.h) :
    (dct2d dir g).rd x y = (colPass dir (rowPass dir g)).rd x y :=
  dct2d_separable dir g (hw ▸ two_lt_two_pow ha) (hh ▸ two_lt_two_pow hb)
    (hw ▸ hh ▸ two_pow_dvd_total a b) x y hx hy

theorem C16_dct2d_eq_def (g : Grid ℝ) (a b : ℕ) (hw : g.w = 2 ^ a) (hh : g.h = 2 ^ b)
    (x y : ℕ) (hx : x < g.w) (hy : y < g.h) :
    (dct2d .inverse g).rd x y = (idct2dDef g).rd x y ∧
    (dct2d .forward g).rd x y = (fdct2dDef g).rd x y := by
  rw [dct2d_eq_D2 .inverse g a b hw hh x y hx hy, dct2d_eq_D2 .forward g a b hw hh x y hx hy,
    idct2dDef_eq_D2 g x y hx hy, fdct2dDef_eq_D2 g x y hx hy]
  exact ⟨rfl, rfl⟩

/-- LF injection: the LLF coefficients the code computes (forward `dct_2d` of the LF samples,
divided by `scale_f(y)·scale_f(x)`; plain copy for a single sample) are the definition. -/
theorem C16_lf_injection_spec (lf : Grid ℝ) (a b : ℕ) (hw : lf.w = 2 ^ a) (hh : lf.h = 2 ^ b)
    (x y : ℕ) (hx : x < lf.w) (hy : y < lf.h) :
    (llfFromLf lf).rd x y = (llfDef lf).rd x y := by
  unfold llfFromLf llfDef
  rw [Grid.rd_tab _ _ _ _ _ hx hy, fdct2dDef_eq_D2 _ _ _ hx hy]
  by_cases h1 : lf.w * lf.h = 1
  · -- a single sample is copied: its forward DCT is itself and `scale_f(0) = 1`
    have hw1 : lf.w = 1 := Nat.eq_one_of_mul_eq_one_right h1
    have hh1 : lf.h = 1 := Nat.eq_one_of_mul_eq_one_left h1
    obtain rfl : x = 0 := by omega
    obtain rfl : y = 0 := by omega
    rw [if_pos h1, D2, hw1, hh1, D1_one, D1_one, scaleF_zero]
    simp
  · rw [if_neg h1, Grid.rd_tab _ _ _ _ _ hx hy, dct2d_eq_D2 .forward lf a b hw hh x y hx hy]

/-- A whole DCT-family varblock (LF injection, then inverse `dct_2d`) equals its definition
(`varblockDef`: LLF by the forward cosine sums, then the inverse cosine sums along rows and columns),
for every power-of-two LF shape and block shape — in particular for the 18 DCT types. -/
theorem C16_varblock_dct_eq_def (lf coeff : Grid ℝ) (a b a' b' : ℕ)
    (hlw : lf.w = 2 ^ a') (hlh : lf.h = 2 ^ b') (hw : coeff.w = 2 ^ a) (hh : coeff.h = 2 ^ b)
    (x y : ℕ) (hx : x < coeff.w) (hy : y < coeff.h) :
    (varblockDct lf coeff).rd x y = (varblockDef lf coeff).rd x y := by
  rw [varblockDct, varblockDef, dct2d_eq_D2 .inverse (injectLf lf coeff) a b hw hh x y hx hy,
    idct2dDef_eq_D2 (injectDef lf coeff) x y hx hy]
  -- both grids have the sides of `coeff` (a bare `rfl` would first try to identify the two grids)
  refine D2_congr _ (injectLf lf coeff) (injectDef lf coeff) (Eq.refl coeff.w) (Eq.refl coeff.h)
    (fun u (hu : u < coeff.w) v (hv : v < coeff.h) => ?_) x y
  rw [injectLf, injectDef, Grid.rd_tab _ _ _ _ _ hu hv, Grid.rd_tab _ _ _ _ _ hu hv]
  by_cases hc : u < lf.w ∧ v < lf.h
  · rw [if_pos hc, if_pos hc, C16_lf_injection_spec lf a' b' hlw hlh u v hc.1 hc.2]
  · rw [if_neg hc, if_neg hc]

/-- The two entries of `sec_half(4)` and their single-precision copies in `dct4` / the SSE kernels
are the exact secant values up to 2·10⁻¹⁰ resp. 10⁻⁷ (closed forms `cos(π/8) = √(2+√2)/2`,
`sin(π/8) = √(2-√2)/2` and rational bounds on `√2`). The entries of `SEC_HALF_SMALL` for
n = 8, 16, 32 would need bounds on `cos(kπ/64)`; they and the other tables are compared numerically
in the run only. -/
theorem C16_sec_table_n4_correct_partial :
    |(secHalf 4 0 : ℝ) - 0.541196100146197| < 2e-10 ∧
    |(secHalf 4 1 : ℝ) - 1.3065629648763764| < 2e-10 ∧
    |(secHalf 4 0 : ℝ) - 0.5411961| < 1e-7 ∧
    |(secHalf 4 1 : ℝ) - 1.306563| < 1e-7 := by
  obtain ⟨a1, a2⟩ := sec4_0_bounds
  obtain ⟨b1, b2⟩ := sec4_1_bounds
  exact ⟨abs_sub_lt_of_bounds a1 a2 (by norm_num) (by norm_num),
    abs_sub_lt_of_bounds b1 b2 (by norm_num) (by norm_num),
    abs_sub_lt_of_bounds a1 a2 (by norm_num) (by norm_num),
    abs_sub_lt_of_bounds b1 b2 (by norm_num) (by norm_num)⟩

/-! The theorems at concrete inputs, and two evaluations that pin what the model computes: the
second output of `idct 1` is the difference, and the forward `mul` of `dct_2d` is `1/2`. -/
example : (5 : ℕ) < 2 ^ 3 ∧
    rd (idct 3 (#[3, 0, 0, -1, 0, 0.3, 0.2, 0] : Array ℝ)) 5 =
      idctDef 8 (rd (#[3, 0, 0, -1, 0, 0.3, 0.2, 0] : Array ℝ)) 5 :=
  ⟨by norm_num, C16_idct_rec_eq_def 3 _ 5 (by norm_num)⟩

example (a b : ℝ) : rd (idct 1 #[a, b]) 1 = a - b := rfl

/-- a Dct16x8-shaped block (8 wide, 16 high, LF 1 × 2) satisfies the hypotheses of the varblock
theorem -/
example (lf coeff : Array ℝ) :
    (varblockDct ⟨1, 2, lf⟩ ⟨8, 16, coeff⟩).rd 7 15 = (varblockDef ⟨1, 2, lf⟩ ⟨8, 16, coeff⟩).rd 7 15 :=
  C16_varblock_dct_eq_def ⟨1, 2, lf⟩ ⟨8, 16, coeff⟩ 3 4 0 1 rfl rfl rfl rfl 7 15 (by norm_num)
    (by norm_num)

example : (dirMul Dir.forward : ℝ) = 1 / 2 := rfl

end Jxl.Dct
