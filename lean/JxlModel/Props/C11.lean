import JxlModel.Proofs.Feed
import JxlModel.Gen.EofChain
import JxlModel.Props.C09
/-!
# C11 — every prefix of a valid stream means "need more data", never corruption

Same model as C09 (`Model/Feed.lean`), plus:

* `Gen/EofChain.lean` — **generated on every run** by `tools/translate_c11.py` from the `Error`
  enums and `unexpected_eof()` functions of the seven decoder crates.  `C11_eof_chain_*` prove that
  each transcribed function equals the structural specification "the innermost wrapped error is
  `io::ErrorKind::UnexpectedEof`": no wrapping path is missing from the hand-written chains
  (`jxl_frame::Error::unexpected_eof` spells out eight nested patterns).
* the `allow_partial` derivations and `Modular::decode`'s partial rule (`C11_partial_rule`,
  `C11_allow_partial_derivation`, `C11_single_section_flag`);
* `render_loading_frame` / `render_loading_keyframe` result cases
  (`C11_loading_render_dims_or_needmore`);
* prefixes (`C11_prefix_*`): initialisation and feeding on a prefix, and render attempts interleaved
  with feeding, with what an attempt can leave behind (`all_group_offsets.has_error`, the kept
  render cache).

Section decoders are abstract (`SecParsers`): how `LfGlobal::parse` classifies on the bytes a
truncated first section has received, and whether an attempt keeps a cache.  The statement
"none of this changes the final result" needs an obligation on them, `CutClean` — *a truncated
section never yields a non-EOF error, and a failed attempt keeps no `LfGlobal` parsed from
truncated data* — which is stated explicitly, shown necessary on the model
(`C11_hard_error_on_truncated_section_poisons`, `C11_stale_cache_poisons`), and checked on the real
code by the differential run of `tools/props/c11.py` (every byte cut, render attempts at random
subsets of cuts, then the rest of the bytes: final render = clean decode).

## Defect found by this property (fixed in /repo, `fix: render a completely loaded frame with its own references in render_loading_frame`)
`RenderContext::render_loading_frame` rendered the progressive frame found by `loading_frame()`
against `self.reference` / `self.lf_frame` — the slots *as later frames left them* — also when that
frame is already completely loaded: a valid stream cut before the header of its last frame
panicked (`assertion failed: bottom <= self.height` in jxl-grid) or blended against the wrong
frame (`corpus/c11/loading_refs_overwritten.json`).  This is outside the feeding model (it is in
the composition of the render); in `C11_loading_render_dims_or_needmore` it surfaces as `fail`.
-/
namespace Jxl.Feed
open Jxl.Container (Bytes)
open Jxl.EofChain
variable {Hdr : Type}

/-- case-split an error value down to its innermost wrapped error (nesting depth ≤ 5) -/
macro "eof_chain_cases" e:ident : tactic =>
  `(tactic| (cases $e:ident <;> (try rfl) <;> (rename_i x1; cases x1 <;> (try rfl) <;>
      (rename_i x2; cases x2 <;> (try rfl) <;> (rename_i x3; cases x3 <;> (try rfl) <;>
        (rename_i x4; cases x4 <;> (try rfl) <;> (rename_i x5; cases x5 <;> rfl))))))) 

theorem C11_eof_chain_bitstream (e : BitstreamError) : e.unexpectedEof = e.rootEof := by
  eof_chain_cases e

theorem C11_eof_chain_coding (e : CodingError) : e.unexpectedEof = e.rootEof := by
  eof_chain_cases e

theorem C11_eof_chain_modular (e : ModularError) : e.unexpectedEof = e.rootEof := by
  eof_chain_cases e

theorem C11_eof_chain_vardct (e : VarDctError) : e.unexpectedEof = e.rootEof := by
  eof_chain_cases e

/-- `jxl_frame::Error::unexpected_eof` enumerates its wrapping paths by hand; all of them are
there: it agrees with the structural definition on every error value. -/
theorem C11_eof_chain_frame (e : FrameError) : e.unexpectedEof = e.rootEof := by
  eof_chain_cases e

theorem C11_eof_chain_color (e : ColorError) : e.unexpectedEof = e.rootEof := by
  eof_chain_cases e

theorem C11_eof_chain_render (e : RenderError) : e.unexpectedEof = e.rootEof := by
  cases e <;> simp only [RenderError.unexpectedEof, RenderError.rootEof, C11_eof_chain_bitstream,
    C11_eof_chain_coding, C11_eof_chain_modular, C11_eof_chain_frame, C11_eof_chain_color]

/-- a short read anywhere below is "need more data" at the API: a render error wrapping a frame
error wrapping a Modular error wrapping an entropy-decoder error wrapping the I/O error -/
example : (RenderError.frame (.modular (.decoder (.bitstream (.io true))))).unexpectedEof = true ∧
    (RenderError.frame (.varDct (.modular (.decoder (.bitstream (.io true)))))).unexpectedEof = true ∧
    (RenderError.frame .hadError).unexpectedEof = false ∧
    (RenderError.frame (.modular .invalidMaTree)).unexpectedEof = false := by decide

/-- In a section that may be partial an end of data never surfaces as an error, and a hard error
always does; in a complete section both do. -/
theorem C11_partial_rule (o : SecOut) :
    modularDecode true o ≠ .errEof ∧
    (modularDecode true o = .errHard ↔ o = .hard) ∧
    (modularDecode false o = .full ↔ o = .complete) ∧
    (modularDecode false o = .errEof ↔ o = .eof) := by
  cases o <;> simp [modularDecode]

/-- `allow_partial` is exactly "the section has not received all its TOC-declared bytes" for
multi-section frames, "the frame's only section is not complete" for single-section frames. -/
theorem C11_allow_partial_derivation (got size idx : Nat) :
    (allowPartialMulti got size = true ↔ got < size) ∧
    (allowPartialSingle idx = true ↔ idx = 0) := by
  simp [allowPartialMulti, allowPartialSingle]

/-- The single-section cache: while the flag is clear and the frame is loading, an end of data is
reported as such (or swallowed as a partial image) and leaves the flag clear; exactly a hard error
sets it; once set, every later attempt answers `HadError`, whatever has arrived meanwhile. -/
theorem C11_single_section_flag (o : SecOut) (loaded : Bool) (k : Nat) (hk : k ≠ 0) :
    ((lfGlobalSingle 0 false o).2 = 0 ↔ o ≠ .hard) ∧
    lfGlobalSingle k loaded o = (.hadError, k) := by
  cases o <;> simp [lfGlobalSingle, modularDecode, hk]

/-- Decision logic of `render_loading_keyframe`: if nothing on its path fails with an error other
than end-of-data / `IncompleteFrame`, the answer is an image (the grid of the requested region,
i.e. the full image dimensions) or need-more-data. -/
theorem C11_loading_render_dims_or_needmore (v : LoadingView)
    (h1 : v.render ≠ .error .other) (h2 : v.compose ≠ .error .other)
    (h3 : v.inProgress ≠ some (.error .other)) (h4 : v.postprocess ≠ .error .other) :
    renderLoading v = .image ∨ renderLoading v = .needMore := by
  cases h : renderLoading v with
  | image => exact Or.inl rfl
  | needMore => exact Or.inr rfl
  | fail => exact absurd h (renderLoading_ne_fail v h1 h2 h3 h4)

/-- a view with a progressive frame whose first section is truncated, nothing rendered before -/
example : renderLoading ⟨true, true, false, .error .needMore, .ok (), none, .ok ()⟩ = .needMore ∧
    renderLoading ⟨true, true, false, .ok (), .ok (), none, .ok ()⟩ = .image ∧
    renderLoading ⟨false, false, false, .ok (), .ok (), some (.ok ()), .ok ()⟩ = .image ∧
    renderLoading ⟨true, true, true, .ok (), .error .other, none, .ok ()⟩ = .fail := by decide

/-- Initialisation on a prefix of a stream whose header parses: need-more-data, or the very same
success (same header, same `bytes_read`); never an error. -/
theorem C11_prefix_init_ok (P : Parsers Hdr) (hP : P.Stable) (cs : Bytes) (hd : Hdr) (off : Nat)
    (hv : initParse P cs = .ok hd off) (k : Nat) :
    initParse P (cs.take k) = .needMore ∨ initParse P (cs.take k) = .ok hd off :=
  hv ▸ (initParse_stable P hP).take cs k

/-- the same for `try_init` as a whole (header, preview skip, and handing the rest to
`feed_bytes_inner`): not dead on the whole ⇒ not dead on any prefix -/
theorem C11_prefix_try_init_not_dead (P : Parsers Hdr) (hP : P.Stable) (cs : Bytes) (k : Nat)
    (hv : tryInit P (.uninit cs) ≠ .dead) : tryInit P (.uninit (cs.take k)) ≠ .dead := by
  intro hd
  have := tryInit_addCs P hP (.uninit (cs.take k)) (cs.drop k)
  rw [hd, addCs, List.take_append_drop] at this
  exact hv this.symm

/-- Feeding never returns an error on a prefix: if feeding `stream` in one call from a session
does not kill it, then feeding any chunking of any prefix of `stream` does not either (container
layer, initialisation and frame loading together). -/
theorem C11_prefix_feed_never_errs (P : Parsers Hdr) (hP : P.Stable) (S : Sess Hdr) (stream : Bytes)
    (hv : (S.push P stream).dec ≠ .dead) (chunks : List Bytes) (rest : Bytes)
    (hpre : chunks.flatten ++ rest = stream) :
    (S.pushAll P chunks).dec ≠ .dead := by
  subst hpre
  intro hd
  cases chunks with
  | nil => exact hv (by rw [Sess.push_dead P S _ hd]; exact hd)
  | cons c cs =>
    -- chunks followed by the rest is a chunking of the whole
    have h1 := Sess.pushAll_flatten P hP (cs ++ [rest]) S c
    have h2 : S.pushAll P (c :: (cs ++ [rest])) = (S.pushAll P (c :: cs)).push P rest := by
      rw [← List.cons_append, Sess.pushAll_append]; rfl
    rw [h2, Sess.push_dead P _ rest hd] at h1
    have := (Sess.equiv_dead_iff h1).mp hd
    apply hv
    simpa [List.flatten_append] using this

/-- **Attempts do not change the final result.** Any sequence of feed calls and render attempts
whose chunks make up `stream`, under the obligation `CutClean` on the section decoders: the final
observable is that of feeding `stream` in one call, no render attempt left a flag or a cache
behind (`res`), and no frame was handed to its final render with such a residue (`poisoned`). -/
theorem C11_prefix_attempts_do_not_change_final (P : Parsers Hdr) (hP : P.Stable) (Q : SecParsers)
    (stream : Bytes) (hclean : CutClean P Q stream) (ops : List Op)
    (hflat : (Op.chunks ops).flatten = stream) (hne : Op.chunks ops ≠ []) :
    (Prog.run P Q Prog.init ops).sess.obs = (Sess.init.pushAll P [stream]).obs ∧
    (Prog.run P Q Prog.init ops).res = Residue.clean ∧
    (Prog.run P Q Prog.init ops).poisoned = false := by
  subst hflat
  rw [show Prog.run P Q Prog.init ops = _ from Prog.run_inv P hP Q ops [] hclean]
  exact ⟨C09_feed_chunking_invariant P hP _ _ hne, rfl, rfl⟩

/-- The obligation is necessary (1): if the truncated only section of a frame yields a hard error
at some cut, one attempt there sets `has_error`, and the final render of that frame is
`Error::HadError` however the remaining bytes arrive. -/
theorem C11_hard_error_on_truncated_section_poisons (Q : SecParsers) (f : FrameSt) (got : Bytes)
    (r : Residue) (hs : f.info.sizes.length = 1) (hh : Q.lfGlobal f.info got = .hard) (n : Nat) :
    finalRender n (attemptOn Q f got r) = .hadError := by
  unfold attemptOn finalRender
  simp only [hs, beq_self_eq_true, if_true, hh]
  by_cases h0 : r.hasError = 0
  · simp [lfGlobalSingle, modularDecode, h0]
  · simp [lfGlobalSingle, h0]

/-- a toy section decoder that reports a hard error when it sees exactly one byte of a section (and
end of data otherwise) -/
def badQ : SecParsers := ⟨fun _ got => if got.length = 1 then .hard else .eof, fun _ _ => false⟩

/-- one frame, last, keyframe, a single section of 3 bytes -/
def oneFrame : Bytes := [0xff, 0x0a, 0x00, 0x03, 0x01, 0x03, 0x51, 0x52, 0x53]

/-- One attempt at the cut after the first section byte, then the rest of the stream: the session
is exactly that of the clean feed, but the frame went to its final render with the flag set.  An
attempt one byte later, where `badQ` reports end of data, leaves nothing. -/
theorem C11_poison_witness :
    let p := Prog.run Toy.parsers badQ Prog.init
      [.push (oneFrame.take 7), .render, .push (oneFrame.drop 7)]
    p.sess.obs = (Sess.init.pushAll Toy.parsers [oneFrame]).obs ∧ p.poisoned = true ∧
    (Prog.run Toy.parsers badQ Prog.init
      [.push (oneFrame.take 8), .render, .push (oneFrame.drop 8)]).poisoned = false := by
  decide +kernel

/-- The obligation is necessary (2): an attempt that keeps a cache whose `LfGlobal` was parsed from
fewer bytes than the section finally has makes the final render use that stale `LfGlobal`. -/
theorem C11_stale_cache_poisons (Q : SecParsers) (f : FrameSt) (got : Bytes)
    (hs : f.info.sizes.length ≠ 1) (hk : Q.keepsCache f.info got = true)
    (ho : Q.lfGlobal f.info got = .eof) (hg : got.length < f.info.sizes.headD 0) (n : Nat)
    (hn : got.length < n) :
    finalRender n (attemptOn Q f got Residue.clean) = .staleCache := by
  have hs' : (f.info.sizes.length == 1) = false := by simpa using hs
  have hg' : got.length < f.info.sizes.head?.getD 0 := by simpa using hg
  simp [attemptOn, finalRender, Residue.clean, hs', hk, ho, lfGlobalMulti, modularDecode,
    allowPartialMulti, hg', hn]

/-- a section decoder satisfying the obligation on `oneFrame` (end of data on every truncation) -/
def goodQ : SecParsers := ⟨fun fi got => if got.length < fi.sizes.headD 0 then .eof else .complete,
  fun _ _ => false⟩

/-- `CutClean` holds for it: at every cut the loading frame's truncated section is `eof` -/
example : CutClean Toy.parsers goodQ oneFrame := by
  intro k _ f got _
  refine ⟨?_, rfl⟩
  simp only [goodQ]
  split <;> simp

/-- attempts at every cut of `oneFrame`, then completion: nothing left behind -/
example :
    let ops : List Op := (oneFrame.map fun b => [Op.push [b], Op.render]).flatten
    (Prog.run Toy.parsers goodQ Prog.init ops).sess.obs = (Sess.init.pushAll Toy.parsers [oneFrame]).obs ∧
    (Prog.run Toy.parsers goodQ Prog.init ops).res = Residue.clean ∧
    (Prog.run Toy.parsers goodQ Prog.init ops).poisoned = false := by
  decide +kernel

/-- prefixes of the toy stream of C09: uninitialised, then ready, never dead -/
example : ((List.range (toyCs.length + 1)).all fun k =>
    (Sess.init.pushAll Toy.parsers [toyCs.take k]).dec != .dead) = true := by decide +kernel

end Jxl.Feed
