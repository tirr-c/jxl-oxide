import JxlModel.Proofs.JpegBits
import JxlModel.Proofs.JpegHuffman
/-!
# C17 — JPEG reconstruction is byte-exact (logic core)

What is proved here is the part of the property that lives in `jxl-jbr`'s bit-level machinery and in
the status decision; the end-to-end statement "reconstructed file = original JPEG" also depends on
VarDCT coefficient decoding, integer chroma-from-luma and marker replay, none of which is modelled
(see DESIGN.md §4 C17, *Partial*).
-/
namespace Jxl.JpegBits

/-- For every sequence of `write_huffman` / `write_raw` calls that the real writer
survives (`run ops = some s`), with each Huffman code left-aligned (`Op.WF`: at most 64 bits, nothing
below them), `finalize` returns exactly: the written bit strings concatenated MSB first, padded with
zero bits to a whole byte, packed big-endian, with `0x00` stuffed after every `0xFF`. -/
theorem C17_bitwriter_refines (ops : List Op) (hwf : ∀ op ∈ ops, op.WF) (s : BW)
    (h : run ops = some s) : finalize s = spec ops :=
  finalize_of_inv s (specBits ops) (runFrom_inv BW.new s ops [] inv_new hwf h)

/-- No call panics when every length is at most 63 (in `reconstruct/scan.rs` the lengths are at
most 16 for codes and at most 63 for refinement bits; that is read off the source, not proved). -/
theorem C17_bitwriter_no_panic (ops : List Op) (hwf : ∀ op ∈ ops, op.WF)
    (hlen : ∀ op ∈ ops, op.len ≤ 63) : ∃ s, run ops = some s :=
  runFrom_some BW.new ops [] inv_new hwf hlen

/-- `padding_bits()` is the number of bits missing to the next byte boundary of what was written
(`flush_bit_writer` writes that many itself before `finalize`). -/
theorem C17_padding_bits_correct (ops : List Op) (hwf : ∀ op ∈ ops, op.WF) (s : BW)
    (h : run ops = some s) : paddingBits s = (8 - (specBits ops).length % 8) % 8 := by
  rw [paddingBits, ← inv_length_mod s _ (runFrom_inv BW.new s ops [] inv_new hwf h), List.nil_append]

/-- `has_ff_byte` is exact for all 2^64 values: true iff one of the eight big-endian bytes is `0xFF`. -/
theorem C17_has_ff_byte_correct (v : BitVec 64) :
    hasFFByte v = true ↔ ∃ b ∈ beBytes v, b = 0xFF#8 :=
  hasFFByte_eq_true_iff v

/-! Non-vacuity: a write sequence crossing the 64-bit flush boundary with `0xFF` bytes, a
sign-extended raw value and explicit padding meets the hypotheses; its output is the expected one. -/
def exampleOps : List Op :=
  [.huff 0xFFFE000000000000#64 15, .raw 0xFFFFFFFFFFFFFFF5#64 4, .huff 0xFFFFFFFFFFFFFFF0#64 60,
   .raw 0#64 0, .raw 0x7F#64 7, .raw 1#64 2]

example : (∀ op ∈ exampleOps, op.WF) ∧ (∀ op ∈ exampleOps, op.len ≤ 63)
    ∧ (run exampleOps).map finalize = some (spec exampleOps)
    ∧ spec exampleOps = [0xFF, 0, 0xFE, 0xBF, 0xFF, 0, 0xFF, 0, 0xFF, 0, 0xFF, 0, 0xFF, 0, 0xFF, 0,
        0xFF, 0, 0xFD] := by
  -- `spec` is evaluated once: it is the expensive part
  have hspec : spec exampleOps = [0xFF, 0, 0xFE, 0xBF, 0xFF, 0, 0xFF, 0, 0xFF, 0, 0xFF, 0, 0xFF, 0,
      0xFF, 0, 0xFF, 0, 0xFD] := by decide +kernel
  rw [hspec]
  exact ⟨wf_of_all_wfBool _ (by decide +kernel), by decide, by decide +kernel, rfl⟩

/-- Writing 64 bits into an empty accumulator is the one place a call within `len ≤ 64` panics. -/
example : run [.huff 0xFFFFFFFFFFFFFFFF#64 64] = none ∧ run [.raw 1#64 1, .huff 0#64 64] ≠ none := by
  decide

example : hasFFByte 0x00FF000000000000#64 = true ∧ hasFFByte 0xFEFEFEFEFEFEFEFE#64 = false
    ∧ hasFFByte 0x0100FE0100FE0100#64 = false := by decide

/-- For every table the format means to describe (`ValidTable`: 17 counts, none of length 0, one
value per count with the sentinel last, Kraft's inequality, distinct byte symbols) `build` does
not panic, and `lookup` of the `k`-th symbol returns the `k`-th sorted length together with the
canonical JPEG code word `Σ_{j<k} 2^(l_k - l_j)` left-aligned in 64 bits; every other symbol
fails to look up. -/
theorem C17_huffman_build_canonical (counts values : List Nat) (hv : ValidTable counts values) :
    ∃ t, build counts values = some t ∧ (codeLengths counts).length + 1 = values.length ∧
      (∀ k, k < (codeLengths counts).length → lookup t (values.getD k 0)
        = some ((codeLengths counts).getD k 0,
            BitVec.ofNat 64 (canonCode (codeLengths counts) k) <<< (64 - (codeLengths counts).getD k 0))) ∧
      (∀ s, s ∉ values.dropLast → lookup t s = none) := by
  have hlen := (codeLengths_valid counts values hv).1
  refine ⟨_, build_valid counts values hv, hlen, fun k hk => ?_,
    fun s hs => by rw [lookup_built counts values hv, if_neg hs]⟩
  have hk' : k < values.dropLast.length := by rw [List.length_dropLast]; omega
  have e : values.getD k 0 = values.dropLast[k] := by
    rw [List.getElem_dropLast, getD_eq_getElem]
  rw [lookup_built counts values hv, e, if_pos (List.getElem_mem hk'), hv.nodup.idxOf_getElem k hk']

/-- The canonical code of a valid table is a prefix code: every code word fits its length and is
not all ones (the sentinel keeps that word free), lengths do not decrease, and a later word cut to
the length of an earlier one is strictly larger than it — so no word is a prefix of another. -/
theorem C17_huffman_prefix_free (counts values : List Nat) (hv : ValidTable counts values) :
    (∀ k, k < (codeLengths counts).length →
      1 ≤ (codeLengths counts).getD k 0 ∧ (codeLengths counts).getD k 0 ≤ 16 ∧
      canonCode (codeLengths counts) k + 1 < 2 ^ (codeLengths counts).getD k 0) ∧
    (∀ j k, j < k → k < (codeLengths counts).length →
      (codeLengths counts).getD j 0 ≤ (codeLengths counts).getD k 0 ∧
      canonCode (codeLengths counts) j
        < canonCode (codeLengths counts) k
            / 2 ^ ((codeLengths counts).getD k 0 - (codeLengths counts).getD j 0)) := by
  obtain ⟨_, hs, hr, hk16, _⟩ := codeLengths_valid counts values hv
  refine ⟨fun k hk => ?_, code_lt_truncated _ hs⟩
  have hk1 := hr _ (List.getElem_mem hk)
  rw [← getD_eq_getElem _ k hk (d := 0)] at hk1
  exact ⟨hk1.1, hk1.2, code_fits _ hs 16 (fun x hx => (hr x hx).2) hk16 k hk⟩

/-- Prefix-freeness of the table `build` returns, on the words the bit writer is given: for two
different symbols that both look up, the shorter word is not the beginning of the longer one (the
first `l1` bits of word 2, as a number, differ from word 1). -/
theorem C17_huffman_built_prefix_free (counts values : List Nat) (hv : ValidTable counts values)
    (t : Table) (hb : build counts values = some t) (s1 s2 l1 l2 : Nat) (b1 b2 : BitVec 64)
    (hne : s1 ≠ s2) (h1 : lookup t s1 = some (l1, b1)) (h2 : lookup t s2 = some (l2, b2))
    (hle : l1 ≤ l2) : b2 >>> (64 - l1) ≠ b1 >>> (64 - l1) := by
  obtain ⟨k1, hk1, hv1, rfl, rfl⟩ := lookup_position counts values hv t hb s1 l1 b1 h1
  obtain ⟨k2, hk2, hv2, rfl, rfl⟩ := lookup_position counts values hv t hb s2 l2 b2 h2
  obtain ⟨hfit, hpre⟩ := C17_huffman_prefix_free counts values hv
  generalize codeLengths counts = ls at *
  obtain ⟨_, hl1, hf1⟩ := hfit k1 hk1
  obtain ⟨_, hl2, hf2⟩ := hfit k2 hk2
  intro heq
  have hnat := congrArg BitVec.toNat heq
  rw [word_prefix_toNat _ _ _ hle (by omega) (by omega),
    word_prefix_toNat _ _ _ (Nat.le_refl _) (by omega) (by omega)] at hnat
  simp only [Nat.sub_self, Nat.pow_zero, Nat.div_one] at hnat
  -- `hnat`: word 2 cut to `l1` bits equals word 1
  rcases Nat.lt_trichotomy k1 k2 with hlt | rfl | hgt
  · have := (hpre k1 k2 hlt hk2).2
    omega
  · exact hne (hv1.symm.trans hv2)
  · -- word 2 comes first, so `l2 ≤ l1 ≤ l2`: nothing is cut, and the two words differ
    obtain ⟨hge, hlt⟩ := hpre k2 k1 hgt hk1
    rw [show ls.getD k1 0 = ls.getD k2 0 by omega] at hlt hnat
    simp only [Nat.sub_self, Nat.pow_zero, Nat.div_one] at hlt hnat
    omega

/-- What `lookup` hands to `write_huffman` satisfies the writer's precondition `Op.WF`. -/
theorem C17_huffman_lookup_wf (counts values : List Nat) (hv : ValidTable counts values)
    (t : Table) (hb : build counts values = some t) (s l : Nat) (b : BitVec 64)
    (h : lookup t s = some (l, b)) : (Op.huff b l).WF := by
  obtain ⟨k, hk, _, rfl, rfl⟩ := lookup_position counts values hv t hb s l b h
  have h16 := ((C17_huffman_prefix_free counts values hv).1 k hk).2.1
  exact wf_shiftLeft_top _ _ (by omega)

/-! Non-vacuity: the DC luminance table of ITU-T T.81 K.3 (plus the jbrd sentinel, which takes the
free 9-bit word) is a `ValidTable`; its first and last code words are `00` and `111111110`. -/
def k3Counts : List Nat := [0, 0, 1, 5, 1, 1, 1, 1, 1, 2, 0, 0, 0, 0, 0, 0, 0]
def k3Values : List Nat := [0, 1, 2, 3, 4, 5, 6, 7, 8, 9, 10, 11, 0]

example : ValidTable k3Counts k3Values :=
  ⟨by decide, by decide, by decide, by decide, by decide, by decide, by decide⟩

example : (build k3Counts k3Values).bind (fun t => lookup t 0) = some (2, 0#64)
    ∧ (build k3Counts k3Values).bind (fun t => lookup t 11) = some (9, 0xFF00000000000000#64)
    ∧ (build k3Counts k3Values).bind (fun t => lookup t 12) = none
    ∧ canonCode (codeLengths k3Counts) 11 = 0b111111110 := by
  decide +kernel

/-- Degenerate tables: an empty value list and a table with no value besides the end marker give
the empty table; a count for length 0 (shift by 64) and more counts than values (slice split) make
`build` panic. `HuffmanCode::parse` (/repo cbf2128) rejects a count for length 0 and the empty
value list, so hostile reconstruction data does not reach them (without that check
`reconstruct_jpeg` panics on mutated synthetic transcodes of harness/src/synth.rs). -/
example : (build (List.replicate 17 0) []).isSome = true
    ∧ (build [0, 1, 0, 0, 0, 0, 0, 0, 0, 0, 0, 0, 0, 0, 0, 0, 0] [7]).isSome = true
    ∧ build [1, 1, 0, 0, 0, 0, 0, 0, 0, 0, 0, 0, 0, 0, 0, 0, 0] [1, 2] = none
    ∧ build [0, 2, 1, 0, 0, 0, 0, 0, 0, 0, 0, 0, 0, 0, 0, 0, 0] [1, 2] = none := by
  decide +kernel

/-- The decision logic of `jpeg_reconstruction_status`, stated outright: the answer is `Available`
exactly when the jbrd box is there (complete, see `C17_jbrd_data_iff_complete`), the Exif box is not
malformed, none of the three length computations underflows, every piece of metadata the header
asks for (`expected_*_len > 0`) has arrived — an embedded ICC profile that the image header
announces, a finished Exif box, a finished XML box — and exactly one frame, a normal VarDCT frame,
is completely loaded. -/
theorem C17_status_available_only_if (f : Facts) :
    status f = .available ↔
      f.jbrd = .data ∧ f.exifErr = false ∧
      (∃ icc exif xmp, expectedIccLen f.app = some icc ∧ expectedExifLen f.app = some exif ∧
        expectedXmpLen f.app = some xmp ∧
        (icc > 0 → f.wantIcc = true ∧ f.hasIcc = true) ∧
        (exif > 0 → f.exif = .data) ∧ (xmp > 0 → f.xml = .data)) ∧
      f.loadedFrames = 1 ∧ f.frame0 = some (true, true) := by
  rw [status_eq]
  cases f.jbrd
  case decoding => exact iff_of_false (by simp [onAvailable_eq_available]) nofun
  case notFound => exact iff_of_false (by simp) nofun
  case data =>
    cases f.exifErr
    case true => exact iff_of_false (by simp) nofun
    case false =>
      -- a missing length is a panic on the left and leaves no `icc`, `exif`, `xmp` on the right
      rcases expectedIccLen f.app with _ | icc
      · simp [stage_none]
      rcases expectedExifLen f.app with _ | exif
      · simp [stage_some_eq, stage_none]
      rcases expectedXmpLen f.app with _ | xmp
      · simp [stage_some_eq, stage_none]
      -- all three lengths there: each stage hands `available` on exactly when its guards are off
      simp [stage_some_eq, aux_eq_data, onAvailable_eq_available, frameStatus_spec]
      -- what is left is regrouping; fewer than 2 frames loaded and not 0 is exactly 1
      exact ⟨fun ⟨a, b, c, ⟨d, g⟩, h⟩ => ⟨⟨a, b, c⟩, by omega, g⟩,
        fun ⟨⟨a, b, c⟩, d, g⟩ => ⟨a, b, c, ⟨by omega, g⟩, by omega⟩⟩

/-- `AuxBoxList::jbrd()` reports the reconstruction data only once the header has been parsed and the
box has ended with a data section of the promised length. -/
theorem C17_jbrd_data_iff_complete (a : JbrdArrival) :
    jbrdState a = .data ↔ a.headerParsed = true ∧ a.finalizedOk = true := by
  rw [jbrdState, ← Bool.and_eq_true]
  split
  next h => exact iff_of_true rfl h
  -- the later branches answer `notFound` or `decoding`, never `data`
  next h => exact iff_of_false (by split <;> nofun) h

/-- Headers accepted by the repaired `AppMarker::parse` never make a length accessor underflow. -/
theorem C17_expected_len_total (app : List AppMarker) (h : ∀ am ∈ app, appMarkerOk am = true) :
    (∃ n, expectedIccLen app = some n) ∧ (∃ n, expectedExifLen app = some n)
    ∧ (∃ n, expectedXmpLen app = some n) :=
  ⟨expectedIccLen_total app h,
    expectedFirstLen_total 2 headerExifLen app fun am ham ht => by
      simpa [appMarkerOk, ht] using h am ham,
    expectedFirstLen_total 3 headerXmpLen app fun am ham ht => by
      simpa [appMarkerOk, ht] using h am ham⟩

/-- `jpeg_reconstruction_status` does not panic on a header the repaired `AppMarker::parse` accepts:
its only panics are the length accessors' (`C17_expected_len_total`). -/
theorem C17_status_total (f : Facts) (h : ∀ am ∈ f.app, appMarkerOk am = true) :
    status f ≠ .panic := by
  obtain ⟨⟨icc, e1⟩, ⟨exif, e2⟩, ⟨xmp, e3⟩⟩ := C17_expected_len_total f.app h
  have hfs := (frameStatus_spec f).2
  rw [status_eq, e1, e2, e3]
  cases f.jbrd
  case decoding => exact onAvailable_ne_panic hfs (by decide)
  case notFound => simp
  case data =>
    cases f.exifErr
    case true => simp
    case false =>
      -- with its length there, a stage answers `panic` only if the rest does
      simp only [Bool.false_eq_true, if_false, ne_eq, stage_some_eq, reduceCtorEq, not_false_eq_true]
      exact fun h => onAvailable_ne_panic hfs (by split <;> decide) h.2.2.2

/-! Non-vacuity, and the two defects as found: an ICC marker of length 1 (finding F4, the 85-byte
witness) makes the unrepaired query panic and is rejected by the repaired parser; the unrepaired
`jbrd()` said `Data` while the box was still arriving. -/
def exampleFacts : Facts :=
  { jbrd := .data, app := [⟨0, 10⟩, ⟨1, 600⟩, ⟨2, 40⟩], exifErr := false, exif := .data,
    xml := .notFound, wantIcc := true, hasIcc := true, loadedFrames := 1, frame0 := some (true, true) }

example : status exampleFacts = .available ∧ (∀ am ∈ exampleFacts.app, appMarkerOk am = true)
    ∧ status { exampleFacts with exif := .decoding } = .needMoreData
    ∧ status { exampleFacts with frame0 := some (false, true) } = .invalid
    ∧ status { exampleFacts with loadedFrames := 0 } = .needMoreData := by decide

example : status { exampleFacts with app := [⟨1, 1⟩] } = .panic ∧ appMarkerOk ⟨1, 1⟩ = false := by
  decide

example : jbrdStateOrig ⟨true, false, false, true⟩ = .data
    ∧ jbrdState ⟨true, false, false, true⟩ = .decoding := by decide

end Jxl.JpegBits
