import JxlModel.Proofs.Output
/-!
# C15 — output buffers agree with each other and honour orientation

`fromGridsMap`, `fromGridsDims`, `toOriginalCoord`, `streamSwapsDims`, `applyOrientationPt`,
`applyOrientationDims` are GENERATED from the `match` arms of the working tree
(`tools/translate_c15.py` → `JxlModel/Gen/Orientation.lean`) before every build, so each theorem
below is re-checked against the working tree: `Proofs/Output.lean` evaluates each generated map
at the eight orientations to bring it into the form "transpose, then mirror columns, then mirror
rows", and the proofs here reason about that form (`C15_oriented_dims`, which compares five ways of
writing "5..8 swap", evaluates them at the eight orientations directly).
`specOrient`/`specDims` (Model/Output.lean) are the hand-written meaning of the orientations.

Not covered by theorem (measured by the correspondence run, tools/props/c15.py): that
`apply_orientation` mirrors in `i64` and truncates the result `as i32` (`applyOrientationPt` is over
`Int`, without truncation: equal while `width - left - 1` fits 32 bits); the IEEE f32
arithmetic of `parse_integer_sample` and of the `u8`/`u16` conversions (modelled bit-exactly with
`Float32`, compared on every sample; exhaustively for depths 1..16 against `idealRound`), that the
Rust loops are the cursor machine `writeToBuffer`, and that `Render` feeds the maps the regions
and channel lists modelled here.
-/
namespace Jxl.Props.C15
open Jxl.Output Jxl.Gen.Orientation Jxl.Orient

/-- `FrameBuffer::from_grids` and `ImageStream::to_original_coord` (which is given the oriented
dimensions) are mutually inverse. -/
theorem C15_stream_inv_buffer (o w h : Nat) (ho : 1 ≤ o ∧ o ≤ 8) :
    (∀ x y, x < w → y < h →
      toOriginalCoord o (fromGridsDims o w h).1 (fromGridsDims o w h).2
        (fromGridsMap o w h x y).1 (fromGridsMap o w h x y).2 = (x, y)) ∧
    (∀ x' y', x' < (fromGridsDims o w h).1 → y' < (fromGridsDims o w h).2 →
      fromGridsMap o w h
        (toOriginalCoord o (fromGridsDims o w h).1 (fromGridsDims o w h).2 x' y').1
        (toOriginalCoord o (fromGridsDims o w h).1 (fromGridsDims o w h).2 x' y').2 = (x', y')) := by
  simp only [fromGridsDims_eq ho, fromGridsMap_eq ho, toOriginalCoord_eq ho]
  -- each map mirrors, the other undoes the mirrors in the opposite order
  cases swaps o <;> simp only [Bool.false_eq_true, ↓reduceIte]
  all_goals
    exact ⟨fun x y hx hy => by rw [mir_mir _ hx, mir_mir _ hy],
      fun x y hx hy => by rw [mir_mir _ hx, mir_mir _ hy]⟩

example : toOriginalCoord 6 2 3 (fromGridsMap 6 3 2 2 0).1 (fromGridsMap 6 3 2 2 0).2 = (2, 0) := by decide +kernel

/-- The three places that compute output dimensions (buffer copy, stream, header) and the
specification. `width_with_orientation`/`height_with_orientation` are
`apply_orientation(w, h, 0, 0, false).0/.1` (pinned by the translator). -/
theorem C15_oriented_dims (o w h : Nat) (ho : 1 ≤ o ∧ o ≤ 8) :
    fromGridsDims o w h = (if o ≥ 5 then (h, w) else (w, h)) ∧
    fromGridsDims o w h = applyOrientationDims o w h ∧
    fromGridsDims o w h = (if streamSwapsDims o then (h, w) else (w, h)) ∧
    fromGridsDims o w h = specDims o w h := by
  rcases orient_cases ho with rfl | rfl | rfl | rfl | rfl | rfl | rfl | rfl <;>
    exact ⟨rfl, rfl, rfl, rfl⟩

example : fromGridsDims 7 640 480 = (480, 640) := by decide +kernel

/-- `ImageMetadata::apply_orientation`, `inverse = true` against `inverse = false`: at every integer
coordinate, also outside the image (the maps are affine). -/
theorem C15_apply_orientation_inverse (o w h : Nat) (l t : Int) (ho : 1 ≤ o ∧ o ≤ 8) :
    (applyOrientationPt o (applyOrientationDims o w h).1 (applyOrientationDims o w h).2
        (applyOrientationPt o w h l t false).1 (applyOrientationPt o w h l t false).2 true = (l, t)) ∧
    (applyOrientationPt o w h
        (applyOrientationPt o (applyOrientationDims o w h).1 (applyOrientationDims o w h).2 l t true).1
        (applyOrientationPt o (applyOrientationDims o w h).1 (applyOrientationDims o w h).2 l t true).2
        false = (l, t)) := by
  simp only [applyOrientationDims_eq ho, applyOrientationPt_eq ho, applyOrientationPt_inv_eq ho]
  cases swaps o <;> simp only [Bool.false_eq_true, ↓reduceIte, mirI_mirI, and_self]

example : applyOrientationPt 8 2 3 (applyOrientationPt 8 3 2 2 0 false).1 (applyOrientationPt 8 3 2 2 0 false).2 true
    = (2, 0) := by decide +kernel

/-- Forward `apply_orientation` is `from_grids`' map, inverse `apply_orientation` is
`to_original_coord`. -/
theorem C15_apply_orientation_matches_buffer_maps (o w h x y : Nat) (ho : 1 ≤ o ∧ o ≤ 8) :
    (x < w → y < h →
      applyOrientationPt o w h (x : Int) (y : Int) false =
        (((fromGridsMap o w h x y).1 : Int), ((fromGridsMap o w h x y).2 : Int))) ∧
    (x < w → y < h →
      applyOrientationPt o w h (x : Int) (y : Int) true =
        (((toOriginalCoord o w h x y).1 : Int), ((toOriginalCoord o w h x y).2 : Int))) := by
  simp only [applyOrientationPt_eq ho, applyOrientationPt_inv_eq ho, fromGridsMap_eq ho,
    toOriginalCoord_eq ho]
  cases swaps o <;> simp only [Bool.false_eq_true, ↓reduceIte]
  all_goals
    exact ⟨fun hx hy => by rw [mir_cast _ hx, mir_cast _ hy],
      fun hx hy => by rw [mir_cast _ hx, mir_cast _ hy]⟩

theorem C15_orientation_maps_are_bijections (o w h : Nat) (ho : 1 ≤ o ∧ o ≤ 8) :
    (∀ x y, x < w → y < h →
      (fromGridsMap o w h x y).1 < (fromGridsDims o w h).1 ∧
      (fromGridsMap o w h x y).2 < (fromGridsDims o w h).2) ∧
    (∀ x1 y1 x2 y2, x1 < w → y1 < h → x2 < w → y2 < h →
      fromGridsMap o w h x1 y1 = fromGridsMap o w h x2 y2 → (x1, y1) = (x2, y2)) ∧
    (∀ x' y', x' < (fromGridsDims o w h).1 → y' < (fromGridsDims o w h).2 →
      ∃ x y, x < w ∧ y < h ∧ fromGridsMap o w h x y = (x', y')) := by
  have inv := C15_stream_inv_buffer o w h ho
  refine ⟨?_, ?_, ?_⟩
  · simp only [fromGridsMap_eq ho, fromGridsDims_eq ho]
    cases swaps o <;> simp only [Bool.false_eq_true, ↓reduceIte]
    all_goals exact fun x y hx hy => ⟨mir_lt _ (by assumption), mir_lt _ (by assumption)⟩
  · intro x1 y1 x2 y2 h1 h2 h3 h4 e
    rw [← inv.1 x1 y1 h1 h2, e, inv.1 x2 y2 h3 h4]
  · intro x' y' hx' hy'
    refine ⟨_, _, ?_, ?_, inv.2 x' y' hx' hy'⟩
    all_goals
      simp only [toOriginalCoord_eq ho, fromGridsDims_eq ho] at hx' hy' ⊢
      cases hs : swaps o <;> simp only [hs, Bool.false_eq_true, ↓reduceIte] at hx' hy' ⊢
      all_goals exact mir_lt _ (by assumption)

theorem C15_maps_match_spec (o w h x y : Nat) (ho : 1 ≤ o ∧ o ≤ 8) (hx : x < w) (hy : y < h) :
    fromGridsMap o w h x y = specOrient o w h (x, y) := by
  rw [fromGridsMap_eq ho, specOrient_eq ho]

example : specOrient 6 3 2 (0, 0) = (1, 0) ∧ specOrient 6 3 2 (2, 1) = (0, 2) := by decide +kernel

/-- the unoriented region `Region::apply_orientation` computes for the oriented request `r` on an
image whose oriented size is `W' × H'` -/
def unorientedRegion (o W' H' : Nat) (r : Region) : Region :=
  regionApplyOrientation (fun l t => applyOrientationPt o W' H' l t true) (applyOrientationDims o) r

/-- Region consistency. Any oriented request `r` (anywhere in the plane, empty or not) on an image
of unoriented size `w × h` is turned by `Region::apply_orientation` into an unoriented region `u`
such that (1) `u`'s size is `r`'s, swapped exactly for orientations 5..8 — so the buffer and the
stream, which re-derive their size from `u` (`from_grids`, `from_render`), have the requested
size; (2) pixel `(i, j)` of the output, which the stream reads at
`u.left/top + to_original_coord(i, j)` (dimensions: the request's) — and the buffer copy writes
from the inverse of that — is the pixel the header-level inverse map assigns to the requested
image coordinate `(r.left + i, r.top + j)`; hence (3) `u` maps back onto exactly `r`. -/
theorem C15_region_orientation_consistent (o w h : Nat) (r : Region) (ho : 1 ≤ o ∧ o ≤ 8) :
    let W' := (applyOrientationDims o w h).1
    let H' := (applyOrientationDims o w h).2
    let u := unorientedRegion o W' H' r
    (fromGridsDims o u.width u.height = (r.width, r.height)) ∧
    (∀ i j : Nat, i < r.width → j < r.height →
      (u.left + ((toOriginalCoord o r.width r.height i j).1 : Nat),
       u.top + ((toOriginalCoord o r.width r.height i j).2 : Nat))
        = applyOrientationPt o W' H' (r.left + i) (r.top + j) true) ∧
    (∀ X Y : Int, r.contains X Y ↔
      u.contains (applyOrientationPt o W' H' X Y true).1 (applyOrientationPt o W' H' X Y true).2) := by
  intro W' H' u
  simp only [fromGridsDims_eq ho, toOriginalCoord_eq ho, applyOrientationPt_inv_eq ho,
    Region.contains_iff]
  by_cases he : r.width = 0 ∨ r.height = 0
  · rw [show u = _ from regionApplyOrientation_empty ho _ r he]
    cases swaps o <;> simp only [Bool.false_eq_true, ↓reduceIte]
    all_goals exact ⟨trivial, by omega, by omega⟩
  · rw [show u = _ from regionApplyOrientation_eq ho W' H' r (by omega) (by omega)]
    cases swaps o <;> simp only [Bool.false_eq_true, ↓reduceIte]
    · exact ⟨trivial, fun i j hi hj => by rw [mirLo_add_mir _ _ _ hi, mirLo_add_mir _ _ _ hj],
        fun X Y => by rw [mem_mirLo, mem_mirLo]⟩
    · exact ⟨trivial, fun i j hi hj => by rw [mirLo_add_mir _ _ _ hi, mirLo_add_mir _ _ _ hj],
        fun X Y => by rw [mem_mirLo, mem_mirLo, and_comm]⟩

example : unorientedRegion 6 2 3 ⟨0, 1, 2, 1⟩ = ⟨1, 0, 1, 2⟩ := by decide +kernel
example : unorientedRegion 6 2 3 ⟨1, 1, 0, 4⟩ = ⟨0, 0, 4, 0⟩ := by decide +kernel

/-- Why the repair `fix-C15-empty-crop` was needed: the corner arithmetic alone (the code before
the repair) turns an EMPTY request into a region two pixels wide and high that starts one pixel
before the origin, so part (1) above failed for it (replayed on the unrepaired code by
corpus/c15/empty-crop.json: a 0×0 request produced a 2×2 picture). -/
theorem C15_region_orientation_empty_request_witness :
    regionApplyOrientationOld (fun l t => applyOrientationPt 1 8 8 l t true) ⟨0, 0, 0, 0⟩ = ⟨-1, -1, 2, 2⟩ := by
  decide +kernel

theorem C15_interleaved_planar_same_samples (w h C x y c : Nat) (hx : x < w) (hy : y < h) (hc : c < C) :
    interleavedIdx w C x y c = planarIdx w x y * C + c ∧
    interleavedIdx w C x y c % C = c ∧
    interleavedIdx w C x y c / C = planarIdx w x y ∧
    planarIdx w x y % w = x ∧ planarIdx w x y / w = y ∧
    planarIdx w x y < w * h ∧ interleavedIdx w C x y c < w * h * C := by
  refine ⟨Nat.add_comm _ _, (interleaved_decode w C x y c hc).1,
    (interleaved_decode w C x y c hc).2, (planar_decode w x y hx).1, (planar_decode w x y hx).2,
    planar_lt w h x y hx hy, interleaved_lt w h C x y c hx hy hc⟩

example : interleavedIdx 5 4 3 2 1 = 53 ∧ planarIdx 5 3 2 = 13 := by decide +kernel

/-- `write_to_buffer` does not depend on how the destination is cut into calls (zero-length buffers
included). -/
theorem C15_write_to_buffer_chunking (W H C : Nat) (sizes : List Nat) (s : Cursor) :
    flatCalls W H C sizes s = (writeToBuffer W H C sizes.sum s).1 ∧
    (writeCalls W H C sizes s).2 = (writeToBuffer W H C sizes.sum s).2 ∧
    (W * H * C ≤ sizes.sum → flatCalls W H C sizes ⟨0, 0, 0⟩ = rowMajor W H C) := by
  refine ⟨(writeCalls_eq_sum W H C sizes s).1, (writeCalls_eq_sum W H C sizes s).2, ?_⟩
  intro hn
  rw [(writeCalls_eq_sum W H C sizes ⟨0, 0, 0⟩).1]
  exact writeToBuffer_full W H C sizes.sum hn

example : flatCalls 2 1 2 [1, 0, 2, 5] ⟨0, 0, 0⟩ = [(0, 0, 0), (0, 0, 1), (0, 1, 0), (0, 1, 1)] := by decide +kernel
example : (writeCalls 2 2 3 [4, 3] ⟨0, 0, 0⟩).2 = ⟨1, 0, 1⟩ := by decide +kernel

/-- The stream reads its `k`-th sample from exactly the pixel and channel that `from_grids` copied
into slot `k` of the buffer. -/
theorem C15_buffer_slot_is_stream_sample (o w h C x y c : Nat) (ho : 1 ≤ o ∧ o ≤ 8)
    (hx : x < w) (hy : y < h) (hc : c < C) :
    let W' := (fromGridsDims o w h).1
    let H' := (fromGridsDims o w h).2
    let p := fromGridsMap o w h x y
    let k := interleavedIdx W' C p.1 p.2 c
    k < W' * H' * C ∧ (rowMajor W' H' C)[k]? = some (p.2, p.1, c) ∧
      toOriginalCoord o W' H' p.1 p.2 = (x, y) := by
  intro W' H' p k
  have hin := (C15_orientation_maps_are_bijections o w h ho).1 x y hx hy
  have hk : k < W' * H' * C := interleaved_lt W' H' C p.1 p.2 c hin.1 hin.2 hc
  exact ⟨hk, rowMajor_lin W' H' C ⟨p.2, p.1, c⟩ hin.1 hc hk,
    (C15_stream_inv_buffer o w h ho).1 x y hx hy⟩

example : (rowMajor 2 3 4)[interleavedIdx 2 4 (fromGridsMap 6 3 2 2 0).1 (fromGridsMap 6 3 2 2 0).2 3]? =
    some ((fromGridsMap 6 3 2 2 0).2, (fromGridsMap 6 3 2 2 0).1, 3) := by decide +kernel

/-- `skip = true` is `stream_no_alpha`; the last part is `PixelFormat::channels`, given a black channel
whenever the encoding is CMYK. -/
theorem C15_channel_order (nColor : Nat) (ecTypes : List Nat) (isCmyk : Bool) :
    (∀ skip, (streamChannels nColor ecTypes isCmyk skip).take nColor = List.range nColor) ∧
    (∀ skip, (streamChannels nColor ecTypes isCmyk skip).drop nColor =
      (if isCmyk then ((firstOfType tyBlack ecTypes).map (nColor + ·)).toList else []) ++
      (if skip then [] else ((firstOfType tyAlpha ecTypes).map (nColor + ·)).toList)) ∧
    (streamChannels nColor ecTypes isCmyk false =
      streamChannels nColor ecTypes isCmyk true ++ ((firstOfType tyAlpha ecTypes).map (nColor + ·)).toList) ∧
    (∀ i, firstOfType tyBlack ecTypes = some i →
      ecTypes[i]? = some tyBlack ∧ ∀ j, j < i → ecTypes[j]? ≠ some tyBlack) ∧
    (∀ i, firstOfType tyAlpha ecTypes = some i →
      ecTypes[i]? = some tyAlpha ∧ ∀ j, j < i → ecTypes[j]? ≠ some tyAlpha) ∧
    (∀ gray, nColor = (if gray then 1 else 3) → (isCmyk = true → gray = false ∧ tyBlack ∈ ecTypes) →
      (streamChannels nColor ecTypes isCmyk false).length =
        pixelFormatChannels gray isCmyk (decide (tyAlpha ∈ ecTypes))) := by
  refine ⟨?_, ?_, ?_, ?_, ?_, ?_⟩
  · intro skip; simp [streamChannels, List.append_assoc]
  · intro skip; simp [streamChannels, List.append_assoc]
  · simp [streamChannels]
  · exact fun _ => firstOfType_some
  · exact fun _ => firstOfType_some
  · intro gray hn hk
    subst hn
    cases isCmyk
    · simp only [streamChannels, Bool.false_eq_true, if_false, List.append_nil, List.length_append,
        List.length_range, length_firstOfType]
      cases gray <;> by_cases ha : tyAlpha ∈ ecTypes <;> simp [pixelFormatChannels, ha]
    · obtain ⟨rfl, hb⟩ := hk rfl
      simp only [streamChannels, Bool.false_eq_true, if_false, if_true, List.length_append,
        List.length_range, length_firstOfType, hb]
      by_cases ha : tyAlpha ∈ ecTypes <;> simp [pixelFormatChannels, ha]

example : streamChannels 3 [1, 0, 4, 0, 4] true false = [0, 1, 2, 5, 4] := by decide +kernel
example : streamChannels 3 [1, 0, 4, 0, 4] true true = [0, 1, 2, 5] := by decide +kernel
example : streamChannels 1 [0] false false = [0, 1] := by decide +kernel

/-- The direct integer paths (8-bit image → `u8`, 16-bit image → `u16`: a clamp, no float
arithmetic) are the correctly rounded and clamped value. -/
theorem C15_direct_integer_path_is_ideal (s : Int) :
    (clampInt s 0 255).toNat = idealRound 8 255 s ∧ (clampInt s 0 65535).toNat = idealRound 16 65535 s :=
  ⟨(idealRound_same_depth 8 255 s rfl).symm, (idealRound_same_depth 16 65535 s rfl).symm⟩

example : idealRound 8 255 300 = 255 ∧ idealRound 8 255 (-3) = 0 ∧ idealRound 16 255 32896 = 128 := by decide +kernel

end Jxl.Props.C15
