import JxlModel.Proofs.TocEntropy
/-! C14 ∘ C04: the permuted table of contents through the real entropy decoder model.

`Props/C14.lean` states `C14_toc_permuted_roundtrip` for an abstract `PermDecoder` under the
hypothesis that it reads the permutation bits back. Here that hypothesis is discharged for
`entropyPermDecoder` (`Model/TocEntropy.lean`): exactly what `Toc::parse` does with `jxl_coding` —
`Decoder::parse(bitstream, 8)`, `begin`, `read_permutation(.., entry_count, 0)`, `finalize` — on the
entropy decoder model of C04, against the reference entropy encoder (`Model/Enc/EntropyEnc.lean`).

Side conditions that remain, all executable (`decide`-able for concrete data):
* `p.numDist = 8` — the plan has the 8 distributions `Toc::parse` asks for;
* `lehmerValid sizes.length lehmer` — the Lehmer code is one `read_permutation` accepts
  (`lehmer[i] < entry_count - i`; implies `lehmer.length ≤ entry_count`);
* `p.check (permItems sizes.length lehmer)` — the reference encoder's own Boolean acceptance test
  of the plan for these items (values < 2^32, configs valid, codes complete and covering the
  tokens, …), the ONLY hypothesis about the coder;
* `writeToc … = some bits` — the TOC is writable (`entry_count ≤ 65536`, sizes in range). -/
namespace Jxl.Headers
open Jxl.Entropy Jxl.Enc

/-- `entropyPermDecoder` reads the Lehmer code back (the coder hypothesis `hdec` of
`C14_toc_permuted_roundtrip`, at the real decoder). For every entropy plan with
8 distributions, every `size` and every Lehmer code `read_permutation` accepts for it, whenever the
reference encoder accepts the plan for the items `permItems size lehmer` (`end` in context
`get_context(size)`, then each entry in the context of its predecessor): `Toc::parse`'s decoder
sequence on `histogram header ++ coded items ++ r` returns exactly `lehmer` and leaves exactly
`r`, for every continuation `r`. -/
theorem C14_toc_entropy_perm_decoder (p : EntropyPlan) (size : Nat) (lehmer : List Nat)
    (h8 : p.numDist = 8) (hv : lehmerValid size lehmer = true)
    (hc : p.check (permItems size lehmer) = true) (r : Bits) :
    entropyPermDecoder size (encodeHeader p ++ encodeItems p (permItems size lehmer) ++ r)
      = .ok (lehmer, r) :=
  entropyPermDecoder_roundtrip p size lehmer h8 hv hc r

/-- Permuted table of contents, end to end, through the entropy decoder. `writeToc` with the permutation
coded by the reference entropy encoder under plan `p`, read by `parseToc` with the real decoder
sequence of `Toc::parse`: for every selector choice, bit position, group counts and continuation
`rest`, the parser reports the sizes as written, the permutation of the Lehmer code, the byte offset
of the first section, and stops at the writer's last bit. (Statement of
`C14_toc_permuted_roundtrip` at `dec := entropyPermDecoder`,
`enc := encodeHeader p ++ encodeItems p (permItems sizes.length lehmer)`, under the three executable
conditions `h8`, `hv`, `hc`.) -/
theorem C14_toc_permuted_entropy_roundtrip (p : EntropyPlan) (choice : Nat → Nat)
    (pos numGroups numLfGroups : Nat) (sizes lehmer : List Nat) (bits rest : Bits)
    (h8 : p.numDist = 8) (hv : lehmerValid sizes.length lehmer = true)
    (hc : p.check (permItems sizes.length lehmer) = true)
    (hw : writeToc choice pos sizes
      (some (encodeHeader p ++ encodeItems p (permItems sizes.length lehmer))) = some bits) :
    parseToc entropyPermDecoder (pos + (bits ++ rest).length) numGroups numLfGroups sizes.length
        (bits ++ rest) =
      .ok ({ entryCount := sizes.length, numLfGroups := numLfGroups, numGroups := numGroups,
             permuted := true, perm := lehmerToPerm sizes.length lehmer, sizes := sizes,
             base := (pos + bits.length) / 8 }, rest) :=
  parseToc_writeToc_permuted entropyPermDecoder choice pos numGroups numLfGroups sizes lehmer _
    bits rest (entropyPermDecoder_roundtrip p sizes.length lehmer h8 hv hc) hw

/-- and the reported order is a permutation of the sections with `bitstream_to_original` its
inverse (`C14_toc_permuted_order` at the real decoder) -/
theorem C14_toc_permuted_entropy_order (p : EntropyPlan) (choice : Nat → Nat)
    (pos numGroups numLfGroups : Nat) (sizes lehmer : List Nat) (bits rest : Bits)
    (h8 : p.numDist = 8) (hv : lehmerValid sizes.length lehmer = true)
    (hc : p.check (permItems sizes.length lehmer) = true)
    (hw : writeToc choice pos sizes
      (some (encodeHeader p ++ encodeItems p (permItems sizes.length lehmer))) = some bits) :
    ∃ t, parseToc entropyPermDecoder (pos + (bits ++ rest).length) numGroups numLfGroups
          sizes.length (bits ++ rest) = .ok (t, rest) ∧
      t.sizes = sizes ∧ t.perm.Perm (List.range sizes.length) ∧
      ∀ j (hj : j < t.perm.length), t.bitstreamToOriginal[t.perm[j]]? = some j := by
  have hp := lehmerToPerm_perm sizes.length lehmer hv
  refine ⟨_, C14_toc_permuted_entropy_roundtrip p choice pos numGroups numLfGroups sizes lehmer bits
    rest h8 hv hc hw, rfl, hp, fun j hj => ?_⟩
  have hlen : (lehmerToPerm sizes.length lehmer).length = sizes.length := by
    simpa using hp.length_eq
  exact invPerm_spec _ (hp.nodup_iff.mpr List.nodup_range)
    (fun x hx => by rw [hlen]; exact List.mem_range.mp (hp.mem_iff.mp hx)) j hj

/-- the permutation `parseToc` reports is the one `jxl_coding::read_permutation` returns: the
decoder sequence above followed by `lehmerToPerm` is C04's `readPermutation` with `skip = 0` -/
theorem C14_toc_read_permutation_eq (d : Decoder) (st : DState) (size : Nat) (s : Bits) :
    readPermutation d st size 0 s =
      match readLehmerCode d st size s with
      | .error e => .error e
      | .ok ((lehmer, st2), s2) => .ok ((lehmerToPerm size lehmer, st2), s2) := by
  simp only [readPermutation, readLehmerCode, Nat.sub_zero]
  cases h1 : d.readVarint st (permContext size) 0 s with
  | error e => rfl
  | ok x =>
    obtain ⟨⟨e, st1⟩, s1⟩ := x
    simp only
    by_cases he : e > size
    · simp only [if_pos he]
    · simp only [if_neg he]
      cases h2 : readLehmer d size 0 e 0 0 st1 s1 with
      | error e => rfl
      | ok y =>
        obtain ⟨⟨l, st2⟩, s2⟩ := y
        simp only [lehmerToPerm_eq_lehmerDecode]

/-- 5 sections, Lehmer code `[3, 0, 2]` (permutation `[3, 0, 4, 1, 2]`): the items are `end = 3`
in context `get_context(5) = 3`, then `3` (context 0), `0` (context `get_context(3) = 2`),
`2` (context 0) -/
example : permItems 5 [3, 0, 2] = [.lit 3 3, .lit 0 3, .lit 2 0, .lit 0 2] ∧
    permCtxs 5 [3, 0, 2] = [3, 0, 2, 0] := by decide

/-- a plan for these items, of the shape `prefixPlan 8 (permItems 5 [3, 0, 2])` resolves to (written
out: the kernel evaluates `check` on the literal): 8 contexts,
one cluster each (simple cluster map, 3 bits per entry), hybrid-integer config `(4, 1, 1)`, prefix
codes: tokens 2 and 3 with one bit each in cluster 0, the zero-bit code of token 3 in cluster 3
(`end`), the zero-bit code of token 0 elsewhere -/
def demoTocPlan : EntropyPlan :=
  { numDist := 8, clusterMap := [0, 1, 2, 3, 4, 5, 6, 7], clusterNbits := 3,
    configs := List.replicate 8 ⟨4, 1, 1⟩,
    codes := [.lengths 4 [0, 0, 1, 1] .auto, .lengths 1 [0] .auto, .lengths 1 [0] .auto,
              .lengths 4 [0, 0, 0, 1] .auto, .lengths 1 [0] .auto, .lengths 1 [0] .auto,
              .lengths 1 [0] .auto, .lengths 1 [0] .auto] }

/-- all executable side conditions hold for it -/
example : demoTocPlan.numDist = 8 ∧ lehmerValid 5 [3, 0, 2] = true ∧
    demoTocPlan.check (permItems 5 [3, 0, 2]) = true := by
  refine ⟨by decide +kernel, by decide, by decide +kernel⟩

/-- … the TOC is writable (sizes from all four selectors, TOC starting at bit 3) … -/
example : (writeToc (fun p => p) 3 [10, 2000, 0, 5000000, 70000]
    (some (encodeTocPerm demoTocPlan 5 [3, 0, 2]))).isSome = true := by decide +kernel

/-- … and it reads back, by the theorem … -/
example (bits rest : Bits)
    (hw : writeToc (fun p => p) 3 [10, 2000, 0, 5000000, 70000]
      (some (encodeTocPerm demoTocPlan 5 [3, 0, 2])) = some bits) :
    parseToc entropyPermDecoder (3 + (bits ++ rest).length) 2 1 5 (bits ++ rest) =
      .ok ({ entryCount := 5, numLfGroups := 1, numGroups := 2, permuted := true,
             perm := [3, 0, 4, 1, 2], sizes := [10, 2000, 0, 5000000, 70000],
             base := (3 + bits.length) / 8 }, rest) :=
  C14_toc_permuted_entropy_roundtrip demoTocPlan _ 3 2 1 [10, 2000, 0, 5000000, 70000] [3, 0, 2]
    bits rest (by decide +kernel) (by decide) (by decide +kernel) hw

/-- the writer's side by plain evaluation: the coded permutation is 135 bits (histogram header and
4 coded values), the whole TOC 237 bits -/
example : (encodeTocPerm demoTocPlan 5 [3, 0, 2]).length = 135 ∧
    (writeToc (fun p => p) 3 [10, 2000, 0, 5000000, 70000]
      (some (encodeTocPerm demoTocPlan 5 [3, 0, 2]))).map List.length = some 237 := by
  refine ⟨by decide +kernel, by decide +kernel⟩

/-- error mapping: a truncated stream is `eof` -/
example : entropyPermDecoder 5 [] = .error .eof := by
  simp [entropyPermDecoder, Decoder.parse, parseFuel, parseDecoder, parseLzField, parseLz77, rbool,
    entropyErr]

end Jxl.Headers
