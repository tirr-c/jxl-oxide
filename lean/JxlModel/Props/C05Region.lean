import JxlModel.Proofs.Region
/-!
# C05 (geometry) — the region arithmetic of `blend()` / `patch()`

The model (`blendGeom`, `patchGeom` in `Model/Region.lean`) mirrors the region computations of
`blend` (`blend.rs:179..487`) and `patch` (`blend.rs:489..629`); it is tied to the real
`blend::blend` / `blend::patch` by the probes of hook H2 (`verif_region::blend_probe`,
`patch_probe`: grids whose cells encode their own coordinates) in `tools/props/c06.py`.

Coordinates: everything is in the new frame's coordinates (`x0, y0` is its signed crop offset on
the canvas). `newGrid` is the region of the new frame's channel, `output` the
`output_frame_region` computed by `image::composite` (`compositeRegion`), which for a normal frame
is clipped to the canvas `[0, imgW) × [0, imgH)` translated by `(-x0, -y0)`.

`BlendWrite newGrid g fw fh output dx dy` says, for the loop index `(dx, dy)` of `blend_single`:
the target cell and the source cell denote the same frame coordinate; both indices are inside their
buffers (target sub-grid inside the target grid); the coordinate lies in the new frame's grid, in
the frame rectangle and in the output rectangle.
-/
namespace Jxl.Region
open Region

/-- A span `[c, c + n)` clipped from `[l, l + w)`, `o` its offset there: buffer index `o + d` of the
latter holds cell `c + d`. -/
theorem clip_offset {l c : Int} {w n o : Nat} (ho : o = (c - l).natAbs) (h : l ≤ c ∧ c + n ≤ l + w)
    {d : Nat} (hd : d < n) : l + ((o + d : Nat) : Int) = c + d ∧ o + d < w := by
  omega

theorem clip_index {l c x : Int} {n : Nat} (h1 : l ≤ c) (hx : c ≤ x ∧ x < c + n) :
    ∃ d : Nat, d < n ∧ x = l + (((c - l).natAbs + d : Nat) : Int) ∧
      ∀ d' : Nat, x = l + (((c - l).natAbs + d' : Nat) : Int) → d' = d :=
  ⟨(x - c).toNat, by omega, by omega, by omega⟩

theorem mem_add_of_lt {r : Region} {dx dy : Nat} (hx : dx < r.width) (hy : dy < r.height) :
    Mem (r.left + dx) (r.top + dy) r := by
  unfold Mem; omega

/-- The clipped rectangle `blend()` iterates over is exactly the intersection the format
defines: new frame's grid ∩ frame rectangle ∩ output rectangle — for all signed crop offsets. -/
theorem C05_blend_clip_is_spec (x0 y0 : Int) (fw fh : Nat) (newGrid output : Region)
    (base : Option (Int × Int × Region)) (x y : Int) :
    Mem x y (blendGeom x0 y0 fw fh newGrid output base).clipped ↔ BlendSpec fw fh newGrid output x y := by
  show Mem x y ((newGrid.intersection (withSize fw fh)).intersection output) ↔ _
  rw [mem_intersection, mem_intersection, and_assoc]
  rfl

/-- `hbase`: what `subgrid()` asserts when the canvas comes from the source slot. -/
theorem blend_sub {x0 y0 : Int} {fw fh : Nat} {newGrid output : Region} {base : Option (Int × Int × Region)}
    {g : BlendGeom} (hg : blendGeom x0 y0 fw fh newGrid output base = g)
    (hbase : ∀ bx0 by0 grid, base = some (bx0, by0, grid) → grid.isEmpty = false →
      ((output.translate x0 y0).translate (-bx0) (-by0)).Within grid) :
    g.target.left + g.subLeft = output.left ∧ g.target.top + g.subTop = output.top ∧
    g.subW = output.width ∧ g.subH = output.height ∧
    (0 ≤ g.subLeft ∧ g.subLeft + g.subW ≤ g.target.width) ∧
    (0 ≤ g.subTop ∧ g.subTop + g.subH ≤ g.target.height) := by
  subst hg
  unfold blendGeom
  rcases base with _ | ⟨bx0, by0, grid⟩
  · simp only [true_and]
    omega
  · cases hg : grid.isEmpty
    · have h := hbase bx0 by0 grid rfl hg
      unfold Within at h
      simp only [translate, hg, Bool.false_eq_true, if_false, true_and] at h ⊢
      omega
    · simp only [hg, if_true, true_and]
      omega

/--
**Blend region soundness.** For every signed crop offset, every output rectangle and either kind of
canvas — fresh (`base = none` or an empty base grid) or taken from the frame in the source slot
(`base = some (bx0, by0, grid)`, `grid` the region of its blended channel in its own coordinates,
containing the output rectangle as `blend()`'s `subgrid()` call requires). The two hypotheses on the
new frame's grid (a non-empty part of the frame rectangle) are what `blend()` is called with; the
proof does not use them:

* every cell written (`dx < w`, `dy < h`) is inside the target buffer, inside the new frame's
  buffer, and target and source cell are the same frame coordinate, which lies in the new frame's
  grid, the frame rectangle and the output rectangle (`BlendWrite`); in particular all buffer
  offsets (`base_topleft`, and that of the new frame's sub-grid) are the true non-negative differences;
* every cell of the specified intersection is written, by exactly one loop index.
-/
theorem C05_blend_region_sound (x0 y0 : Int) (fw fh : Nat) (newGrid output : Region)
    (base : Option (Int × Int × Region))
    (hin : newGrid.Within (Region.withSize fw fh)) (hne : newGrid.isEmpty = false)
    (hbase : ∀ bx0 by0 grid, base = some (bx0, by0, grid) → grid.isEmpty = false →
      ((output.translate x0 y0).translate (-bx0) (-by0)).Within grid) :
    let g := blendGeom x0 y0 fw fh newGrid output base
    (∀ dx dy : Nat, dx < g.w → dy < g.h → BlendWrite newGrid g fw fh output dx dy) ∧
    (∀ x y, BlendSpec fw fh newGrid output x y →
      ∃ dx dy : Nat, dx < g.w ∧ dy < g.h ∧
        x = newGrid.left + ((g.newX + dx : Nat) : Int) ∧ y = newGrid.top + ((g.newY + dy : Nat) : Int) ∧
        ∀ dx' dy' : Nat, x = newGrid.left + ((g.newX + dx' : Nat) : Int) →
          y = newGrid.top + ((g.newY + dy' : Nat) : Int) → dx' = dx ∧ dy' = dy) := by
  intro g
  have hm := C05_blend_clip_is_spec x0 y0 fw fh newGrid output base
  have hwi : g.clipped.isEmpty = false → g.clipped.Within newGrid ∧ g.clipped.Within output := fun hc =>
    ⟨within_of_subset hc fun x y h => ((hm x y).1 h).1, within_of_subset hc fun x y h => ((hm x y).1 h).2.2⟩
  constructor
  · intro dx dy hdx hdy
    obtain ⟨hx, hy, hw, hh, htx, hty⟩ := blend_sub (g := g) rfl hbase
    obtain ⟨hn, ho⟩ := hwi (not_isEmpty_of_pos (Nat.zero_lt_of_lt hdx) (Nat.zero_lt_of_lt hdy))
    -- both buffer offsets are offsets of the clipped rectangle
    obtain ⟨nx, nx'⟩ := clip_offset (o := g.newX) rfl ⟨hn.1, hn.2.1⟩ hdx
    obtain ⟨ny, ny'⟩ := clip_offset (o := g.newY) rfl hn.2.2 hdy
    obtain ⟨ox, ox'⟩ := clip_offset (o := g.baseX) rfl ⟨ho.1, ho.2.1⟩ hdx
    obtain ⟨oy, oy'⟩ := clip_offset (o := g.baseY) rfl ho.2.2 hdy
    exact
      { same_x := by rw [nx, ← ox, ← hx, Int.add_assoc]
        same_y := by rw [ny, ← oy, ← hy, Int.add_assoc]
        in_sub_x := hw ▸ ox'
        in_sub_y := hh ▸ oy'
        in_target_x := htx
        in_target_y := hty
        in_new_x := nx'
        in_new_y := ny'
        in_spec := by
          rw [nx, ny]
          exact (hm _ _).1 (mem_add_of_lt hdx hdy) }
  · intro x y h
    have hc : Mem x y g.clipped := (hm x y).2 h
    obtain ⟨hn, -⟩ := hwi (not_isEmpty_of_mem hc)
    obtain ⟨dx, hdx, ex, ux⟩ := clip_index hn.1 ⟨hc.1, hc.2.1⟩
    obtain ⟨dy, hdy, ey, uy⟩ := clip_index hn.2.2.1 hc.2.2
    exact ⟨dx, dy, hdx, hdy, ex, ey, fun dx' dy' hx hy => ⟨ux dx' hx, uy dy' hy⟩⟩

/-- a frame at crop offset (-3, 2) on an 8×8 canvas, partly outside -/
example : (blendGeom (-3) 2 6 5 ⟨0, 0, 6, 5⟩ ⟨3, -2, 8, 8⟩ none).clipped = ⟨3, 0, 3, 5⟩ := by decide
example : (blendGeom (-3) 2 6 5 ⟨0, 0, 6, 5⟩ ⟨3, -2, 8, 8⟩ none).baseY = 2 := by decide
/-- with a base frame at offset (1, 1) whose grid covers the whole 8×8 canvas -/
example : (blendGeom (-3) 2 6 5 ⟨0, 0, 6, 5⟩ ⟨3, -2, 8, 8⟩ (some (1, 1, ⟨-1, -1, 8, 8⟩))).target = ⟨3, -2, 8, 8⟩ := by decide

/-- A frame (or the part of it that was rendered) wholly outside the output rectangle writes
nothing, and conversely an empty write set means the rectangles do not meet. -/
theorem C05_blend_outside_writes_nothing (x0 y0 : Int) (fw fh : Nat) (newGrid output : Region)
    (base : Option (Int × Int × Region)) :
    let g := blendGeom x0 y0 fw fh newGrid output base
    (g.w = 0 ∨ g.h = 0) ↔ ∀ x y, ¬ BlendSpec fw fh newGrid output x y := by
  intro g
  have key : ∀ x y, Mem x y g.clipped ↔ BlendSpec fw fh newGrid output x y :=
    C05_blend_clip_is_spec x0 y0 fw fh newGrid output base
  have hw : g.w = g.clipped.width := by simp only [g, blendGeom]
  have hh : g.h = g.clipped.height := by simp only [g, blendGeom]
  constructor
  · intro h x y hs
    have := (key x y).2 hs
    unfold Mem at this
    omega
  · intro h
    refine Decidable.byContradiction fun hz => h g.clipped.left g.clipped.top ((key _ _).1 ?_)
    unfold Mem
    omega

/-- frame 6×5 at crop offset (20, 20) of an 8×8 canvas: wholly outside -/
example : (blendGeom 20 20 6 5 ⟨0, 0, 6, 5⟩ (compositeRegion
    { imgW := 8, imgH := 8, orientation := 1, x0 := 20, y0 := 20, fw := 6, fh := 5, refOnly := false,
      normal := true, lfLevel := 0, upsampling := 0, ec := [], epfIters := 0, gab := false,
      ycbcr := false, groupSizeShift := 1 } ⟨0, 0, 8, 8⟩) none).w = 0 := by decide

/-- The output rectangle `composite` hands to `blend()` for a normal frame lies on the canvas:
every cell of it, moved by the signed crop offset, is a canvas cell. -/
theorem C05_output_region_on_canvas (c : Cfg) (hn : c.normal = true) (oriented : Region) (x y : Int)
    (h : Mem x y (compositeRegion c oriented)) :
    Mem (x + c.x0) (y + c.y0) (Region.withSize c.imgW c.imgH) := by
  unfold compositeRegion at h
  simp only [hn, if_true] at h
  have := ((mem_intersection _ _ x y).1 h).2
  rwa [mem_translate, Int.sub_neg, Int.sub_neg] at this

/--
**Patch region soundness** (`blend::patch`, one target position). If the patch source rectangle
`[px0, px0+pw) × [py0, py0+ph)` lies inside the reference grid (the format requires it to lie
inside the reference frame, which is rendered in full), then every cell written is inside the
canvas channel, inside the reference channel and inside the target rectangle
`[tx, tx+pw) × [ty, ty+ph)`, source and target have the same offset inside the patch, and the
rectangle written (if any cell is written at all) is the whole part of the target rectangle that lies
on the canvas channel.
(Without the hypothesis the copy is mis-aligned: `ref_patch_region` is clipped on the left/top but
`base_topleft` is not moved; the parser does not reject such patches.)
-/
theorem C05_patch_region_sound (baseGrid refGrid : Region) (px0 py0 pw ph : Nat) (tx ty : Int)
    (hsrc : Region.Within ⟨px0, py0, pw, ph⟩ refGrid) (dx dy : Nat)
    (hdx : dx < (patchGeom baseGrid refGrid px0 py0 pw ph tx ty).w)
    (hdy : dy < (patchGeom baseGrid refGrid px0 py0 pw ph tx ty).h) :
    PatchWrite baseGrid refGrid px0 py0 pw ph tx ty (patchGeom baseGrid refGrid px0 py0 pw ph tx ty) dx dy ∧
    (patchGeom baseGrid refGrid px0 py0 pw ph tx ty).w = (baseGrid.intersection ⟨tx, ty, pw, ph⟩).width ∧
    (patchGeom baseGrid refGrid px0 py0 pw ph tx ty).h = (baseGrid.intersection ⟨tx, ty, pw, ph⟩).height := by
  unfold patchGeom at *
  simp only [] at *
  generalize baseGrid.intersection ⟨tx, ty, pw, ph⟩ = tp,
    inter_within_left baseGrid ⟨tx, ty, pw, ph⟩ = htp at *
  -- `S`: the part of the patch source under the target patch `tp`
  generalize hS : (⟨px0 + (tp.left - tx), py0 + (tp.top - ty), tp.width, tp.height⟩ : Region) = S at *
  have hrne := not_isEmpty_of_pos (Nat.zero_lt_of_lt hdx) (Nat.zero_lt_of_lt hdy)
  have hSne : S.isEmpty = false := not_isEmpty_of_within (inter_within_left refGrid S hrne).2 hrne
  subst hS
  obtain ⟨htB, htT⟩ := htp hSne
  unfold Within at htB htT hsrc
  simp only [] at htT hsrc
  -- `S` lies inside the reference grid, so it is not clipped
  have hSR : Within ⟨px0 + (tp.left - tx), py0 + (tp.top - ty), tp.width, tp.height⟩ refGrid := by
    unfold Within
    simp only []
    omega
  rw [inter_comm, inter_of_within hSR hSne] at hdx hdy ⊢
  unfold Within at hSR
  simp only [] at hSR hdx hdy ⊢
  obtain ⟨bx, bx'⟩ := clip_offset rfl ⟨htB.1, htB.2.1⟩ hdx
  obtain ⟨by_, by'⟩ := clip_offset rfl htB.2.2 hdy
  obtain ⟨rx, rx'⟩ := clip_offset rfl ⟨hSR.1, hSR.2.1⟩ hdx
  obtain ⟨ry, ry'⟩ := clip_offset rfl hSR.2.2 hdy
  refine ⟨⟨bx', by', rx', ry', ?_, ?_, ?_, ?_⟩, trivial, trivial⟩ <;> simp only [] <;> omega

example : (patchGeom ⟨0, 0, 6, 6⟩ ⟨0, 0, 8, 8⟩ 1 1 3 3 (-1) 4).targetPatch = ⟨0, 4, 2, 2⟩ := by decide
example : (patchGeom ⟨0, 0, 6, 6⟩ ⟨0, 0, 8, 8⟩ 1 1 3 3 (-1) 4).newX = 2 := by decide

/-- **Witness of the defect repaired in `blend::patch` (upsampled frames).** While features are
rendered the buffers of a 2x upsampled 12x12 frame are 6x6 but its region is already labelled
12x12. Clipping the target against the label (the unrepaired code) keeps a 3x3 target at (8, 8)
whole — outside the 6x6 buffer; clipping against the region in buffer coordinates (`downsample` by
the channel shift, the repaired code and the premise `baseGrid` = buffer of the theorem above) drops it. -/
theorem C05_unrepaired_patch_on_upsampled_frame_leaves_buffer :
    (patchGeom ⟨0, 0, 12, 12⟩ ⟨0, 0, 6, 6⟩ 0 0 3 3 8 8).targetPatch = ⟨8, 8, 3, 3⟩ ∧
    (patchGeom ((⟨0, 0, 12, 12⟩ : Region).downsample 1) ⟨0, 0, 6, 6⟩ 0 0 3 3 8 8).w = 0 := by decide

/-- `composite` before the repair (commit a89eeeb): the request is padded for filters and
upsampling before it is handed to `blend()` — and through it to the blending source. -/
def compositeRegionPadded (c : Cfg) (oriented : Region) : Region :=
  let fr := (oriented.translate (-c.x0) (-c.y0)).downsample (c.lfLevel * 3)
  let fr := padLfRegion c fr
  let fr := padColorRegion c fr
  let fr := fr.upsample c.upsampling
  if c.normal then fr.intersection ((Region.withSize c.imgW c.imgH).translate (-c.x0) (-c.y0)) else fr

/--
**A blend chain never asks its source for more than the source covers.** For two normal frames
`c` (blended) and `b` (its blending source) of one image and one requested region: every cell of
the region `composite` hands to `blend()` for `c`, expressed in `b`'s frame coordinates (this is
`base_frame_region`), lies in the region `composite` covers for `b` under the same request, for
any crop offsets of the two frames (both at LF level 0; `composite`'s region depends on no other
header field), hence for chains of any depth.
-/
theorem C05_blend_chain_request_covered (c b : Cfg) (hc : c.normal = true) (hb : b.normal = true)
    (hcl : c.lfLevel = 0) (hbl : b.lfLevel = 0) (hw : c.imgW = b.imgW) (hh : c.imgH = b.imgH)
    (oriented : Region) (x y : Int) (h : Mem x y (compositeRegion c oriented)) :
    Mem (x + c.x0 - b.x0) (y + c.y0 - b.y0) (compositeRegion b oriented) := by
  unfold compositeRegion at h ⊢
  simp only [hc, hb, hcl, hbl, if_true, Nat.zero_mul, Region.downsample] at h ⊢
  rw [mem_intersection, mem_translate, mem_translate] at h ⊢
  obtain ⟨h1, h2⟩ := h
  have e1 : x + c.x0 - b.x0 - -b.x0 = x - -c.x0 := by omega
  have e2 : y + c.y0 - b.y0 - -b.y0 = y - -c.y0 := by omega
  rw [e1, e2, ← hw, ← hh]
  exact ⟨h1, h2⟩

/-- The unrepaired region computation does not have that property from the third layer on: three
full-size layers with Gabor on a 64×64 image, request `(10, 10, 8, 8)`. The top layer pads the
request once and hands that to the middle layer as ITS request, which pads it again: the bottom
layer is asked for a region containing cell `(8, 8)` but was rendered for the request padded once,
`(9, 9, 10, 10)` — the cell is outside its grid (the assertion / error of `blend()`). Third conjunct:
on the same instance `compositeRegion` asks the bottom layer only for cells of its grid. -/
theorem C05_padded_chain_request_not_covered :
    let c : Cfg := { imgW := 64, imgH := 64, orientation := 1, x0 := 0, y0 := 0, fw := 64, fh := 64, refOnly := false, normal := true, lfLevel := 0, upsampling := 0, ec := [], epfIters := 0, gab := true, ycbcr := false, groupSizeShift := 1 }
    let r : Region := ⟨10, 10, 8, 8⟩
    Mem 8 8 (compositeRegionPadded c (compositeRegionPadded c r)) ∧
    ¬ Mem 8 8 (plumb c false r).colorPadded ∧
    (∀ x y, Mem x y (compositeRegion c (compositeRegion c r)) → Mem x y (plumb c false r).colorPadded) := by
  intro c r
  have e : compositeRegion c (compositeRegion c r) = ⟨10, 10, 8, 8⟩ := by decide +revert
  have e2 : (plumb c false r).colorPadded = ⟨9, 9, 10, 10⟩ := by decide +revert
  refine ⟨by decide +revert, by decide +revert, ?_⟩
  intro x y h
  rw [e] at h
  rw [e2]
  unfold Mem at h ⊢
  simp only [] at h ⊢
  omega

end Jxl.Region
