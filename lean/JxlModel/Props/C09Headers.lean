import JxlModel.Proofs.BundlePrefix
import JxlModel.Gen.Headers
import JxlModel.Model.Headers
/-!
# C09 / C11 — the `PrefixStable` hypothesis discharged for the bundle-described header parsers

`Props/C09.lean` and `Props/C11.lean` quantify over every family of header parsers that is *prefix
stable* (`Feed.PrefixStable`: `Ok` on a buffer is the same `Ok` on every extension, a hard error
stays that error, only `unexpected_eof` may turn into something else). Here that property is
proved for the generic bundle parser of
`Model/Bundle.lean` — the Lean reading of `define_bundle!` / `make_parse!` and of every primitive
reader (`read_bits`, `U32` with all four selectors, `U64` in all forms, `F16`, `Bool`, enums, signed
unpacking, nested bundles with contexts, vectors, arrays, `ZeroPadToByte`, validations, `skip_bits`)
— for **every description, every context, every buffer and every extension**; hence for all 20
descriptions regenerated from the Rust source on every run (`Gen/Headers.lean`), whatever they say.

This is the property the defect "short read in the extra bits of a hybrid integer" violated in the
entropy-coded part of the image header (the ICC stream; C04's layer): the bundle layer has no such
reader — every primitive goes through `rd`, which fails with end-of-data when bits are missing.

Not covered: the parsers that are not bundles (ICC stream = entropy decoder, TOC with its
permutation, the hand-written `ImageHeader` glue) — for those the hypothesis remains an obligation
exercised by the differential runs. For that reason no `Feed.Parsers` is built from `bundleRes`
here: the theorems stand beside those of C09 / C11, which keep the hypothesis.
-/
namespace Jxl.Bundle
open Jxl.Feed (PrefixStable)
open Jxl.Container (Bytes)

/-- Bit level, any start position: the parser never looks past what it consumes. -/
theorem C09_bundle_parse_ok_extends (b : Bundle) (ctx : Env) (pos : Nat) (s t : Bits) (e : Env)
    (rest : Bits) (h : parseAt b ctx pos s = .ok (e, rest)) :
    parseAt b ctx pos (s ++ t) = .ok (e, rest ++ t) ∧ rest.length ≤ s.length := by
  have hx := parseAt_ext b ctx pos s t
  rw [h] at hx
  exact ⟨hx.2, hx.1⟩

theorem C09_bundle_parse_hard_error_stable (b : Bundle) (ctx : Env) (pos : Nat) (s t : Bits) (err : Err)
    (h : parseAt b ctx pos s = .error err) (hne : err ≠ .eof) :
    parseAt b ctx pos (s ++ t) = .error err := by
  have hx := parseAt_ext b ctx pos s t
  rw [h] at hx
  cases err with
  | eof => exact absurd rfl hne
  | invalid k => exact hx
  | stuck k => exact hx

/-- Contrapositive form: a prefix is never *accepted* or *rejected* and then re-judged. -/
theorem C09_bundle_parse_eof_on_prefix (b : Bundle) (ctx : Env) (pos : Nat) (s t : Bits)
    (h : parseAt b ctx pos (s ++ t) = .error .eof) : parseAt b ctx pos s = .error .eof := by
  revert h
  exact (parseAt_ext b ctx pos s t).cases (fun _ _ _ h => nomatch h) (fun _ _ => rfl) (fun _ h => h)

/-- Byte level, in the vocabulary of the feeding model. -/
theorem C09_bundle_parser_prefix_stable (b : Bundle) (ctx : Env) : PrefixStable (bundleRes b ctx) :=
  bundleRes_stable b ctx

/-- …in particular each of the descriptions regenerated from `/repo` on this run. -/
theorem C09_header_descriptions_prefix_stable :
    ∀ nb ∈ Jxl.Headers.Gen.allBundles, ∀ ctx : Env, PrefixStable (bundleRes nb.2 ctx) :=
  fun nb _ ctx => bundleRes_stable nb.2 ctx

/-- `SizeHeader` of a 16×8 image (`div8 = 1`, `h_div8 = 1 + 0`, ratio 0, `w_div8 = 1 + 1`): 14 bits, two bytes -/
def exSize : Bytes := [0x01, 0x02]

example : Jxl.Headers.Gen.allBundles.length = 20 := by decide +kernel

example :
    (match bundleRes Jxl.Headers.Gen.SizeHeader [] exSize with
      | .ok e n => n == 2 && (Val.record e).get "height" == Val.nat 8 && (Val.record e).get "width" == Val.nat 16
      | _ => false) = true ∧
    bundleRes Jxl.Headers.Gen.SizeHeader [] [0x01] = .needMore ∧
    (match bundleRes Jxl.Headers.Gen.SizeHeader [] (exSize ++ [0xff, 0x00]) with
      | .ok e n => n == 2 && (Val.record e).get "width" == Val.nat 16
      | _ => false) = true := by
  decide +kernel

/-- a hard error: a non-zero bit where `ZeroPadToByte` demands zeros -/
example : bundleRes [.mk "x" (.u 3) (.bool true) Option.none, .mk "pad" .zeroPad (.bool true) Option.none]
    [] [0xff] = .err ∧
    bundleRes [.mk "x" (.u 3) (.bool true) Option.none, .mk "pad" .zeroPad (.bool true) Option.none]
    [] [0xff, 0x12] = .err := by
  decide +kernel

end Jxl.Bundle
