import JxlModel.Proofs.NaturalOrder
/-!
# C07 (lazy tables) — the natural coefficient order tables

The four large tables (orders 9..12) are built at first use. What a caller gets must be a function
of the order index alone: `Jxl.NaturalOrder.table idx` is that function (the correspondence run
asks the real `natural_order_lazy` for every index in seeded orders, sequentially and from threads
started together, and compares with it). The theorem below is the size fact the in-place fill
relies on (`output[idx]` stays inside the `bw * bh` vector).
-/
namespace Jxl.NaturalOrder

/-- what `length_naturalOrder` asks of a block size -/
theorem blockSizes_dvd : ∀ p ∈ blockSizes, p.2 ∣ p.1 ∧ 8 ∣ p.2 := by decide

theorem length_table (idx : Nat) :
    (table idx).length = (blockSizes.getD idx (0, 0)).1 * (blockSizes.getD idx (0, 0)).2 := by
  rw [table, List.getD_eq_getElem?_getD]
  cases h : blockSizes[idx]? with
  | none => rfl
  | some p =>
    obtain ⟨hdvd, h8⟩ := blockSizes_dvd p (List.mem_of_getElem? h)
    exact length_naturalOrder hdvd h8

theorem C07_natural_order_table_lengths :
    (List.range 13).all (fun i =>
      (table i).length == (blockSizes.getD i (0, 0)).1 * (blockSizes.getD i (0, 0)).2) = true :=
  List.all_eq_true.2 fun i _ => beq_iff_eq.2 (length_table i)

example : (table 4).take 5 = [(0, 0), (1, 0), (0, 1), (2, 0), (3, 0)] := by decide +kernel

end Jxl.NaturalOrder
