import JxlModel.Proofs.RenderSeq
/-!
# C08 — a failed render never wedges or corrupts the image

Single-caller histories of `render_keyframe`, `render_loading_keyframe` and
`request_image_region` on the render-handle protocol of `jxl-render` (model:
`Model/RenderState.lean`, sequential semantics `runHist`), with an adversarial oracle that may
fail any fallible step of any call (`Choice.fail`), for every well-formed frame structure
(`Config.wf`: references point to earlier frames) and every deterministic pixel function
(`Codec`). `Variant.fixed` is the code with the repair of finding F2 in `RenderedImage::blend`
(and the `reset` guard); the last theorem shows that the unrepaired exit (`Variant.old`,
`composite(..)?`) violates the property.

`Quiescent n hs`: `n` handles, none `Rendering` (e.g. a freshly loaded image).
`HsVal cfg cd hs`: every `Done`/`Blended` image held by a handle is the image of a never-failed
render (`cleanDone`/`cleanBlended`); the other states hold nothing, a cache, or an error.
-/
namespace Jxl.RenderState

/-- After every completed call of every history with arbitrary injected failures no handle is
left in the marker state `Rendering`. -/
theorem C08_op_exit_not_rendering (cfg : Config) (cd : Codec) (hwf : cfg.wf = true) (fuel : Nat)
    (hs₀ : List HState) (h₀ : Quiescent cfg.frames.length hs₀)
    (hist : List (Op × (Nat → Choice))) (hs : List HState) (rs : List (Option Res))
    (h : runHist cfg cd .fixed fuel hs₀ hist = some (hs, rs)) :
    ∀ i, getH hs i ≠ .rendering :=
  ((runHist_spec cfg cd hwf fuel hist hs₀ h₀).1 hs rs h).1.2

/-- Every later call returns: from any state reachable by a history of completed calls with
arbitrary failures, every call with every oracle terminates within `opFuel cfg op` atomic steps
(an explicit function of the frame structure) — it never waits on a handle nobody renders
(`Outcome.hang`) and never runs out of fuel. -/
theorem C08_later_calls_return (cfg : Config) (cd : Codec) (hwf : cfg.wf = true) (fuel : Nat)
    (hs₀ : List HState) (h₀ : Quiescent cfg.frames.length hs₀)
    (hist : List (Op × (Nat → Choice))) (hs : List HState) (rs : List (Option Res))
    (h : runHist cfg cd .fixed fuel hs₀ hist = some (hs, rs))
    (op : Op) (orc : Nat → Choice) (fuel' : Nat) (hf : opFuel cfg op ≤ fuel') :
    ∃ hs' r, runOp cfg cd .fixed orc fuel' hs op = .finished hs' r :=
  (runOp_spec cfg cd orc hwf fuel' hs ((runHist_spec cfg cd hwf fuel hist hs₀ h₀).1 hs rs h).1
    op).2.2 hf

/-- Consequently whole histories complete: with fuel for its longest call no call of a history
hangs or is cut off, whatever fails. -/
theorem C08_history_completes (cfg : Config) (cd : Codec) (hwf : cfg.wf = true) (fuel : Nat)
    (hs₀ : List HState) (h₀ : Quiescent cfg.frames.length hs₀)
    (hist : List (Op × (Nat → Choice))) (hf : ∀ p ∈ hist, opFuel cfg p.1 ≤ fuel) :
    ∃ hs rs, runHist cfg cd .fixed fuel hs₀ hist = some (hs, rs) :=
  (runHist_spec cfg cd hwf fuel hist hs₀ h₀).2 hf

/-- States reachable after failures hold nothing, a cache, an error, or the correct image;
hence every later call that succeeds returns the image of a never-failed render
(`OpClean`: `cleanBlended` of the keyframe for `render_keyframe`; the loading frame's clean image
or the in-progress keyframe's for `render_loading_keyframe`). -/
theorem C08_success_after_failure_eq_clean (cfg : Config) (cd : Codec) (hwf : cfg.wf = true)
    (fuel : Nat) (hs₀ : List HState) (h₀ : Quiescent cfg.frames.length hs₀)
    (hv₀ : HsVal cfg cd hs₀) (hist : List (Op × (Nat → Choice))) (hs : List HState)
    (rs : List (Option Res)) (h : runHist cfg cd .fixed fuel hs₀ hist = some (hs, rs)) :
    (∀ i, (∀ v, getH hs i = .done v → v = cleanDone cfg cd i) ∧
          (∀ v, getH hs i = .blended v → v = cleanBlended cfg cd i) ∧
          getH hs i ≠ .rendering) ∧
    ∀ (j : Nat) (op : Op) (orc : Nat → Choice) (r : Option Res),
      hist[j]? = some (op, orc) → rs[j]? = some r →
      ∀ v, r = some (Res.ok v) → OpClean cfg cd op v := by
  obtain ⟨hq, hv⟩ := (runHist_spec cfg cd hwf fuel hist hs₀ h₀).1 hs rs h
  exact ⟨fun i => ⟨((hv hv₀).1 i).1, ((hv hv₀).1 i).2, hq.2 i⟩, (hv hv₀).2⟩

/-- two layers: frame 0 is a reference (skips composition), frame 1 (the keyframe) blends over it -/
def exCfg : Config :=
  { frames := [{ skip := true },
               { spawn := [0], pre := [0], chans := [(some 0, true), (some 0, false)], reset := none }],
    keyframes := [1] }

def exCodec : Codec :=
  { dec := fun i ws => 100 * (i + 1) + ws.foldl (· + ·) 0,
    pre := fun _ v => v + 1,
    comp := fun i v ws => 1000 * (i + 1) + v + ws.foldl (· + ·) 0 }

def failAt (k : Nat) : Nat → Choice := fun n => if n = k then { fail := some .oom } else {}

def noFail : Nat → Choice := fun _ => {}

/-- the handler step (`stepDone`) of the unrepaired code, where `RenderedImage::blend` leaves
through `composite(..)?` -/
def blendStepOld (cfg : Config) (cd : Codec) (ch : Choice) (hs : List HState) (th : Thread)
    (a : Act) : StepOut := stepDone cfg cd .old ch hs th a

/-- **F2.** With the unrepaired exit, a composite that fails after the handle was marked
`Rendering` returns with the marker still set (step 11 is a tracked allocation inside the
composite of frame 1; step 2 makes the reference frame fail instead), and the next
`render_keyframe` sleeps on that handle forever. -/
theorem C08_unrepaired_blend_violates_op_exit :
    runOp exCfg exCodec .old (failAt 11) 100 [.none, .none] (.renderKeyframe 0)
        = .finished [.blended 101, .rendering] (some (.err .oom)) ∧
    runOp exCfg exCodec .old (failAt 2) 100 [.none, .none] (.renderKeyframe 0)
        = .finished [.errTaken, .rendering] (some (.err .oom)) ∧
    runOp exCfg exCodec .old noFail 100 [.blended 101, .rendering] (.renderKeyframe 0)
        = .hang [.blended 101, .rendering] 1 := by
  refine ⟨?_, ?_, ?_⟩ <;> decide +kernel

/-- the same failure with the repair: the marker is cleared, the next call returns an error,
and after `request_image_region` the call succeeds with the clean image -/
example :
    runHist exCfg exCodec .fixed 100 [.none, .none]
      [(.renderKeyframe 0, failAt 11), (.renderKeyframe 0, noFail), (.requestRegion, noFail),
       (.renderKeyframe 0, noFail)] =
    some ([.blended 101, .blended 2403],
      [some (.err .oom), some (.err .failedRef), none, some (.ok 2403)]) := by decide +kernel

/-- non-vacuity of the hypotheses; the fuel bound is a concrete number -/
example : exCfg.wf = true ∧ Quiescent exCfg.frames.length [.none, .none] ∧
    HsVal exCfg exCodec [.none, .none] ∧ opFuel exCfg (.renderKeyframe 0) = 30 ∧
    cleanBlended exCfg exCodec 1 = 2403 ∧
    runOp exCfg exCodec .fixed noFail 30 [.none, .none] (.renderKeyframe 0) =
      .finished [.blended 101, .blended 2403] (some (.ok 2403)) := by
  have hnone : ∀ i, getH [.none, .none] i = .none := getH_replicate_none 2
  exact ⟨by decide, ⟨rfl, fun i => by simp [hnone]⟩, fun i => by simp [hnone], by decide +kernel,
    by decide +kernel, by decide +kernel⟩

end Jxl.RenderState
