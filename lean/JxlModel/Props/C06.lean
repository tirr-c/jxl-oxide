import JxlModel.Proofs.Region
import JxlModel.Model.Locality
/-!
# C06 — a region-of-interest render equals the same rectangle of the full render

Theorems about the region arithmetic of the renderer (`Model/Region.lean`, which mirrors
`jxl-render/src/{region,util,modular,render,blend,image,lib}.rs`, `jxl-frame/src/header.rs` and
`jxl-image/src/lib.rs` and is tied to those files by the differential check
`tools/props/c06.py`), and the kernel-independent locality theorem (`Model/Locality.lean`).

Vocabulary: `Region.Mem x y r` cell membership, `Region.Subset` inclusion of covered cells,
`Region.Within` the box order (edge by edge). Machine-type side conditions: every model function
`f` has a predicate `fFits` (no wrap / saturation / panic in the `i32`/`u32` arithmetic); the
theorems below are about the ideal values, which the Rust code computes whenever `fFits` holds
(checked on every run by the differential).
-/
namespace Jxl.Region
open Region

theorem C06_down_up_contains (r : Region) (k : Nat) :
    Region.Subset r ((r.downsample k).upsample k) :=
  Within.subset (within_down_up r k)

example : (Region.downsample ⟨-5, 3, 10, 7⟩ 2).upsample 2 = ⟨-8, 0, 16, 12⟩ := by decide
example : Region.Mem 4 9 ⟨-5, 3, 10, 7⟩ := by decide

theorem C06_pad_monotone (a b : Region) (n : Nat) (h : a.Within b) :
    (a.pad n).Within (b.pad n) ∧ a.Within (a.pad n) :=
  ⟨pad_within_pad (Nat.le_refl n) h, within_pad a n⟩

example : (Region.pad ⟨3, 4, 5, 6⟩ 2).Within (Region.pad ⟨0, 0, 10, 10⟩ 2) := by decide

theorem C06_downsample_monotone (a b : Region) (k : Nat) (h : a.Within b) :
    (a.downsample k).Within (b.downsample k) := downsample_within_mono k h

theorem C06_aligned_contains (r : Region) (g : Nat) (hg : 0 < g) :
    r.Within (r.containerAligned g) ∧
    (r.containerAligned g).left % (g : Int) = 0 ∧ (r.containerAligned g).top % (g : Int) = 0 ∧
    (r.containerAligned g).width % g = 0 ∧ (r.containerAligned g).height % g = 0 :=
  ⟨within_containerAligned r hg, Int.mul_emod_left _ _, Int.mul_emod_left _ _,
    Nat.mul_mod_left _ _, Nat.mul_mod_left _ _⟩

example : Region.containerAligned ⟨-3, 9, 12, 7⟩ 8 = ⟨-8, 8, 24, 8⟩ := by decide

theorem C06_intersection_comm (a b : Region) : a.intersection b = b.intersection a := inter_comm a b

theorem C06_intersection_assoc (a b c : Region) :
    (a.intersection b).intersection c = a.intersection (b.intersection c) :=
  eq_of_mem_iff (inter_canonical _ _) (inter_canonical _ _) fun x y => by
    simp only [mem_intersection]; exact and_assoc

theorem C06_intersection_idem (a : Region) (h : a.isEmpty = false) : a.intersection a = a :=
  inter_of_within (Within.refl a) h

theorem C06_intersection_mem (a b : Region) (x y : Int) :
    Mem x y (a.intersection b) ↔ Mem x y a ∧ Mem x y b := mem_intersection a b x y

example : Region.intersection ⟨-3, 2, 10, 10⟩ ⟨4, -1, 10, 5⟩ = ⟨4, 2, 3, 2⟩ := by decide
example : Region.intersection ⟨-3, 2, 10, 10⟩ ⟨7, 0, 4, 4⟩ = Region.empty := by decide

/-- `contains` decides the box order (an empty target is contained in everything). -/
theorem C06_contains_iff (r t : Region) :
    r.contains t = true ↔ (t.isEmpty = true ∨ t.Within r) := by
  unfold contains Within right bottom
  by_cases h : t.isEmpty = true
  · simp [h]
  · simp [h]
    omega

/-- Orientation (`Region::apply_orientation`): every requested cell of the oriented image is
carried to a cell of the mapped region, which has exactly as many cells, for all 8 orientations. -/
theorem C06_orientation_maps_cells (r : Region) (imgW imgH o : Nat) (ho1 : 1 ≤ o) (ho8 : o ≤ 8)
    (x y : Int) (h : Mem x y r) :
    let WH := orientedSize o imgW imgH
    Mem (orientPoint o WH.1 WH.2 x y).1 (orientPoint o WH.1 WH.2 x y).2 (r.applyOrientation imgW imgH o) ∧
    (r.applyOrientation imgW imgH o).width * (r.applyOrientation imgW imgH o).height = r.width * r.height := by
  intro WH
  rw [mem_iff_ax] at h
  have hne : r.width ≠ 0 ∧ r.height ≠ 0 := by unfold inAx at h; omega
  rw [applyOrientation_eq ⟨ho1, ho8⟩ r imgW imgH hne.1 hne.2, orientPoint_eq ⟨ho1, ho8⟩]
  cases Jxl.Orient.swaps o <;>
    simp only [WH, Bool.false_eq_true, ↓reduceIte, mem_iff_ax, inAx, Jxl.Orient.mem_mirLo]
  · exact ⟨h, trivial⟩
  · exact ⟨h.symm, Nat.mul_comm _ _⟩

example : Region.applyOrientation ⟨2, 1, 3, 4⟩ 10 20 6 = ⟨1, 15, 4, 3⟩ := by decide

/-- `image_region_to_frame`: for a frame that is not `ReferenceOnly` the frame region consists of
exactly the cells of the frame whose canvas position (signed crop offset `x0, y0`) lies in the
oriented request; a `ReferenceOnly` frame is always rendered in full. (`ignore_lf = true`: the region
before the division by the LF level, which is what `plumb` uses when `lfLevel = 0`.) -/
theorem C06_frame_region_is_request (c : Cfg) (R : Region) :
    (c.refOnly = false → ∀ x y, Mem x y (imageRegionToFrame c R true) ↔
        Mem (x + c.x0) (y + c.y0) (R.applyOrientation c.imgW c.imgH c.orientation) ∧
        Mem x y (Region.withSize c.fw c.fh)) ∧
    (c.refOnly = true → imageRegionToFrame c R true = Region.withSize c.fw c.fh) := by
  unfold imageRegionToFrame
  constructor
  · intro hr x y
    simp only [hr, if_true, Bool.false_eq_true, if_false, mem_intersection, mem_translate]
    rw [Int.sub_neg, Int.sub_neg]
  · intro hr
    simp only [hr, if_true]

/-- a concrete valid header: 1000×700 frame at crop offset (-30, 12), 2× upsampling, one extra
channel with cumulative shift 3, EPF with 3 iterations, Gabor, chroma subsampling -/
def exampleCfg : Cfg :=
  { imgW := 2000, imgH := 1400, orientation := 1, x0 := -30, y0 := 12, fw := 1000, fh := 700,
    refOnly := false, normal := true, lfLevel := 0, upsampling := 1, ec := [(1, 2)], epfIters := 3,
    gab := true, ycbcr := true, groupSizeShift := 1 }

example : exampleCfg.valid = true := by decide
example : plumb exampleCfg false ⟨100, 200, 301, 77⟩ =
    { frameRegion := ⟨130, 188, 301, 77⟩, lfPadded := ⟨130, 188, 301, 77⟩,
      upValid := ⟨112, 168, 336, 120⟩, colorPadded := ⟨48, 72, 184, 80⟩,
      modularRegion := ⟨48, 72, 184, 80⟩, lfRegion := ⟨6, 9, 23, 10⟩ } := by decide
example : stageNeed exampleCfg ⟨130, 188, 301, 77⟩ = ⟨54, 84, 172, 60⟩ := by decide

/--
**For every valid header configuration** (upsampling 1/2/4/8, every LF level, extra channels with
cumulative shift ≤ 6, EPF off or 1–3 iterations, Gabor on/off, chroma subsampling on/off) **and
every requested rectangle** `R`, with `p = plumb c force R` the regions `render_frame` /
`render_modular` derive (`render.rs:22..44`, `modular.rs:27`):

1. final stage (blending, radius 0; features radius 0): the upsampler's output window
   `upsampling_valid_region` contains every cell of the (LF-padded) frame region inside the frame;
2. non-separable upsampling of the colour channels: every cell it reads (radius 2 per pass at the
   coarse scale, `upNeed`), clipped to the frame, lies in the window it is run on
   (`upsampling_valid_region.downsample(k)`);
3. restoration filters, chroma upsampling, decoding: the frame region dilated by the summed radii
   of all later stages (`stageNeed`: upsampler 2 per pass, EPF 2/3/6 by iteration count, Gabor 1,
   chroma upsampling 1 on the 2-aligned grid), clipped to the frame, lies in
   `color_padded_region`, the single window decoding, chroma upsampling, Gabor and EPF run on;
4. with EPF enabled the window origin is a multiple of 8 (the code asserts this and derives the
   sigma block index from it);
5. every extra channel (cumulative shift `e.1 + e.2`): every cell its upsampler reads, clipped to the
   frame, lies in its window;
6. the region handed to the Modular decoder contains `color_padded_region`.

`ReferenceOnly` frames are covered as well (their frame region is the whole frame).
-/
theorem C06_padded_region_sufficient (c : Cfg) (hv : c.valid = true) (force : Bool) (R : Region) :
    let p := plumb c force R
    let upFull := Region.withSize (c.sampleWidth 1) (c.sampleHeight 1)
    let fullC := Region.withSize c.colorSampleWidth c.colorSampleHeight
    (∀ x y, Mem x y p.lfPadded → Mem x y upFull → Mem x y p.upValid) ∧
    (∀ x y, Mem x y (upNeed p.lfPadded c.upsampling) → Mem x y fullC →
        Mem x y (p.upValid.downsample c.upsampling)) ∧
    (∀ x y, Mem x y (stageNeed c p.lfPadded) → Mem x y fullC → Mem x y p.colorPadded) ∧
    (c.epfIters ≠ 0 → p.colorPadded.left % 8 = 0 ∧ p.colorPadded.top % 8 = 0) ∧
    (∀ e ∈ c.ec, ∀ x y, Mem x y (upNeed p.lfPadded (e.1 + e.2)) →
        Mem x y (Region.withSize ((c.sampleWidth 1 + 2 ^ (e.1 + e.2) - 1) / 2 ^ (e.1 + e.2))
                                 ((c.sampleHeight 1 + 2 ^ (e.1 + e.2) - 1) / 2 ^ (e.1 + e.2))) →
        Mem x y (p.upValid.downsample (e.1 + e.2))) ∧
    (∀ x y, Mem x y p.colorPadded → Mem x y p.modularRegion) := by
  intro p upFull fullC
  obtain ⟨hkm, hem⟩ := maxUp_bounds c (Cfg.valid_ec hv)
  obtain ⟨cw, chh⟩ := colorSample_eq c (Cfg.valid_lf hv)
  have hU : p.upValid = (padUp c.maxUpsampleFactor p.lfPadded).intersection upFull := rfl
  have hB := stageNeed_within_padColorRegion c p.lfPadded (upNeed_within_padUp hkm _)
  rw [hU]
  refine ⟨?_, ?_, ?_, ?_, ?_, ?_⟩
  · intro x y hx hf
    exact (mem_intersection _ _ x y).2 ⟨Within.subset (within_padUp _ _) x y hx, hf⟩
  · intro x y hx hf
    simp only [fullC, cw, chh] at hf
    exact upNeed_mem_upValid hkm _ _ _ x y hx hf
  · intro x y hx hf
    exact (mem_intersection _ _ x y).2 ⟨Within.subset hB.1 x y hx, hf⟩
  · intro he
    exact inter_withSize_aligned _ _ _ 8 (hB.2 he).1 (hB.2 he).2
  · intro e he x y hx hf
    exact upNeed_mem_upValid (hem e he) _ _ _ x y hx hf
  intro x y hm
  show Mem x y (computeModularRegion c force p.colorPadded false)
  unfold computeModularRegion
  cases force with
  | false => exact hm
  | true =>
    have hf := ((mem_intersection (padColorRegion c p.lfPadded) fullC x y).1 hm).2
    unfold Mem at hm hf ⊢
    simp only [withSize, fullC, if_true, Bool.false_eq_true, if_false] at hf ⊢
    omega

/-- LF frames: the padding `pad_lf_region` adds is `4 * lf_level + 32` on every side
(`util.rs:54`). Partial: what the consuming VarDCT frame reads from an LF frame (adaptive LF
smoothing, 8×-upsampled block positions) is not modelled, so "sufficient" is not stated here. -/
theorem C06_lf_padding_partial (c : Cfg) (F : Region) :
    F.Within (padLfRegion c F) ∧
    (c.lfLevel ≠ 0 → padLfRegion c F = F.pad (4 * c.lfLevel + 32)) := by
  unfold padLfRegion
  constructor
  · split
    · exact within_pad _ _
    · exact Within.refl _
  · intro h; simp [h]

/--
A pipeline of local operators evaluated stage by stage on windows equals the full-frame evaluation
on the target cells `R`, provided every stage's window lies in the frame and contains what that
stage and all later stages read (`Sufficient`), and the inputs agree on the needed cells. Holds
for arbitrary operators over cells of ℤ² with arbitrary values, arbitrary dependency relations
(`r`-local: `‖p − q‖∞ ≤ r`; resampling stages: any relation) and whatever the operators do at the
artificial edges of their windows.
-/
theorem C06_local_pipeline_crop_eq_full {V : Type} (stages : List (Stage V × (Cell → Prop)))
    (R : Cell → Prop) (hloc : ∀ sw ∈ stages, sw.1.Local) (hwin : Sufficient stages R)
    (f g : Img V) (hfg : ∀ q, need (stages.map (·.1)) R q → f q = g q) :
    ∀ p, R p → runWin stages f p = runFull (stages.map (·.1)) g p := by
  induction stages generalizing f g with
  | nil => exact hfg
  | cons sw ss ih =>
    obtain ⟨s, W⟩ := sw
    obtain ⟨hW, hdom, hrest⟩ := hwin
    -- after the first stage the windowed and the full run agree on what the later stages need
    apply ih (fun sw h => hloc sw (List.mem_cons_of_mem _ h)) hrest
    intro q hq
    apply hloc (s, W) (List.mem_cons_self ..) W f g q hdom
    intro q' hdep hd
    have hn : need (s :: ss.map (·.1)) R q' := ⟨hd, q, hq, hdep⟩
    exact ⟨hW q' hn, hfg q' hn⟩

/-- an `r`-local stage over the frame rectangle `D` -/
def radiusStage {V : Type} (op : (Cell → Prop) → Img V → Img V) (r : Nat) (D : Region) : Stage V :=
  { op, dep := fun p q => (p.1 - q.1).natAbs ≤ r ∧ (p.2 - q.2).natAbs ≤ r, dom := fun q => Mem q.1 q.2 D }

/-- For an `r`-local stage the cells needed for a rectangle `T` lie in `T.pad r`, clipped to the
frame `D`: the link between `Sufficient` and the padded regions above. -/
theorem C06_need_of_radius_stage {V : Type} (op : (Cell → Prop) → Img V → Img V) (r : Nat)
    (D T : Region) (q : Cell) (h : need [radiusStage op r D] (fun p => Mem p.1 p.2 T) q) :
    Mem q.1 q.2 (T.pad r) ∧ Mem q.1 q.2 D := by
  obtain ⟨hd, p, hp, hdep⟩ := h
  refine ⟨?_, hd⟩
  simp only [need] at hp
  rw [mem_pad]
  unfold Mem at hp
  simp only [radiusStage] at hdep
  omega

section NonVacuity
open Classical
/-- a 1-local operator that reads its right neighbour *through the window* (garbage `0` outside) -/
noncomputable def shiftAdd : Stage Int :=
  { op := fun W f p => f p + (if W (p.1 + 1, p.2) then f (p.1 + 1, p.2) else 0),
    dep := fun p q => q = p ∨ q = (p.1 + 1, p.2),
    dom := fun _ => True }

example : shiftAdd.Local := by
  intro W f g p _ h
  have h1 := h p (Or.inl rfl) trivial
  have h2 := h (p.1 + 1, p.2) (Or.inr rfl) trivial
  simp only [shiftAdd, h1.2, h2.1, h2.2, if_true]

/-- the window `x ∈ [0, 2]` is sufficient for the target `x ∈ [0, 1]` -/
example : Sufficient [(shiftAdd, fun q => 0 ≤ q.1 ∧ q.1 ≤ 2)] (fun p => 0 ≤ p.1 ∧ p.1 ≤ 1) := by
  refine ⟨?_, fun _ _ => trivial, trivial⟩
  rintro q ⟨_, p, hp, hq | hq⟩
  · subst hq
    have hp' : (0 : Int) ≤ q.1 ∧ q.1 ≤ 1 := hp
    omega
  · subst hq
    have hp' : (0 : Int) ≤ p.1 ∧ p.1 ≤ 1 := hp
    show (0 : Int) ≤ p.1 + 1 ∧ p.1 + 1 ≤ 2
    omega
end NonVacuity

/--
Every colour-sample cell `(x, y)` of the frame that lies in the region handed to the Modular
decoder belongs to a pass group with a valid index whose rectangle contains it and which passes the
job filter of `render_modular` (so it is decoded); and the LF group holding its 8×-downsampled
position passes the job filter of `load_lf_groups`.
-/
theorem C06_selected_groups_cover (c : Cfg) (mr : Region) (x y : Nat)
    (hx : x < c.colorSampleWidth) (hy : y < c.colorSampleHeight) (hm : Mem x y mr) :
    (let g := (y / c.groupDim) * c.groupsPerRow + x / c.groupDim
     g < c.numGroups ∧ Mem x y (groupRegion c g) ∧ groupSelected c mr g = true) ∧
    (let g := (y / 8 / c.groupDim) * c.lfGroupsPerRow + x / 8 / c.groupDim
     Mem ((x / 8 : Nat) : Int) ((y / 8 : Nat) : Int) (lfGroupRegion c g) ∧
     lfGroupSelected c (mr.downsample 3) g = true) := by
  have hd := groupDim_pos c
  have hcol : x / c.groupDim < c.groupsPerRow := div_lt_ceil x _ _ hd hx
  have hrow : y / c.groupDim < c.groupsPerCol := div_lt_ceil y _ _ hd hy
  have hmem : Mem x y (groupRegion c _) := cell_in_tile c.groupDim c.groupsPerRow x y hd hcol
  have hlcol : x / 8 / c.groupDim < c.lfGroupsPerRow := by
    rw [Nat.div_div_eq_div_mul, Nat.mul_comm]
    exact div_lt_ceil x _ _ (Nat.mul_pos hd (by decide)) hx
  have hlmem : Mem _ _ (lfGroupRegion c _) :=
    cell_in_tile c.groupDim c.lfGroupsPerRow (x / 8) (y / 8) hd hlcol
  refine ⟨⟨?_, hmem, ?_⟩, hlmem, ?_⟩
  · rw [Cfg.numGroups, Nat.mul_comm c.groupsPerRow]
    exact mul_add_lt_mul hrow hcol
  · rw [groupSelected, not_isEmpty_of_mem ((mem_intersection _ _ _ _).2 ⟨hmem, hm⟩)]; rfl
  · -- the LF group's index is not compared with `numLfGroups`, so no bound on `y` is needed here
    rw [lfGroupSelected,
      not_isEmpty_of_mem ((mem_intersection _ _ _ _).2 ⟨mem_downsample 3 hm, hlmem⟩)]; rfl

example : groupSelected exampleCfg ⟨48, 72, 184, 80⟩ 0 = true := by decide
example : groupSelected exampleCfg ⟨48, 72, 184, 80⟩ 1 = false := by decide

/-- With palette or squeeze transforms the region handed to the Modular decoder is the whole frame
(`compute_modular_region`), so by the theorem above every group is selected. -/
theorem C06_palette_forces_full (c : Cfg) (r : Region) (x y : Nat)
    (hx : x < c.colorSampleWidth) (hy : y < c.colorSampleHeight) :
    Mem x y (computeModularRegion c true r false) := by
  unfold computeModularRegion Mem
  simp only [withSize, if_true, Bool.false_eq_true, if_false]
  omega

/--
After any history of region requests `rs` followed by a request for `r`, the complete handle
state (every handle together with everything it captured) is a function of `r`, the frame list
and the handles of `ReferenceOnly` frames created at load time — it does not depend on `rs`.
`rebuildFrom` gives every frame that is not `ReferenceOnly` a fresh handle for `r` capturing the
current handles of its dependencies.
-/
theorem C06_region_history_irrelevant (frames : List FrameInfo) (hs : List Handle)
    (rs : List Region) (r : Region) :
    requests frames hs (rs ++ [r]) = rebuildFrom r frames (kept frames hs) [] := by
  rw [requests_append, request, (resetFrom_spec r frames _ []).1, kept_requests]

theorem C06_region_history_irrelevant' (frames : List FrameInfo) (hs : List Handle)
    (rs₁ rs₂ : List Region) (r : Region) :
    requests frames hs (rs₁ ++ [r]) = requests frames hs (rs₂ ++ [r]) := by
  rw [C06_region_history_irrelevant, C06_region_history_irrelevant]

def exampleFrames : List FrameInfo :=
  [⟨true, []⟩, ⟨false, [0]⟩, ⟨false, [1]⟩, ⟨false, [1, 2]⟩]

example :
    requests exampleFrames (initial exampleFrames ⟨0, 0, 512, 512⟩) [⟨1, 2, 3, 4⟩, ⟨9, 9, 9, 9⟩, ⟨5, 6, 7, 8⟩] =
    requests exampleFrames (initial exampleFrames ⟨0, 0, 512, 512⟩) [⟨5, 6, 7, 8⟩] := by decide

theorem C06_request_rebuilds (frames : List FrameInfo) (hs : List Handle) (r : Region) :
    kept frames (request frames hs r) = kept frames hs ∧
    request frames hs r = rebuildFrom r frames (kept frames hs) [] :=
  (resetFrom_spec r frames hs []).symm

/--
If `ReferenceOnly` frames depend only on earlier `ReferenceOnly` frames (`RefClosed`), the state
after a request for `r` equals the state of a decoder that had `r` requested before any frame was
loaded, whatever region `r₀` was in force at load time: together with
`C06_region_history_irrelevant` the handle state — hence everything rendered from it — depends
only on the last request.
-/
theorem C06_history_equals_fresh (frames : List FrameInfo) (hc : RefClosed frames) (r₀ r : Region) :
    request frames (initial frames r₀) r = initial frames r :=
  reset_load_eq frames hc r₀ r frames [] [] [] rfl rfl ⟨rfl, fun i hi => absurd hi (by simp)⟩

/-- two chained `ReferenceOnly` frames followed by regular frames that use them -/
example : RefClosed [⟨true, []⟩, ⟨true, [0]⟩, ⟨false, [1]⟩, ⟨false, [1, 2]⟩] := by
  intro i f hf hr d hd
  match i, hf with
  | 0, hf => simp at hf; subst hf; simp at hd
  | 1, hf => simp at hf; subst hf; simp at hd; subst hd; simp
  | 2, hf => simp at hf; subst hf; simp at hr
  | 3, hf => simp at hf; subst hf; simp at hr
  | n + 4, hf => simp at hf

/--
`RefClosed` cannot be dropped (the witness violates it: frame 1 is `ReferenceOnly` and depends on the
regular frame 0): in the model a `ReferenceOnly` frame that depends on a regular frame
(it takes patches from it) keeps the handle it captured at load time and goes on observing the
*old* region of that frame after a new request. No image available offline has such a frame, so
this witness could not be replayed on the decoder; it is reported as an unconfirmed candidate.
-/
theorem C06_history_equals_fresh_needs_refclosed :
    ∃ (frames : List FrameInfo) (r₀ r : Region),
      request frames (initial frames r₀) r ≠ initial frames r :=
  ⟨[⟨false, []⟩, ⟨true, [0]⟩], ⟨0, 0, 8, 8⟩, ⟨1, 1, 2, 2⟩, by decide⟩

/--
**The frame at the bottom of a blend chain covers what the chain asks of it.** For a normal frame
without upsampling (any crop offset, Gabor / EPF / chroma subsampling on or off, palette/squeeze or
not): every cell of the region `composite` requests for an image-region request `R` that lies on the
frame is a cell of `color_padded_region`, the window the frame is decoded and filtered on — i.e. of
the grid the frame hands to `blend()`. Together with `C05_blend_chain_request_covered` (each layer
asks its source for exactly its own request) no layer of a chain of any depth reads outside what
the layer below rendered. (With upsampling the grid is `color_padded_region` scaled up; that case is
covered by the crop-vs-full runs only.) -/
theorem C06_source_grid_covers_request (c : Cfg) (hv : c.valid = true) (hn : c.normal = true)
    (hr : c.refOnly = false) (hl : c.lfLevel = 0) (hu : c.upsampling = 0) (force : Bool)
    (R : Region) (x y : Int)
    (h : Mem x y (compositeRegion c (R.applyOrientation c.imgW c.imgH c.orientation)))
    (hf : Mem x y (Region.withSize c.fw c.fh)) :
    Mem x y (plumb c force R).colorPadded := by
  have hfr : Mem x y (imageRegionToFrame c R true) := by
    rw [(C06_frame_region_is_request c R).1 hr]
    refine ⟨?_, hf⟩
    unfold compositeRegion at h
    simp only [hn, hl, if_true, Nat.zero_mul, Region.downsample] at h
    have := ((mem_intersection _ _ x y).1 h).1
    rwa [mem_translate, Int.sub_neg, Int.sub_neg] at this
  have hplumb : (plumb c force R).lfPadded = imageRegionToFrame c R true := by
    simp [plumb, padLfRegion, hl, imageRegionToFrame, Region.downsample]
  apply (C06_padded_region_sufficient c hv force R).2.2.1 x y
  · rw [hplumb]; exact Within.subset (within_stageNeed c hu _) x y hfr
  · simpa [Cfg.colorSampleWidth, Cfg.colorSampleHeight, Cfg.sampleWidth, Cfg.sampleHeight, Cfg.sampleDim, hu, hl] using hf

/-- a Gabor + EPF layer at crop offset (2, 2) of a 64×64 image: the hypotheses hold and the cell
`(8, 8)` of its request `(10, 10, 8, 8)` is on the frame -/
def chainCfg : Cfg :=
  { imgW := 64, imgH := 64, orientation := 1, x0 := 2, y0 := 2, fw := 40, fh := 40, refOnly := false, normal := true, lfLevel := 0, upsampling := 0, ec := [], epfIters := 2, gab := true, ycbcr := false, groupSizeShift := 1 }

example : chainCfg.valid = true ∧
    Mem 8 8 (compositeRegion chainCfg (Region.applyOrientation ⟨10, 10, 8, 8⟩ 64 64 1)) ∧
    Mem 8 8 (Region.withSize chainCfg.fw chainCfg.fh) ∧
    (plumb chainCfg false ⟨10, 10, 8, 8⟩).colorPadded = ⟨0, 0, 24, 24⟩ := by decide

end Jxl.Region
