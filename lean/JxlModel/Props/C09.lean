import JxlModel.Proofs.Feed
import JxlModel.Props.C10
/-!
# C09 — feeding the stream in any chunks gives the same image as one buffer

Theorems about the model of the incremental feeding path (`Model/Feed.lean`):
`UninitializedJxlImage::{feed_bytes, try_init}`, `JxlImage::feed_bytes`,
`JxlImageInner::feed_bytes_inner`, `Frame::feed_bytes`, `JxlImageBuilder::read`, on top of C10's
model of `ContainerParser`.

They quantify over **every byte string** (valid or not), **every chunking** of it (the caller
re-offers what a call did not consume, as the API demands, and calls `try_init` after every call
while uninitialised), and **every family of header parsers** `P : Parsers Hdr` that is *prefix
stable* (`P.Stable`): image header (+ ICC), preview frame header, frame header + TOC are abstract
functions `Bytes → Res _` of the bytes available.  That `ImageHeader::parse`, `read_icc`,
`Frame::parse` *are* prefix stable is the obligation this property pushes to the bit-level
parsers: `Props/C09Headers.lean` proves it for the bundle-described header parsers; for the rest
(ICC stream, TOC permutation, hand-written glue) it is exercised, not proved, by the differential
run of `tools/props/c09.py`, which also ties the state machine itself to the real API (consumed
counts, states, frame offsets).

The observable (`Sess.obs`) is: dead after any error; otherwise container kind, bytes still to be
re-offered, auxiliary boxes delivered (type, compression flag, raw payload), image header, number
of loaded frames and keyframes, frame offsets, the bytes every section of every loaded frame and
of the loading frame has received, the completion flag and the bytes left over after the last
frame.

`C09_read_eq_feed_whole_partial` is partial, see there.

## Defects found by this property
*(fixed in /repo, `fix: a short read in the extra bits of a hybrid integer is end of data`)*
The hypothesis `P.Stable` was false for the real image-header parser: `read_uint_prefilled` ignored a
short read (`consume_bits(n).ok()`), so `read_icc` answered `Ok` with a garbage tail on an ICC stream
truncated inside its last values, and `try_init` succeeded two bytes *before* the end of the header
of `cmyk_layers.jxl` with a short `bytes_read` — `ok` on a prefix, a different `ok` on the extension.
Feeding that file as `[0, 376573) ++ rest` (or byte by byte) ended in `ValidationFailed`
(`corpus/c09/icc_short_read_split.json`).

*(fixed in /repo, `fix: read() keeps reading a container after the last frame`)*
`read()` stopped at `end_of_image`, so auxiliary boxes *after* the codestream were delivered only
as far as they happened to lie in the current 4096-byte buffer: a 5000-byte `Exif` box after
`jxlc` came back as 3833 bytes, marked complete (`corpus/c09/read_trailing_exif.json`).
`readNOld` keeps the old loop condition; `C09_read_old_drops_trailing_box` is the witness.
-/
namespace Jxl.Feed
open Jxl.Container (Bytes)
variable {Hdr : Type}

/-- The carry-over / `buffer_offset` / section-filling machine below the container:
from any state, feeding the codestream bytes in any pieces gives the state (or the error) of
feeding them in one piece. -/
theorem C09_inner_feed_chunking_invariant (P : Parsers Hdr) (hP : P.Stable) (st : Inner Hdr)
    (chunks : List Bytes) :
    feedInnerAll P st chunks = feedInner P st chunks.flatten := by
  fun_induction feedInnerAll P st chunks with
  | case1 st => exact (feedInner_nil P st).symm
  | case2 st c cs st' h ih => rw [List.flatten_cons, ← feedInner_append P hP, h]; exact ih
  | case3 st c cs h => rw [List.flatten_cons, ← feedInner_append P hP, h]; rfl

/-- `try_init` re-parses from the start of the buffered codestream every time; trying after some
of the bytes and again after the rest is the same as trying once after all of them (same image
header, same `bytes_read`, same state handed to `feed_bytes_inner`, or dead in both). -/
theorem C09_init_retry_invariant (P : Parsers Hdr) (hP : P.Stable) (d : Dec Hdr) (x : Bytes) :
    tryInit P (addCs P (tryInit P d) x) = tryInit P (addCs P d x) :=
  tryInit_addCs P hP d x

/-- 2-way split of the whole API, container layer included (composition with C10's
`feed_append`), from any session. -/
theorem C09_feed_chunking_invariant_2way (P : Parsers Hdr) (hP : P.Stable) (S : Sess Hdr)
    (a b : Bytes) :
    ((S.push P a).push P b).obs = (S.push P (a ++ b)).obs :=
  Sess.obs_of_equiv (Sess.push_append P hP S a b)

/-- **Main theorem.** For every byte string and every way of cutting it into successive feed calls
(unconsumed bytes re-offered), from any session state, the observable after the last call is the
observable of feeding everything in one call. -/
theorem C09_feed_chunking_invariant (P : Parsers Hdr) (hP : P.Stable) (S : Sess Hdr)
    (chunks : List Bytes) (hne : chunks ≠ []) :
    (S.pushAll P chunks).obs = (S.pushAll P [chunks.flatten]).obs := by
  cases chunks with
  | nil => exact absurd rfl hne
  | cons c cs => exact Sess.obs_of_equiv (Sess.pushAll_flatten P hP cs S c)

theorem C09_any_two_chunkings_agree (P : Parsers Hdr) (hP : P.Stable) (S : Sess Hdr)
    (c1 c2 : List Bytes) (h1 : c1 ≠ []) (h2 : c2 ≠ []) (h : c1.flatten = c2.flatten) :
    (S.pushAll P c1).obs = (S.pushAll P c2).obs := by
  rw [C09_feed_chunking_invariant P hP S c1 h1, C09_feed_chunking_invariant P hP S c2 h2, h]

/-- For every well-formed container file (C10's `Spec`) and every chunking of its bytes: the
decoder ends in exactly the state of a decoder that was given the file's codestream
(`jxlc` / `jxlp` payloads in order) in one piece, every auxiliary box has been delivered with its
exact payload, and nothing is left to re-offer. -/
theorem C09_container_delivers_codestream (P : Parsers Hdr) (hP : P.Stable)
    (bs : List Container.Spec.Box) (hwf : Container.Spec.wf bs = true) (chunks : List Bytes)
    (hc : chunks.flatten = Container.Spec.serFile bs) :
    ((Sess.init.pushAll P chunks).dec = .dead ∧
        tryInit P (.uninit (Container.Spec.codestream bs)) = (.dead : Dec Hdr)) ∨
    ((Sess.init.pushAll P chunks).dec = tryInit P (.uninit (Container.Spec.codestream bs)) ∧
      Container.auxOf (Sess.init.pushAll P chunks).aux = Container.Spec.aux bs ∧
      (Sess.init.pushAll P chunks).pending = []) := by
  cases chunks with
  | nil =>
    have : (Container.Spec.serFile bs).length = 0 := by rw [← hc]; rfl
    simp [Container.Spec.serFile, Container.contSig] at this
  | cons c cs =>
  have heq := Sess.pushAll_flatten P hP cs (Sess.init : Sess Hdr) c
  rw [hc] at heq
  -- the whole file in one call: what C10 says of one `feed`
  obtain ⟨he, hrest, htk⟩ := Container.feed_wf bs hwf
  have hdec : (Sess.init.push P (Container.Spec.serFile bs)).dec =
      tryInit P (.uninit (Container.Spec.codestream bs)) ∧
      Container.auxOf (Sess.init.push P (Container.Spec.serFile bs) : Sess Hdr).aux = Container.Spec.aux bs ∧
      (Sess.init.push P (Container.Spec.serFile bs) : Sess Hdr).pending = [] := by
    rw [Sess.push_live P hP Sess.init _ nofun]
    simp only [Sess.init, List.nil_append, he, Option.isSome_none, Bool.false_eq_true, if_false, htk]
    refine ⟨?_, ?_, hrest⟩
    · show tryInit P (.uninit (Container.codestreamOf (Container.Spec.expectedM false bs))) = _
      rw [Container.codestreamOf_expectedM]
    · show Container.auxOf (Container.Spec.expectedM false bs) = _
      rw [Container.auxOf_expectedM]
  rcases heq with ⟨d1, d2⟩ | heq
  · exact Or.inl ⟨d1, by rw [← hdec.1]; exact d2⟩
  · exact Or.inr (by rw [heq]; exact hdec)

/-- Each section of a frame receives exactly its TOC-declared bytes, in bitstream order, whatever
the chunking: once the declared total has arrived the sections are the consecutive slices of the
declared sizes, the frame is done and hands back everything after; before that it is not done, hands
nothing back, and its sections hold exactly what arrived, in order. -/
theorem C09_frame_sections_exact (fi : FrameInfo) (chunks : List Bytes) :
    let r := chunks.foldl (fun (f : FrameSt × Bytes) c => f.1.feed (f.2 ++ c))
      ((FrameSt.new fi).feed [])
    r = (FrameSt.new fi).feed chunks.flatten ∧
    (fi.sizes.sum ≤ chunks.flatten.length →
      r.1.filled = splitSizes fi.sizes chunks.flatten ∧ r.1.filled.map List.length = fi.sizes ∧
      r.1.done = true ∧ r.2 = chunks.flatten.drop fi.sizes.sum) ∧
    (chunks.flatten.length < fi.sizes.sum →
      r.1.done = false ∧ r.2 = [] ∧ r.1.filled.flatten ++ r.1.cur = chunks.flatten) := by
  have hfold : ∀ (cs : List Bytes) (f : FrameSt) (pre : Bytes),
      cs.foldl (fun (f : FrameSt × Bytes) c => f.1.feed (f.2 ++ c)) (f.feed pre) =
        f.feed (pre ++ cs.flatten) := by
    intro cs
    induction cs with
    | nil => intro f pre; simp
    | cons c cs ih =>
      intro f pre
      simp only [List.foldl_cons, List.flatten_cons]
      rw [← FrameSt.feed_append f pre c, ih, List.append_assoc]
  have hr := hfold chunks (FrameSt.new fi) []
  simp only [List.nil_append] at hr
  simp only [hr]
  refine ⟨trivial, ?_, ?_⟩
  · intro hle
    have := fill_exact fi.sizes [] chunks.flatten hle
    have hl := splitSizes_lengths fi.sizes chunks.flatten hle
    simp only [FrameSt.feed, FrameSt.new, FrameSt.done, this, List.nil_append, List.isEmpty_nil]
    exact ⟨trivial, hl.1, trivial, trivial⟩
  · intro hlt
    have hp := fill_short fi.sizes [] [] chunks.flatten (by simpa using hlt)
    have hrest := (fill_rest fi.sizes [] [] chunks.flatten).2 hp
    have hcons := fill_conserves fi.sizes [] [] chunks.flatten
    simp only [FrameSt.feed, FrameSt.new, FrameSt.done]
    refine ⟨by simpa using hp, hrest, ?_⟩
    rw [hrest] at hcons
    simpa using hcons

/-- `read()` is a chunked feed: the session it returns is the session after pushing the chunks it
took from the reader, and those chunks followed by what it left unread are the stream. -/
theorem C09_read_is_chunked_feed (P : Parsers Hdr) (stream : Bytes) :
    (readAll P stream).sess = Sess.init.pushAll P (readAll P stream).chunks ∧
    (readAll P stream).chunks.flatten ++ (readAll P stream).rest = stream := by
  have := readN_trace P 4096 (stream.length + 2) Sess.init Sess.init [] stream rfl
  simpa [readAll] using this

/-- Partial. Whenever `read()` took the whole stream from the reader, its result cannot be told from
feeding the whole stream in one call.

Full statement (not proved): for every stream whose one-call feed ends initialised,
`(readAll P stream).rest = []` unless the stream is a bare codestream with bytes after its last
frame (which `read()` leaves unread on purpose), and `eofBeforeInit = false`.
Missing: progress of the refill loop — that a call on a full 4096-byte buffer consumes at least
one byte.  For the container layer this is `C10_no_livelock` (a call that consumes nothing had
fewer than 16 bytes); it has to be threaded through `Sess.push` and the fuel of `readN`. The
differential run compares `read` with the one-call feed on every generated stream. -/
theorem C09_read_eq_feed_whole_partial (P : Parsers Hdr) (hP : P.Stable) (stream : Bytes)
    (hne : stream ≠ []) (hall : (readAll P stream).rest = []) :
    (readAll P stream).sess.obs = (Sess.init.pushAll P [stream]).obs := by
  obtain ⟨h1, h2⟩ := C09_read_is_chunked_feed P stream
  rw [hall, List.append_nil] at h2
  have hc : (readAll P stream).chunks ≠ [] := by
    intro h; rw [h] at h2; exact hne h2.symm
  rw [h1, C09_feed_chunking_invariant P hP _ _ hc, h2]

/-- the hypotheses of every theorem above hold for the toy parsers (and for every `Layout`) -/
example : Toy.parsers.Stable := Toy.stable
example (L : Layout) : L.parsers.Stable := Layout.stable L

/-- image header (no preview); frame 1: keyframe, two sections of 1 and 2 bytes; frame 2: last,
one section of 2 bytes; one trailing byte -/
def toyCs : Bytes :=
  [0xff, 0x0a, 0x00,  0x02, 0x02, 0x01, 0x02,  0xa1, 0xb1, 0xb2,  0x03, 0x01, 0x02,  0xc1, 0xc2]

def toyObs : Obs Nat :=
  .ready .bare [] [] 0 2 2 [3, 10] [[[0xa1], [0xb1, 0xb2]], [[0xc1, 0xc2]]] none true [0xee]

example : (Sess.init.pushAll Toy.parsers [toyCs ++ [0xee]]).obs = toyObs := by decide +kernel

/-- one byte at a time (computed, not by the theorem) -/
example : (Sess.init.pushAll Toy.parsers ((toyCs ++ [0xee]).map fun b => [b])).obs = toyObs := by
  decide +kernel

/-- cut inside the second frame's TOC: the loading state in between, the same end -/
example :
    (Sess.init.pushAll Toy.parsers [toyCs.take 12]).obs =
      .ready .bare [] [] 0 1 1 [3] [[[0xa1], [0xb1, 0xb2]]] none false [0x03, 0x01] ∧
    (Sess.init.pushAll Toy.parsers [toyCs.take 14]).obs =
      .ready .bare [] [] 0 1 1 [3, 10] [[[0xa1], [0xb1, 0xb2]]] (some [[0xc1]]) false [] ∧
    (Sess.init.pushAll Toy.parsers [toyCs.take 12, toyCs.drop 12 ++ [0xee]]).obs = toyObs := by
  decide +kernel

/-- an invalid frame header (`FF`) kills the session under every chunking tried -/
example :
    (Sess.init.pushAll Toy.parsers [[0xff, 0x0a, 0x00, 0xff, 0x00]]).obs = .dead ∧
    (Sess.init.pushAll Toy.parsers [[0xff, 0x0a], [0x00, 0xff], [0x00]]).obs = .dead := by
  decide +kernel

/-- a container: `ftyp`, the codestream in two `jxlp` boxes cut inside frame 1's TOC (the first
with a 64-bit size), an `Exif` box in between, an `xml ` box to the end of the file -/
def toyFile : List Container.Spec.Box :=
  [.aux [0x66, 0x74, 0x79, 0x70] [1, 2] .short,
   .jxlp 0 false (toyCs.take 5) .long,
   .aux [0x45, 0x78, 0x69, 0x66] [0, 0, 0, 0, 9] .short,
   .jxlp 1 true (toyCs.drop 5) .short,
   .aux [0x78, 0x6d, 0x6c, 0x20] [5, 6] .toEof]

example : Container.Spec.wf toyFile = true ∧ Container.Spec.codestream toyFile = toyCs := by
  decide +kernel

/-- fed in three pieces (the first cut inside the 64-bit box header): same decoder state as the
bare codestream, all three auxiliary boxes delivered -/
example :
    let f := Container.Spec.serFile toyFile
    (Sess.init.pushAll Toy.parsers [f.take 30, (f.drop 30).take 20, f.drop 50]).obs =
      .ready .container [] [⟨[0x66, 0x74, 0x79, 0x70], false, [1, 2]⟩,
          ⟨[0x45, 0x78, 0x69, 0x66], false, [0, 0, 0, 0, 9]⟩, ⟨[0x78, 0x6d, 0x6c, 0x20], false, [5, 6]⟩]
        0 2 2 [3, 10] [[[0xa1], [0xb1, 0xb2]], [[0xc1, 0xc2]]] none true [] := by
  decide +kernel

/-- a preview (header byte `01`): `try_init` waits until all of the preview's sections are buffered
and skips them; frame offsets count from the start of the codestream -/
example :
    (Sess.init.pushAll Toy.parsers [[0xff, 0x0a, 0x01, 0x00, 0x01, 0x02, 0x77]]).obs =
      .uninit .bare [] [] [0xff, 0x0a, 0x01, 0x00, 0x01, 0x02, 0x77] ∧
    (Sess.init.pushAll Toy.parsers [[0xff, 0x0a, 0x01, 0x00, 0x01, 0x02, 0x77], [0x78, 0x03, 0x00]]).obs =
      .ready .bare [] [] 1 1 1 [8] [[]] none true [] := by
  decide +kernel

/-- With a 16-byte refill buffer (4096 in the code; the model's `cap`) and a 24-byte box after the
codestream: the old loop stops at the end of the image and delivers 1 of the 24 payload bytes,
the repaired loop delivers all of them, as feeding the whole file does. -/
theorem C09_read_old_drops_trailing_box :
    let file := Container.Spec.serFile
      [.jxlc toyCs .short, .aux [0x45, 0x78, 0x69, 0x66] (List.replicate 24 7) .short]
    (Container.auxOf (readNOld Toy.parsers 16 (file.length + 2) Sess.init [] file).sess.aux).map
        (·.payload.length) = [1] ∧
    (Container.auxOf (readN Toy.parsers 16 (file.length + 2) Sess.init [] file).sess.aux).map
        (·.payload.length) = [24] ∧
    (Container.auxOf (Sess.init.pushAll Toy.parsers [file]).aux).map (·.payload.length) = [24] := by
  decide +kernel

end Jxl.Feed
