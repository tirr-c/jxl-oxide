import JxlModel.Proofs.IccRoundtrip
import JxlModel.Proofs.IccSize
/-!
# C18 — the embedded ICC profile is returned byte-exactly

Property theorems for the ICC command interpreter `decode_icc` (`Jxl.Icc.decodeIcc`, model of
`crates/jxl-color/src/icc/decode.rs` with finding F6 repaired) against the reference encoder
`Jxl.Icc.encodeIcc`. They quantify over **every** byte string of at most 2^28 bytes as profile
and **every** legal command sequence (`PlanCovers plan profile`: the predicted header, then
any mix of tag-list commands with common / explicit tags, implicit / explicit start and size, the
`rTRC→gTRC,bTRC` and `rXYZ→gXYZ,bXYZ` expansions, terminated or unterminated tag list, raw copies,
2- and 4-way shuffles, order-0/1/2 predicted runs of width 1/2/4 with implicit or explicit stride,
`XYZ ` and common-data shortcuts).

Scope (what is *not* here): the entropy-coded layer of `read_icc` (the byte stream is pulled out
of the ANS/prefix decoder with the 41 contexts of `getIccCtx`; that layer is C04's) and
`JxlImage::original_icc()` end to end (no theorem: that needs the codestream encoder; DESIGN.md §4
C18 describes the run that exercises it). Non-minimal varints are accepted by the decoder and
exercised by the correspondence run; the encoder writes minimal ones.
-/
namespace Jxl.Icc

/-- Varint round trip: every value below 2^63 (the decoder's varint keeps 63 bits) is read back
exactly, whatever follows it. -/
theorem C18_varint_roundtrip (n : Nat) (rest : List Nat) (h : n < 2 ^ 63) :
    readVarint (encVarint n ++ rest) = .ok (n, rest) :=
  readVarint_encVarint n rest h

/-- Header prediction soundness. `decode_icc` predicts header byte `idx` from the *encoded*
header bytes (`header[40]`, `header[41]`, `header[4..8]`), the encoder from the profile itself;
both see the same values, for every byte string and every index: 4..7 and 40 are themselves
predicted as 0, hence stored verbatim; 41 is looked at only when `header[40] = 'S'`, and then it
is predicted as 0 as well. -/
theorem C18_header_pred_lookback_sound (profile : List Nat) (hb : ∀ b ∈ profile, b < 256)
    (idx size : Nat) :
    predictHeader idx size (encodeHeader profile) = predictHeader idx size profile := by
  have verbatim : ∀ i, i = 4 ∨ i = 5 ∨ i = 6 ∨ i = 7 ∨ i = 40 →
      (encodeHeader profile).getD i 0 = profile.getD i 0 := fun i hi =>
    getD_encodeHeader_of_pred_zero profile hb i (by omega) (predictHeader_zero _ _ _ hi)
  unfold predictHeader
  rw [verbatim 40 (by simp)]
  exact predictHeaderV_congr _ _ _ _ _ _ _
    (fun hS => getD_encodeHeader_of_pred_zero profile hb 41 (by decide) (predictHeader_41_of_S _ _ hS))
    (fun h => verbatim _ (by omega))

theorem C18_header_roundtrip (profile : List Nat) (hb : ∀ b ∈ profile, b < 256) :
    decodeHeader profile.length (encodeHeader profile) = profile.take 128 := by
  apply List.ext_getElem
  · rw [length_decodeHeader, length_encodeHeader, List.length_take, Nat.min_comm]
  · intro i _ h2
    have hi : i < min profile.length 128 := by rwa [List.length_take, Nat.min_comm] at h2
    simp only [decodeHeader, List.getElem_map, List.getElem_range]
    rw [C18_header_pred_lookback_sound profile hb, getD_encodeHeader profile i hi, List.getElem_take,
      List.getElem_eq_getD 0]
    have hq := predictHeader_lt i profile.length profile hb
    have hx := IsBytes.getD_lt hb i
    omega

theorem C18_shuffle_inv (x : List Nat) :
    shuffle2 (unshuffle2 x) = x ∧ shuffle4 (unshuffle4 x) = x :=
  ⟨shuffleBy_unshuffleBy 2 x, shuffleBy_unshuffleBy 4 x⟩

/-- Command 4 (order-k prediction) rebuilds exactly the profile bytes the run covers. `hi` is the
flag bits above the stride bit, which `decode.rs` ignores. -/
theorem C18_pred_run_roundtrip (profile : List Nat) (hb : ∀ b ∈ profile, b < 256)
    (pos width order hi n : Nat) (stride : Option Nat)
    (hw : width = 1 ∨ width = 2 ∨ width = 4) (ho : order ≤ 2)
    (hsw : width ≤ strideOf width stride) (hs4 : strideOf width stride * 4 < pos)
    (hn : pos + n ≤ profile.length) (hl : profile.length < 2 ^ 63) (restC restD : List Nat) :
    cmdPred
      (((width - 1) + 4 * order + (if stride.isSome then 16 else 0) + 32 * hi) ::
        (encStride stride ++ (encVarint n ++ restC)))
      (unshuffleBy width (residLoop profile.toArray width order (strideOf width stride) n pos n) ++ restD)
      (profile.take pos).toArray
      = .ok (restC, restD, (profile.take (pos + n)).toArray) :=
  cmdPred_enc profile hb pos width order hi n stride hw ho hsw hs4 hn hl restC restD

theorem C18_icc_roundtrip (profile : List Nat) (plan : Plan) (h : PlanCovers plan profile) :
    decodeIcc (encodeIcc plan profile) = .ok profile := by
  obtain ⟨hb, hl, hml, htl, hlong⟩ := planCovers_elim h
  have hhdr := length_encodeHeader profile
  by_cases h128 : profile.length ≤ 128
  · simp only [encodeIcc, h128, if_true]
    have := decodeIcc_frame profile.length [] (encodeHeader profile) [] hl (by decide) hhdr
    simp only [List.nil_append, List.append_nil, List.length_nil] at this
    rw [List.append_assoc, this, if_pos h128, C18_header_roundtrip profile hb,
      List.take_of_length_le (by omega)]
  · obtain ⟨pos, htags, hstop, hmain⟩ := hlong (by omega)
    have h1 := length_encTags_le profile plan.tags
    have h2 := length_encMain_le profile plan.main pos
    have hmain := decodeMain_encMain profile hb (Nat.lt_of_le_of_lt hl (by decide)) plan.main pos hmain
    -- the tag section hands over to the main section at the position `encTags` returns
    obtain ⟨hpos, hbody⟩ := decodeBody_encTags profile hb hl plan.tags pos
      (encMain profile pos plan.main).1 (encMain profile pos plan.main).2 htags
      (fun t ht => (hstop t ht).imp_right fun h => by rw [h]; rfl)
    simp only [encodeIcc, h128, if_false, hpos]
    generalize encMain profile pos plan.main = em at *
    generalize encTags profile plan.tags = et at *
    have hframe := decodeIcc_frame profile.length (et.1 ++ em.1) (encodeHeader profile) (et.2.1 ++ em.2)
      hl (by simp only [List.length_append]; omega) hhdr
    simp only [List.append_assoc] at hframe ⊢
    rw [hframe, if_neg h128, C18_header_roundtrip profile hb, hbody, hmain]

/-- Size consistency (the statement finding F6 violates on the unrepaired code): whatever
`decode_icc` returns successfully has exactly the declared length. -/
theorem C18_decode_size_consistent (s out : List Nat) (h : decodeIcc s = .ok out) :
    out.length = declaredSize s :=
  ((decodeIcc_outcome s).of_eq_ok h).1

/-- The loop fuel of the model (command bytes + 1) is never exhausted, for any input. -/
theorem C18_fuel_never_exhausted (s : List Nat) : decodeIcc s ≠ .error .fuel :=
  (decodeIcc_outcome s).ne_fuel

/-- `get_icc_ctx` always yields one of the 41 contexts the ICC entropy code is parsed with
(`Decoder::parse(bitstream, 41)`), for every index and every pair of previous bytes. -/
theorem C18_ctx_lt_41 (idx b1 b2 : Nat) : getIccCtx idx b1 b2 < 41 := by
  unfold getIccCtx
  by_cases h : idx ≤ 128
  · rw [if_pos h]
    decide
  · -- `1 + p1 + 8 * p2` with `p1 ≤ 7` (its arm `2 + b1` is under `b1 ≤ 1`) and `p2 ≤ 4`
    rw [if_neg h]
    refine Nat.lt_succ_of_le (Nat.add_le_add (Nat.add_le_add_left (?_ : _ ≤ 7) 1)
      (Nat.mul_le_mul_left 8 (?_ : _ ≤ 4)))
    · repeat' apply ite_le
      all_goals omega
    · repeat' apply ite_le
      all_goals omega

theorem C18_rejects_oversize (s : List Nat) (h : 268435456 < declaredSize s) :
    ∃ e, decodeIcc s = .error e := by
  cases hd : decodeIcc s with
  | error e => exact ⟨e, rfl⟩
  | ok out => exact absurd ((decodeIcc_outcome s).of_eq_ok hd).2 (Nat.not_le_of_lt h)

/-- A stream whose commands produce a different number of bytes than declared is rejected
(contrapositive of size consistency, stated for the result). -/
theorem C18_rejects_wrong_total (s : List Nat) :
    (∃ e, decodeIcc s = .error e) ∨ ∃ out, decodeIcc s = .ok out ∧ out.length = declaredSize s := by
  cases hd : decodeIcc s with
  | error e => exact .inl ⟨e, rfl⟩
  | ok out => exact .inr ⟨out, rfl, C18_decode_size_consistent s out hd⟩

theorem C18_rejects_unknown_command (c : Nat) (cmds data : List Nat) (out : Array Nat)
    (h : ¬(c = 1 ∨ c = 2 ∨ c = 3 ∨ c = 4 ∨ c = 10 ∨ (16 ≤ c ∧ c ≤ 23))) :
    mainStep c cmds data out = .error .command := by
  unfold mainStep
  rw [if_neg (by omega), if_neg (by omega), if_neg (by omega), if_neg (by omega)]

theorem C18_rejects_width3_order3 (flags : Nat) (cmds data : List Nat) (out : Array Nat)
    (h : flags % 4 = 2 ∨ (flags / 4) % 4 = 3) :
    cmdPred (flags :: cmds) data out = .error .widthorder := by
  simp only [cmdPred]
  rw [if_pos (by omega)]

theorem C18_rejects_lookback (width order stride : Nat) (cmds data : List Nat) (out : Array Nat)
    (h : out.size ≤ stride * 4) (hs : out.size < 2 ^ 64) :
    cmdPredRun width order stride cmds data out = .error .lookback := by
  unfold cmdPredRun
  rw [if_pos (by omega)]

theorem C18_rejects_stride_lt_width (flags width s : Nat) (rest : List Nat)
    (hf : (flags / 16) % 2 = 1) (hs : s < width) (h63 : s < 2 ^ 63) :
    readStride flags width (encVarint s ++ rest) = .error .stride := by
  unfold readStride
  rw [if_neg (by omega), readVarint_encVarint s rest h63]
  simp only
  rw [if_pos hs]

theorem C18_rejects_bad_tagcode (size command : Nat) (s : TagSt) (h : 21 ≤ command % 64) :
    tagStep size command s = .error .tagcode := by
  unfold tagStep tagOf
  rw [if_neg (by omega), if_neg (by omega)]

/-- An accepted tag command's `tagstart + tagsize` lies inside the declared profile size. For the
`rXYZ → gXYZ, bXYZ` expansion this is the first of the three entries; the two further ones, at
`tagstart + tagsize` and `tagstart + 2 * tagsize`, are not checked, as in `decode.rs`. -/
theorem C18_rejects_tag_out_of_range (size command : Nat) (s s' : TagSt)
    (h : tagStep size command s = .ok s') : s'.prevStart + s'.prevSize ≤ size :=
  ((tagStep_outcome size command s).of_eq_ok h).2

theorem C18_rejects_num_tags (size v : Nat) (cmds data : List Nat) (out : Array Nat)
    (h : (size - 128) / 12 < v - 1) (hv : v ≠ 0) :
    decodeTags size v cmds data out = .error .numtags := by
  unfold decodeTags
  rw [if_neg hv, if_pos h]

theorem C18_rejects_short_data (command num : Nat) (cmds rest data : List Nat) (out : Array Nat)
    (hv : readVarint cmds = .ok (num, rest)) (h : data.length < num) :
    cmdCopy command cmds data out = .error .short := by
  unfold cmdCopy
  rw [hv]
  simp only
  rw [if_pos h]

theorem C18_errors_propagate (fuel c : Nat) (cs data : List Nat) (out : Array Nat) (e : ErrKind)
    (h : mainStep c cs data out = .error e) :
    mainLoop (fuel + 1) (c :: cs) data out = .error e := by
  simp only [mainLoop, h]

/-- A 230-byte profile: real sRGB header, a three-entry `rXYZ/gXYZ/bXYZ` tag table, an `XYZ `
record, a `curv` record, a 2-byte counter sequence, and tails of 9, 3 and 6 bytes. -/
def exampleProfile : List Nat :=
  [0, 0, 0, 230, 106, 120, 108, 32, 4, 64, 0, 0, 109, 110, 116, 114, 82, 71, 66, 32, 88, 89, 90,
   32, 7, 227, 0, 12, 0, 1, 0, 0, 0, 0, 0, 0, 97, 99, 115, 112, 65, 80, 80, 76, 0, 0, 0, 0, 0, 0,
   0, 0, 0, 0, 0, 0, 0, 0, 0, 0, 0, 0, 0, 0, 0, 0, 0, 1, 0, 0, 246, 214, 0, 1, 0, 0, 0, 0, 211,
   45, 106, 120, 108, 32, 2, 185, 249, 1, 64, 115, 58, 111, 240, 255, 3, 244, 240, 247, 10, 43,
   0, 0, 0, 0, 0, 0, 0, 0, 0, 0, 0, 0, 0, 0, 0, 0, 0, 0, 0, 0, 0, 0, 0, 0, 0, 0, 0, 0, 0, 0, 0,
   3, 114, 88, 89, 90, 0, 0, 0, 168, 0, 0, 0, 20, 103, 88, 89, 90, 0, 0, 0, 188, 0, 0, 0, 20, 98,
   88, 89, 90, 0, 0, 0, 208, 0, 0, 0, 20, 88, 89, 90, 32, 0, 0, 0, 0, 0, 0, 111, 162, 0, 0, 56,
   245, 0, 0, 3, 144, 99, 117, 114, 118, 0, 0, 0, 0, 1, 0, 0, 7, 2, 51, 1, 7, 3, 102, 2, 7, 4,
   153, 3, 7, 9, 8, 7, 6, 5, 4, 3, 2, 1, 170, 187, 204, 106, 120, 108, 32, 111, 107]

/-- tag list (explicit start, implied size 20, XYZ triple expansion, terminator), then
`XYZ ` shortcut, common-data `curv`, an order-1 width-2 stride-4 predicted run with high flag
bits set, a 4-way shuffle, a 2-way shuffle and a raw copy. -/
def examplePlan : Plan :=
  { tags := some { numTags := 3, cmds := [{ code := 3, explicitStart := true, explicitSize := false }],
                   terminator := true },
    main := [.xyz, .common 5, .pred 2 1 (some 4) 5 16, .shuf4 9, .shuf2 3, .raw 6] }

theorem examplePlan_covers : PlanCovers examplePlan exampleProfile := by decide +kernel

example : PlanCovers examplePlan exampleProfile := examplePlan_covers

example : (encodeIcc examplePlan exampleProfile).length = 194 := by decide +kernel

example : decodeIcc (encodeIcc examplePlan exampleProfile) = .ok exampleProfile :=
  C18_icc_roundtrip _ _ examplePlan_covers

example : PlanCovers { tags := none, main := [.raw 102] } exampleProfile := by decide +kernel

example : ¬ PlanCovers { tags := none, main := [.raw 101] } exampleProfile := by decide +kernel

example : PlanCovers (autoPlan 3 [] exampleProfile) exampleProfile := by decide +kernel

/-- **F6 witness** (DESIGN.md §5): declared size 200 (the varint `200, 1`), one command byte `[01]`
which ends the stream inside the tag list after 132 bytes. The unrepaired code returned `Ok` with
132 bytes; the repaired behaviour modelled here is `decoded ICC profile size mismatch`. -/
def f6Witness : List Nat :=
  [200, 1, 1, 1] ++ List.replicate 128 0

example : declaredSize f6Witness = 200 := by decide +kernel

example : decodeIcc f6Witness = .error .sizemismatch := by decide +kernel

/-- the last context, context 0 (header bytes) and context 1 are reached -/
example : getIccCtx 129 200 200 = 40 ∧ getIccCtx 128 200 200 = 0 ∧ getIccCtx 129 65 65 = 1 := by decide

/-- rejections are reachable: a width-3 command 4, an unknown command, a look-back too far -/
example : decodeIcc ([130, 1, 3, 0, 4, 2] ++ List.replicate 128 0 ++ [0, 0]) = .error .widthorder := by
  decide +kernel
example : decodeIcc ([130, 1, 3, 0, 5, 0] ++ List.replicate 128 0 ++ [0, 0]) = .error .command := by
  decide +kernel
example : decodeIcc ([130, 1, 5, 0, 4, 16, 33, 1] ++ List.replicate 128 0 ++ [0, 0]) = .error .lookback := by
  decide +kernel

end Jxl.Icc
