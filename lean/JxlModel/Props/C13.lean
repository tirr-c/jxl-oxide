import JxlModel.Proofs.Alloc
/-!
# C13 — resource accounting

Property theorems for the allocation tracker. They quantify over every initial limit, every
operation history (allocations of any size, drops in any order, limit expansion and shrinking,
failed requests in between) with one side condition, `NoWrap`: no `expand_limit` pushes the
limit past `usize::MAX` (there the real `fetch_add` wraps and the notion of "limit" is void).
-/
namespace Jxl.Alloc

/-- Conservation: after any history, bytes left + bytes handed out = current limit. -/
theorem C13_conservation (l : Nat) (hl : l < W) (ops : List Op) (hw : NoWrap (init l) ops) :
    (run (init l) ops).left + outstanding (run (init l) ops) = (run (init l) ops).limit :=
  (run_inv _ ops (init_inv l hl) hw).1

theorem C13_never_exceeds_limit (l : Nat) (hl : l < W) (ops : List Op)
    (hw : NoWrap (init l) ops) :
    outstanding (run (init l) ops) ≤ (run (init l) ops).limit := by
  have := C13_conservation l hl ops hw
  omega

/-- Reaching the limit is reported as an error by exactly the request that does not fit,
and that request changes nothing. -/
theorem C13_alloc_fails_iff (s : State) (count size : Nat) (hb : count * size < W) :
    ((step s (.alloc count size)).2 = .oom (count * size) ↔ s.left < count * size) ∧
    ((step s (.alloc count size)).2 = .ok ↔ count * size ≤ s.left) ∧
    (s.left < count * size → (step s (.alloc count size)).1 = s) := by
  rw [step_alloc s hb]
  split
  · rename_i h
    exact ⟨⟨nofun, fun hlt => absurd h (Nat.not_le.mpr hlt)⟩, ⟨fun _ => h, fun _ => rfl⟩,
      fun hlt => absurd h (Nat.not_le.mpr hlt)⟩
  · rename_i h
    exact ⟨⟨fun _ => Nat.not_le.mp h, fun _ => rfl⟩, ⟨nofun, fun hle => absurd hle h⟩, fun _ => rfl⟩

/-- A request whose byte count fits the machine word never panics (it is `ok` or `oom`). -/
theorem C13_alloc_total (s : State) (count size : Nat) (hb : count * size < W) :
    (step s (.alloc count size)).2 ≠ .panicMul ∧ (step s (.alloc count size)).2 ≠ .badOp := by
  rw [step_alloc s hb]
  split <;> exact ⟨nofun, nofun⟩

/-- After every handle is dropped the whole current limit is available again, whatever
succeeded or failed in between. -/
theorem C13_all_dropped_restores_budget (l : Nat) (hl : l < W) (ops : List Op)
    (hw : NoWrap (init l) ops) (hd : (run (init l) ops).handles = []) :
    (run (init l) ops).left = (run (init l) ops).limit := by
  have := C13_conservation l hl ops hw
  simp [outstanding, hd] at this
  exact this

/-- Without any expand/shrink the limit is the initial one: full budget restored. -/
theorem C13_budget_restored_no_resize (l : Nat) (hl : l < W) (ops : List Op)
    (hr : ∀ op ∈ ops, (∀ n, op ≠ .expand n) ∧ (∀ n, op ≠ .shrink n))
    (hd : (run (init l) ops).handles = []) :
    (run (init l) ops).left = l := by
  have ⟨hw, hlim⟩ := run_of_not_resize (init l) ops hr
  rw [C13_all_dropped_restores_budget l hl ops hw hd, hlim]; rfl

/-! Non-vacuity: a concrete history with a failed request, a resize and out-of-order drops
meets every hypothesis above. -/
def exampleOps : List Op :=
  [.alloc 10 4, .alloc 100 8, .alloc 3 2, .expand 1000, .alloc 100 8, .drop 1, .shrink 5, .drop 0,
   .drop 0]

example : NoWrap (init 100) exampleOps ∧ (run (init 100) exampleOps).handles = []
    ∧ (run (init 100) exampleOps).left = 1095 ∧ (step (init 100) (.alloc 100 8)).2 = .oom 800 := by
  refine ⟨?_, by decide, by decide, by decide⟩
  simp [NoWrap, exampleOps, step, init, W]

/-! ## Concurrent callers

The sequential state machine above describes concurrent use exactly when every tracker operation
is ONE atomic read-modify-write of `bytes_left` (then any concurrent history is a sequence of
steps). `Gen/AllocOps.lean` is regenerated from alloc_tracker.rs on every run. -/

open Jxl.Gen.AllocOps in
/-- Each operation of the real tracker is a single atomic read-modify-write. -/
theorem C13_ops_are_single_rmw :
    alloc = [.rmwCheckedSub] ∧ expandLimit = [.rmwAdd] ∧ shrinkLimit = [.rmwCheckedSub] ∧
    dropHandle = [.rmwAdd] := by decide

open Jxl.Gen.AllocOps in
/-- ... and the model's step is exactly that read-modify-write: same new `bytes_left`, and the
step reports `ok` iff the atomic operation succeeded. -/
theorem C13_step_is_its_rmw (s : State) :
    (∀ c sz, c * sz < W → ∀ m ∈ alloc,
      (step s (.alloc c sz)).1.left = (microApply s.left (c * sz) m).1 ∧
      ((step s (.alloc c sz)).2 = .ok ↔ (microApply s.left (c * sz) m).2 = true)) ∧
    (∀ n, ∀ m ∈ expandLimit, (step s (.expand n)).1.left = (microApply s.left n m).1) ∧
    (∀ n, ∀ m ∈ shrinkLimit,
      (step s (.shrink n)).1.left = (microApply s.left n m).1 ∧
      ((step s (.shrink n)).2 = .ok ↔ (microApply s.left n m).2 = true)) ∧
    (∀ i b, s.handles[i]? = some b → ∀ m ∈ dropHandle,
      (step s (.drop i)).1.left = (microApply s.left b m).1) := by
  refine ⟨?_, ?_, ?_, ?_⟩
  · intro c sz hb m hm
    cases List.mem_singleton.mp hm
    rw [step_alloc s hb, microApply_checkedSub]
    split
    · exact ⟨rfl, fun _ => rfl, fun _ => rfl⟩
    · exact ⟨rfl, nofun, nofun⟩
  · intro n m hm
    cases List.mem_singleton.mp hm
    rfl
  · intro n m hm
    cases List.mem_singleton.mp hm
    rw [step_shrink, microApply_checkedSub]
    split
    · exact ⟨rfl, fun _ => rfl, fun _ => rfl⟩
    · exact ⟨rfl, nofun, nofun⟩
  · intro i b hb m hm
    cases List.mem_singleton.mp hm
    rw [step_drop s hb]
    rfl

/-! ## `set_limits` of the `image` integration

`JxlDecoder::set_limits` moves the tracker by the difference to the limit it installed last. -/

/-- After any sequence of `set_limits` calls (accepted or refused) interleaved with the decoder's
own allocations and releases, the tracker's budget is exactly the limit accepted last, and what
is handed out never exceeds it. -/
theorem C13_set_limits_budget_is_last_accepted (ops : List DecOp) (hw : ∀ op ∈ ops, op.wf) :
    (decRun Dec.init ops).tr.limit = (decRun Dec.init ops).current ∧
    (decRun Dec.init ops).tr.left + outstanding (decRun Dec.init ops).tr = (decRun Dec.init ops).current ∧
    outstanding (decRun Dec.init ops).tr ≤ (decRun Dec.init ops).current := by
  obtain ⟨⟨h1, _⟩, h2⟩ := decRun_inv Dec.init ops hw decInit_inv
  refine ⟨h2, ?_, ?_⟩ <;> omega

/-- A refused `set_limits` changes nothing; an accepted one installs the new limit. -/
theorem C13_set_limits_refused_or_installed (d : Dec) (new : Nat) :
    ((setLimits d new).2 = false → (setLimits d new).1 = d) ∧
    ((setLimits d new).2 = true → (setLimits d new).1.current = new) := by
  by_cases hacc : new > d.current ∨ d.current - new ≤ d.tr.left
  · rw [setLimits_eq, if_pos hacc]; exact ⟨nofun, fun _ => rfl⟩
  · rw [setLimits_eq, if_neg hacc]; exact ⟨fun _ => rfl, nofun⟩

/-- refused exactly when the bytes handed out do not fit the new limit -/
theorem C13_set_limits_refused_iff (d : Dec) (new : Nat) (h : DecInv d) :
    (setLimits d new).2 = false ↔ new < outstanding d.tr := by
  obtain ⟨⟨h1, _⟩, h2⟩ := h
  unfold outstanding at *
  by_cases hacc : new > d.current ∨ d.current - new ≤ d.tr.left
  · rw [setLimits_eq, if_pos hacc]; exact ⟨nofun, fun _ => by omega⟩
  · rw [setLimits_eq, if_neg hacc]; exact ⟨fun _ => by omega, fun _ => rfl⟩

example : let ops := [DecOp.setLimits 1000, .tracker (.alloc 100 4), .setLimits 10, .setLimits 1000,
      .tracker (.alloc 500 1), .tracker (.drop 0)]
    (∀ op ∈ ops, op.wf) ∧ (decRun Dec.init ops).current = 1000 ∧
    (decRun Dec.init ops).tr.left = 500 ∧ (setLimits (decRun Dec.init ops) 10).2 = false := by
  refine ⟨?_, by decide, by decide, by decide⟩
  simp [DecOp.wf, W]

end Jxl.Alloc
