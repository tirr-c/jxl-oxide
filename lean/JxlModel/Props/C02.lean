import JxlModel.Proofs.Subgrid
import JxlModel.Proofs.Unchecked
import JxlModel.Gen.TransformType
/-!
# C02 — no memory-unsafe access is reachable (partial: index arithmetic and ownership geometry)

**What is proved.** Lean cannot speak about Rust's aliasing model. What is proved here is the
*index arithmetic and ownership geometry* that the `unsafe` code of `jxl-grid`, `jxl-bitstream`,
`jxl-coding` and the x86-64 horizontal squeeze kernels relies on, for the models in
`Model/Subgrid.lean` and `Model/Unchecked.lean`:

* every operation on a valid sub-grid yields valid sub-grids (every reachable element offset is
  inside the allocation); splits and groups hand out pairwise disjoint cell sets that stay inside
  (and, for splits and `into_groups`, exactly cover) the parent; a merge owns exactly the union of
  its two parts, and merging the halves of a split restores the original;
* `Bitstream::refill`'s fast path always advances by fewer than 8 of at least 8 remaining bytes;
* the ANS bucket index is below the bucket-table length for every accepted histogram and state;
* the raw-pointer loads/stores of `inverse_h_i16_x86_64_{avx2,sse41}` stay inside their rows for
  every width and height, and every scratch element is written before it is read;
* every byte that `TransformType::try_from` (`jxl-vardct`) transmutes is a declared discriminant.

**How it is tied to the code.** By correspondence only (testing, not proof): `tools/props/c02.py`
runs seeded operation sequences on real `MutableSubgrid`s, writes a unique tag through every live
sub-grid and reads the whole buffer back; the model must predict the exact ownership map and every
assertion failure. `Bitstream` histories are compared state by state. The transcribed index
expressions of `ans.rs`, `bitstream.rs` and the two squeeze kernels are pinned against the source
text. The kernels themselves are run on all widths 1..130 × heights 1..20 inside canary-filled
allocations, in the checked and the optimised build, and (thorough tier) under valgrind memcheck.

**Outside the model** (reached only by those differential / canary / valgrind runs, or not at all
by this check): Rust aliasing and pointer provenance; lifetimes (the `PhantomData<&'g mut [V]>`
that makes use-after-free a borrow-checker matter); what LLVM does with UB; the *vertical* squeeze
kernels (`inverse_v_*`, run with canaries but no access plan); the NEON and wasm kernels (cannot
run here); EPF / Gabor / DCT SIMD in `jxl-render`; `jxl-oxide/src/fb.rs`; `as_vectored`
(alignment); the `transmute::<Bucket, u64>` in `read_symbol`.

**Arithmetic.** `usize` = 64 bit. Sizes supplied by a caller are modelled in both build flavours
(`Mode.checked`: overflow panics; `Mode.wrapping`: optimised build). Two *safe* API functions are
unsound in the optimised build when their arguments overflow (`C02_groups_wrap_overlap_witness`,
`C02_from_buf_wrap_witness`, replayed on the release harness); no decoder call site can supply such
arguments (group sizes derive from `group_dim ≤ 8192·8`, dimensions from `u32`s), so this is
recorded as an observation, not as a violation of C02 as stated (which quantifies over inputs).
Empty groups of `into_groups_with_fixed_count` can carry a base offset beyond one-past-the-end
of the allocation (`C02_groups_empty_base_past_end_witness`): pointer arithmetic outside the
allocation without any access.
-/
namespace Jxl.Subgrid

/-- `from_buf` (build with overflow checks; an optimised build agrees whenever
`stride * (height - 1) + width` does not overflow): the sub-grid is valid for the allocation and stays
inside the slice `[off, off+len)` it was given. -/
theorem C02_from_buf_valid (off len w h stride : Nat) (g : SubGrid)
    (hf : fromBuf .checked off len w h stride = .ok g) :
    Valid (off + len) g ∧ ∀ i ∈ cells g, off ≤ i ∧ i < off + len := by
  -- both ways through `from_buf` end in `new`; a grid with cells has passed the length check
  have key : g = ⟨off, w, h, stride, none⟩ ∧ w ≤ stride ∧
      (w ≠ 0 → h ≠ 0 → stride * (h - 1) + w ≤ len) := by
    simp only [fromBuf, panic_else_eq_ok, Decidable.not_not] at hf
    obtain ⟨hws, hf⟩ := hf
    split at hf
    · rename_i he
      simp only [else_panic_eq_ok, new_eq_ok] at hf
      exact ⟨hf.2.2, hws, fun hw hh => (he.elim hw hh).elim⟩
    · simp only [match_some_eq_ok, mulM_eq_some (.inl rfl), addM_eq_some (.inl rfl),
        else_panic_eq_ok, new_eq_ok] at hf
      obtain ⟨_, ⟨_, rfl⟩, _, ⟨_, rfl⟩, hlen, _, rfl⟩ := hf
      exact ⟨rfl, hws, fun _ _ => hlen⟩
  obtain ⟨rfl, hws, hl⟩ := key
  have hin : ∀ i ∈ cells ⟨off, w, h, stride, none⟩, off ≤ i ∧ i < off + len := by
    intro i hi
    obtain ⟨y, hy, x, hx, rfl⟩ := mem_cells.1 hi
    simp only at hy hx ⊢
    have hl := hl (by omega) (by omega)
    have : y * stride ≤ (h - 1) * stride := Nat.mul_le_mul_right stride (by omega)
    rw [Nat.mul_comm stride] at hl
    omega
  exact ⟨⟨Or.inr hws, fun i hi => (hin i hi).2⟩, hin⟩

theorem C02_split_disjoint_cover (L : Nat) (g : SubGrid) (hv : Valid L g) (at_ : Nat) (a b : SubGrid)
    (h : splitH g at_ = .ok (a, b) ∨ splitHInPlace g at_ = .ok (a, b) ∨
         splitV g at_ = .ok (a, b) ∨ splitVInPlace g at_ = .ok (a, b)) :
    Valid L a ∧ Valid L b ∧ Disjoint a b ∧ ∀ i, i ∈ cells g ↔ i ∈ cells a ∨ i ∈ cells b := by
  -- the halves are the rectangles of `g` at the origin and at `(at_, 0)` resp. `(0, at_)`
  rcases or_assoc.2 h with h | h
  · obtain ⟨hn, rfl, rfl⟩ := splitH_ok h
    have ha := inRect_origin g (some (splitBase g)) hn (Nat.le_refl g.h)
    have hb := inRect_mk g (cx := at_) (cy := 0) (w := g.w - at_) (h := g.h) (some (splitBase g))
      (by omega) (by omega)
    refine ⟨valid_of_inRect hv ha, valid_of_inRect hv hb,
      disjoint_of_inRect hv.1 ha hb (Or.inl (by simp)), cover_of_inRect ha hb fun x y hx hy => ?_⟩
    simp only
    omega
  · obtain ⟨hn, rfl, rfl⟩ := splitV_ok h
    have ha := inRect_origin g (some (splitBase g)) (Nat.le_refl g.w) hn
    have hb := inRect_mk g (cx := 0) (cy := at_) (w := g.w) (h := g.h - at_) (some (splitBase g))
      (by omega) (by omega)
    refine ⟨valid_of_inRect hv ha, valid_of_inRect hv hb,
      disjoint_of_inRect hv.1 ha hb (Or.inr (Or.inr (Or.inl (by simp)))),
      cover_of_inRect ha hb fun x y hx hy => ?_⟩
    simp only
    omega

/-- `into_groups_with_fixed_count` / `into_groups`: no two groups (list positions) share a cell —
under `NoOverflow` (always true with overflow checks; without them it can fail, see
`C02_groups_wrap_overlap_witness`). -/
theorem C02_groups_pairwise_disjoint (L : Nat) (g : SubGrid) (hv : Valid L g) (m : Mode)
    (gw gh nc nr : Nat) (gs : List SubGrid) (hno : NoOverflow m gw gh nc nr)
    (h : intoGroupsFixed m g gw gh nc nr = .ok gs ∨
         (intoGroups m g gw gh = .ok gs ∧ nc = ceilDiv g.w gw ∧ nr = ceilDiv g.h gh)) :
    gs.Pairwise Disjoint := by
  have hgs : gs = groupsList m g gw gh nc nr := by
    rcases h with h | ⟨h, rfl, rfl⟩
    · exact intoGroupsFixed_ok h
    · exact (intoGroups_ok h).2.2
  rw [hgs, groupsList_eq_checked g hno]
  exact groupsList_pairwise hv.1

/-- Both build flavours and any counts: out-of-range rows/columns give empty groups. -/
theorem C02_groups_within_parent (L : Nat) (g : SubGrid) (hv : Valid L g) (m : Mode)
    (gw gh nc nr : Nat) (gs : List SubGrid)
    (h : intoGroupsFixed m g gw gh nc nr = .ok gs ∨ intoGroups m g gw gh = .ok gs) :
    (∀ c ∈ gs, Valid L c ∧ ∀ i ∈ cells c, i ∈ cells g) ∧
    (∀ gs', intoGroupsFixed m g gw gh nc nr = .ok gs' → gs'.length = nc * nr) := by
  constructor
  · intro c hc
    have : ∃ nc nr, c ∈ groupsList m g gw gh nc nr := by
      rcases h with h | h
      · exact ⟨_, _, intoGroupsFixed_ok h ▸ hc⟩
      · exact ⟨_, _, (intoGroups_ok h).2.2 ▸ hc⟩
    obtain ⟨_, _, hc⟩ := this
    obtain ⟨gy, _, gx, _, rfl⟩ := mem_groupsList.1 hc
    exact ⟨valid_of_inRect hv (groupOf_inRect m g gw gh gx gy),
      subset_of_inRect (groupOf_inRect m g gw gh gx gy)⟩
  · intro gs' h'
    rw [intoGroupsFixed_ok h', groupsList_length]

theorem C02_merge_is_union (a b m : SubGrid) (h : mergeH a b = .ok m ∨ mergeV a b = .ok m) :
    ∀ i, i ∈ cells m ↔ i ∈ cells a ∨ i ∈ cells b := by
  -- the parts are the rectangles of `m` at the origin and at `(a.w, 0)` resp. `(0, a.h)`
  rcases h with h | h
  · obtain ⟨_, _, hs, hh, _, ho, rfl⟩ := mergeH_eq_ok.1 h
    have ha : InRect { a with w := a.w + b.w } a 0 0 := ⟨by simp, rfl, by simp, by simp⟩
    have hb : InRect { a with w := a.w + b.w } b a.w 0 :=
      ⟨by simp [ho], hs.symm, Nat.le_refl _, by simp [hh]⟩
    refine cover_of_inRect ha hb (fun x y hx hy => ?_)
    simp only at hx hy
    omega
  · obtain ⟨_, _, hs, hw, ho, rfl⟩ := mergeV_eq_ok.1 h
    have ha : InRect { a with h := a.h + b.h } a 0 0 := ⟨by simp, rfl, by simp, by simp⟩
    have hb : InRect { a with h := a.h + b.h } b 0 a.h :=
      ⟨by simp [ho], hs.symm, by simp [hw], Nat.le_refl _⟩
    refine cover_of_inRect ha hb (fun x y hx hy => ?_)
    simp only at hx hy
    omega

theorem merge_valid {L : Nat} {a b m : SubGrid} (ha : Valid L a) (hb : Valid L b)
    (h : mergeH a b = .ok m ∨ mergeV a b = .ok m) : Valid L m := by
  refine ⟨?_, fun i hi => ((C02_merge_is_union a b m h i).1 hi).elim (ha.2 i) (hb.2 i)⟩
  rcases h with h | h
  · obtain ⟨_, _, _, _, hsum, _, rfl⟩ := mergeH_eq_ok.1 h
    exact Or.inr hsum
  · obtain ⟨_, _, _, _, _, rfl⟩ := mergeV_eq_ok.1 h
    exact ha.1

theorem C02_subgrid_valid (L : Nat) (g : SubGrid) (hv : Valid L g) :
    (∀ m xs xe ys ye c, subgrid m g xs xe ys ye = .ok c → Valid L c ∧ ∀ i ∈ cells c, i ∈ cells g) ∧
    (∀ x l r, splitH g x = .ok (l, r) → Valid L l ∧ Valid L r) ∧
    (∀ x l r, splitHInPlace g x = .ok (l, r) → Valid L l ∧ Valid L r) ∧
    (∀ y t b, splitV g y = .ok (t, b) → Valid L t ∧ Valid L b) ∧
    (∀ y t b, splitVInPlace g y = .ok (t, b) → Valid L t ∧ Valid L b) ∧
    (∀ b m, Valid L b → mergeH g b = .ok m → Valid L m) ∧
    (∀ b m, Valid L b → mergeV g b = .ok m → Valid L m) ∧
    (∀ m gw gh nc nr gs, intoGroupsFixed m g gw gh nc nr = .ok gs → ∀ c ∈ gs, Valid L c) ∧
    (∀ m gw gh gs, intoGroups m g gw gh = .ok gs → ∀ c ∈ gs, Valid L c) ∧
    (∀ c, borrowMut g = .ok c → Valid L c ∧ cells c = cells g) ∧
    (Valid L (asShared g) ∧ cells (asShared g) = cells g) := by
  have split : ∀ n a b, (splitH g n = .ok (a, b) ∨ splitHInPlace g n = .ok (a, b) ∨
      splitV g n = .ok (a, b) ∨ splitVInPlace g n = .ok (a, b)) → Valid L a ∧ Valid L b :=
    fun n a b h =>
      let ⟨ha, hb, _⟩ := C02_split_disjoint_cover L g hv n a b h
      ⟨ha, hb⟩
  refine ⟨?_, ?_, ?_, ?_, ?_, ?_, ?_, ?_, ?_, ?_, ?_⟩
  · intro m xs xe ys ye c h
    obtain ⟨l, t, hr⟩ := subgrid_inRect h
    exact ⟨valid_of_inRect hv hr, subset_of_inRect hr⟩
  · exact fun x l r h => split x l r (.inl h)
  · exact fun x l r h => split x l r (.inr (.inl h))
  · exact fun y t b h => split y t b (.inr (.inr (.inl h)))
  · exact fun y t b h => split y t b (.inr (.inr (.inr h)))
  · exact fun b m hb h => merge_valid hv hb (.inl h)
  · exact fun b m hb h => merge_valid hv hb (.inr h)
  · intro m gw gh nc nr gs h c hc
    exact ((C02_groups_within_parent L g hv m gw gh nc nr gs (.inl h)).1 c hc).1
  · intro m gw gh gs h c hc
    exact ((C02_groups_within_parent L g hv m gw gh 0 0 gs (.inr h)).1 c hc).1
  · intro c h
    obtain ⟨_, rfl⟩ := new_eq_ok.1 h
    exact ⟨hv, rfl⟩
  · exact ⟨hv, rfl⟩

/-! Non-vacuity: a 5x4 grid with stride 7 at offset 3 of a 29-element allocation is valid, and
the operations succeed on it. -/
example : Valid 29 ⟨3, 5, 4, 7, none⟩ := by decide
example : subgrid .checked ⟨3, 5, 4, 7, none⟩ (.incl 1) (.excl 4) .unb (.incl 2) = .ok ⟨4, 3, 3, 7, none⟩ := by
  decide
example : subgrid .checked ⟨3, 5, 4, 7, none⟩ (.incl 1) (.excl 6) .unb .unb = .panic .subgridRight := by
  decide

theorem C02_groups_cover (L : Nat) (g : SubGrid) (hv : Valid L g) (m : Mode) (gw gh : Nat)
    (gs : List SubGrid) (hno : NoOverflow m gw gh (ceilDiv g.w gw) (ceilDiv g.h gh))
    (h : intoGroups m g gw gh = .ok gs) :
    ∀ i ∈ cells g, ∃ k, ∃ hk : k < gs.length, i ∈ cells gs[k] ∧
      ∀ k' (hk' : k' < gs.length), i ∈ cells gs[k'] → k' = k := by
  intro i hi
  obtain ⟨hw, hh, hgs⟩ := intoGroups_ok h
  rw [groupsList_eq_checked g hno] at hgs
  have hp : gs.Pairwise Disjoint := hgs ▸ groupsList_pairwise hv.1
  obtain ⟨c, hc, hic⟩ := groupsList_cover hw hh i hi
  rw [← hgs] at hc
  exact unique_index_of_pairwise hp hc hic

example : NoOverflow .wrapping 2 3 4 3 := by
  refine Or.inr ⟨fun k hk => ?_, fun k hk => ?_⟩ <;> simp only [W] <;> omega

theorem C02_merge_restores (L : Nat) (g : SubGrid) (hv : Valid L g) (at_ : Nat) (a b : SubGrid) :
    ((splitH g at_ = .ok (a, b) ∨ splitHInPlace g at_ = .ok (a, b)) →
      mergeH a b = .ok { g with base := some (splitBase g) }) ∧
    ((splitV g at_ = .ok (a, b) ∨ splitVInPlace g at_ = .ok (a, b)) →
      mergeV a b = .ok { g with base := some (splitBase g) }) := by
  constructor
  · intro h
    obtain ⟨hx, rfl, rfl⟩ := splitH_ok h
    have hg := hv.1
    refine mergeH_eq_ok.2 ⟨rfl, rfl, rfl, rfl, ?_, by simp [index], ?_⟩
    · show at_ + (g.w - at_) ≤ g.stride
      omega
    · show _ = SubGrid.mk g.off (at_ + (g.w - at_)) g.h g.stride _
      rw [Nat.add_sub_cancel' hx]
  · intro h
    obtain ⟨hy, rfl, rfl⟩ := splitV_ok h
    refine mergeV_eq_ok.2 ⟨rfl, rfl, rfl, rfl, by simp [index], ?_⟩
    show _ = SubGrid.mk g.off g.w (at_ + (g.h - at_)) g.stride _
    rw [Nat.add_sub_cancel' hy]

example : splitVInPlace ⟨3, 5, 4, 7, none⟩ 1 = .ok (⟨3, 5, 1, 7, some 3⟩, ⟨10, 5, 3, 7, some 3⟩) ∧
    mergeV ⟨3, 5, 1, 7, some 3⟩ ⟨10, 5, 3, 7, some 3⟩ = .ok ⟨3, 5, 4, 7, some 3⟩ ∧
    mergeV ⟨3, 5, 1, 7, some 3⟩ ⟨17, 5, 2, 7, some 3⟩ = .panic .mergeAdjacent := by decide

/-- `get*` / `get_row*`: outside the reported dimensions the call panics and touches no memory. -/
theorem C02_get_in_bounds (L : Nat) (g : SubGrid) (hv : Valid L g) (x y : Nat) :
    (x < g.w → y < g.h → get g x y = .ok (index g x y) ∧ index g x y < L) ∧
    (¬ (x < g.w ∧ y < g.h) → get g x y = .panic .coord) ∧
    (∀ s n, getRow g y = .ok (s, n) → y < g.h ∧ n = g.w ∧ ∀ k, k < n → s + k < L) := by
  refine ⟨fun hx hy => ⟨?_, hv.2 _ (mem_cells.2 ⟨y, hy, x, hx, rfl⟩)⟩, fun hn => ?_, ?_⟩
  · exact if_neg (by omega)
  · exact if_pos (by omega)
  · intro s n h
    simp only [getRow, panic_else_eq_ok, Outcome.ok.injEq, Prod.mk.injEq] at h
    obtain ⟨hy, rfl, rfl⟩ := h
    exact ⟨by omega, rfl, fun k hk => hv.2 _ (mem_cells.2 ⟨y, by omega, k, hk, rfl⟩)⟩

/-- Optimised build, safe API: `into_groups_with_fixed_count(4, 2^63, 1, 3)` on a valid 4x4 grid
returns the *same* 16 cells twice (`2 * 2^63` wraps to 0): groups 0 and 2 alias. -/
theorem C02_groups_wrap_overlap_witness :
    Valid 16 ⟨0, 4, 4, 4, none⟩ ∧
    intoGroupsFixed .wrapping ⟨0, 4, 4, 4, none⟩ 4 (2 ^ 63) 1 3 =
      .ok [⟨0, 4, 4, 4, some 0⟩, ⟨16, 4, 0, 4, some 0⟩, ⟨0, 4, 4, 4, some 0⟩] ∧
    ¬ [(⟨0, 4, 4, 4, some 0⟩ : SubGrid), ⟨16, 4, 0, 4, some 0⟩, ⟨0, 4, 4, 4, some 0⟩].Pairwise Disjoint ∧
    intoGroupsFixed .checked ⟨0, 4, 4, 4, none⟩ 4 (2 ^ 63) 1 3 = .panic .arith := by
  refine ⟨by decide, by decide, ?_, by decide⟩
  intro h
  rw [List.pairwise_iff_getElem] at h
  exact h 0 2 (by decide) (by decide) (by decide) 0 (by decide) (by decide)

/-- Optimised build, safe API: `from_buf` of a 1-element slice accepts a 1x3 grid with stride
`2^63` (`stride * (height - 1)` wraps to 0); its second row lies far outside the slice. -/
theorem C02_from_buf_wrap_witness :
    fromBuf .wrapping 0 1 1 3 (2 ^ 63) = .ok ⟨0, 1, 3, 2 ^ 63, none⟩ ∧
    ¬ Valid 1 ⟨0, 1, 3, 2 ^ 63, none⟩ ∧
    fromBuf .checked 0 1 1 3 (2 ^ 63) = .panic .arith := by
  refine ⟨by decide, ?_, by decide⟩
  intro h
  have := h.2 (2 ^ 63) (mem_cells.2 ⟨1, by decide, 0, by decide, by simp⟩)
  omega

example : Valid 29 ⟨3, 5, 4, 7, none⟩ := by decide
example : splitH ⟨3, 5, 4, 7, none⟩ 2 = .ok (⟨3, 2, 4, 7, some 3⟩, ⟨5, 3, 4, 7, some 3⟩) := by decide
example : intoGroups .checked ⟨3, 5, 4, 7, none⟩ 2 3 = .ok
    [⟨3, 2, 3, 7, some 3⟩, ⟨5, 2, 3, 7, some 3⟩, ⟨7, 1, 3, 7, some 3⟩,
     ⟨24, 2, 1, 7, some 3⟩, ⟨26, 2, 1, 7, some 3⟩, ⟨28, 1, 1, 7, some 3⟩] := by decide
example : (intoGroupsFixed .checked ⟨3, 5, 4, 7, none⟩ 2 3 4 3) = .ok
    [⟨3, 2, 3, 7, some 3⟩, ⟨5, 2, 3, 7, some 3⟩, ⟨7, 1, 3, 7, some 3⟩, ⟨8, 0, 3, 7, some 3⟩,
     ⟨24, 2, 1, 7, some 3⟩, ⟨26, 2, 1, 7, some 3⟩, ⟨28, 1, 1, 7, some 3⟩, ⟨29, 0, 1, 7, some 3⟩,
     ⟨31, 2, 0, 7, some 3⟩, ⟨33, 2, 0, 7, some 3⟩, ⟨35, 1, 0, 7, some 3⟩, ⟨36, 0, 0, 7, some 3⟩] := by
  decide
example : fromBuf .checked 3 26 5 4 7 = .ok ⟨3, 5, 4, 7, none⟩ ∧
    fromBuf .checked 3 25 5 4 7 = .panic .fromBufLen := by decide
example : mergeH ⟨3, 2, 4, 7, some 3⟩ ⟨5, 3, 3, 7, some 3⟩ = .panic .mergeHeight := by decide

/-- Observation: for out-of-range rows/columns `into_groups_with_fixed_count` forms (empty) groups
whose base offset lies beyond one-past-the-end of the allocation: `ptr.add` leaves the allocation,
although no element is ever accessed through such a group. -/
theorem C02_groups_empty_base_past_end_witness :
    Valid 29 ⟨3, 5, 4, 7, none⟩ ∧
    ∃ gs, intoGroupsFixed .checked ⟨3, 5, 4, 7, none⟩ 2 3 4 3 = .ok gs ∧
      ∃ c ∈ gs, cells c = [] ∧ 29 < c.off := by
  refine ⟨by decide, _, rfl, ⟨36, 0, 0, 7, some 3⟩, by decide, by decide, by decide⟩

end Jxl.Subgrid

namespace Jxl.Unchecked

/-- `Bitstream::refill`: in every history of public reader operations starting from
`Bitstream::new(bytes)` (`bytes.len() = N`), whenever the fast path runs, at least 8 bytes remain
(the 8-byte read is in bounds), it advances by `read_bytes < 8 ≤ len` (the new slice
`from_raw_parts(ptr.add(read_bytes), len - read_bytes)` lies inside the old one), and
`remaining_buf_bits ≤ 63` always (so `63 - remaining_buf_bits` never wraps in an optimised build). -/
theorem C02_refill_in_bounds (N : Nat) (hN : N < W) (ops : List BsOp) :
    (∀ e ∈ (run (bsNew N) ops).2, 8 ≤ e.len ∧ e.adv < 8 ∧ e.adv ≤ e.len ∧ e.len ≤ N) ∧
    (run (bsNew N) ops).1.rem ≤ 63 ∧ (run (bsNew N) ops).1.len ≤ N := by
  have h := run_inv hN ops (bsNew N) ⟨Nat.zero_le _, Nat.le_refl _⟩
  refine ⟨fun e he => ?_, h.1.1, h.1.2⟩
  obtain ⟨⟨h8, hle, hlt⟩, hn⟩ := h.2 e he
  exact ⟨h8, hlt, hle, hn⟩

example : (run (bsNew 12) [.read 3, .skip 40, .pad, .read 32, .read 32]).2 = [⟨12, 7⟩] ∧
    (run (bsNew 12) [.read 3, .skip 40, .pad, .read 32, .read 32]).1 = ⟨0, 16, 80⟩ := by decide

/-- ANS `get_unchecked(i)`: for every `log_alphabet_size = 5 + u(2)`, every bucket table built from
a `dist` vector of `table_size` entries (all an accepted histogram can produce) and every 32-bit
state (indeed any state), `i = (state & 0xfff) >> log_bucket_size` is below the table length. -/
theorem C02_ans_index_in_bounds {β : Type} (mk : Nat → Nat → β) (u2 : Nat) (hu : u2 < 4)
    (dist : List Nat) (hd : dist.length = tableSize (logAlphabetSize u2)) (state : Nat) :
    ansIndex state (logBucketSize (logAlphabetSize u2)) < (buckets mk dist).length := by
  rw [buckets_length, hd]
  exact ansIndex_lt_tableSize (by unfold logAlphabetSize; omega) state

example : tableSize (logAlphabetSize 3) = 256 ∧ logBucketSize (logAlphabetSize 3) = 4 ∧
    ansIndex 0xffffffff 4 = 255 := by decide

/-- The raw-pointer accesses of `inverse_h_i16_x86_64_avx2` / `_sse41`, every width and height. -/
theorem C02_squeeze_plan_in_bounds (k : Kernel) (w h : Nat) :
    ∀ a ∈ plan k w h, a.offset + a.lanes ≤ w ∧ a.row < h ∧ 1 ≤ a.lanes := by
  intro a ha
  unfold plan at ha
  split at ha
  · cases ha
  · rename_i hw
    simp only [List.mem_flatMap, List.mem_map, List.mem_range] at ha
    obtain ⟨y8, hy8, dy, hdy, e, he, rfl⟩ := ha
    obtain ⟨hb, hl⟩ := rowPlan_bounds (Nat.lt_of_not_le hw) e he
    simp only
    omega

/-- The `MaybeUninit` scratch (`vec![uninit; width]`) of the same kernels: every index touched is
`< width`, and every `assume_init_read` of an index is preceded by a `write` of that index: the
writes are exactly the indices `< width` (`mem_scratchWrites`). The bound `w < W` is not needed
(`from` only depends on `width / 2` mod 8, and 8 divides `2^64`). -/
theorem C02_squeeze_scratch_written_before_read (k : Kernel) (w : Nat) (hw : k.minWidth < w)
    (hW : w < W) : WrittenBeforeRead w (scratchPlan k w) :=
  writtenBeforeRead_of_cover fun _ => mem_scratchWrites hw

example : (plan .avx2 37 9).length = 112 ∧ (plan .sse41 17 8).length = 48 ∧
    scratchOk 37 (scratchPlan .avx2 37) [] = true ∧ scratchOk 130 (scratchPlan .sse41 130) [] = true := by
  decide +kernel

/-- `TransformType::try_from(u8)` (jxl-vardct/src/dct_select.rs) transmutes the byte into the
`#[repr(u8)]` enum: every byte its guard lets through is a declared discriminant, and every declared
discriminant is let through. Guard and variant count are regenerated from the source on every run. -/
theorem C02_transform_type_transmute_valid :
    (∀ v, v < 256 → Jxl.Gen.TransformType.accepts v = true → v < Jxl.Gen.TransformType.numVariants) ∧
    (∀ v, v < Jxl.Gen.TransformType.numVariants → Jxl.Gen.TransformType.accepts v = true) ∧
    Jxl.Gen.TransformType.numVariants ≤ 256 := by
  decide +kernel

end Jxl.Unchecked
