import JxlModel.Proofs.Entropy.Reader
import JxlModel.Proofs.Entropy.Hybrid
import JxlModel.Proofs.Entropy.Cluster
import JxlModel.Proofs.Entropy.Prefix
import JxlModel.Proofs.Entropy.AnsStep
import JxlModel.Proofs.Entropy.Alias
import JxlModel.Proofs.Entropy.Seq
import JxlModel.Proofs.Entropy.Lz
import JxlModel.Proofs.Entropy.Rle
import JxlModel.Proofs.Entropy.Header
import JxlModel.Proofs.Entropy.Check
import JxlModel.Proofs.Entropy.HeaderComp
import JxlModel.Proofs.Entropy.HeaderNested
import JxlModel.Proofs.Entropy.Final
/-! C04: entropy decoding inverts the specified coding.

Decoder model: `Model/Entropy/*.lean` (mirrors `jxl_coding`); reference encoder:
`Model/Enc/*.lean`. `Decoder.parse` (header) and `begin → readSeq → finalize` (stream) are treated
separately: the stream theorems are stated for `planDecoder p`, the decoder a resolved plan
denotes. `C04_header_roundtrip` and `C04_entropy_roundtrip` have the encoder's Boolean `check` as
the only hypothesis about the plan (`parse_of_checkD` in `Proofs/Entropy/Final.lean`); the `_partial`
versions state the same conclusions under the semantic hypotheses `HeaderOKD`, `HistRTD`. Both
rest on the same two lemmas about one level of the header (`parseDecoder_level`,
`readClusters_nested` in `Proofs/Entropy/HeaderNested.lean`).

Points where the implementation and my reading of the format differ (decided against the Spec
layer; none is reachable by a stream of the reference encoder, so none is a finding):
* ANS general histograms with two *adjacent* RLE runs are rejected by `ans.rs` (the second run's
  marker is processed as a log-count of 13); libjxl accepts them. The encoder never emits adjacent
  runs (one run covers up to 259 ≥ 256 entries).
* `IntegerConfig::parse` accepts `split_exponent > log_alphabet_size` when the field width allows
  (e.g. 6 or 7 for `log_alphabet_size = 5`); libjxl rejects. `IntegerConfig.valid` (what the encoder
  uses) requires `split_exponent ≤ log_alphabet_size`.
* On the RLE fast path (jxl-modular `decode_fast_lossless`) `finalize` is not called, so an ANS
  stream's final state is unchecked there, and a `Repeat` before any value repeats 0 rather than
  failing with `UnexpectedLz77Repeat`. Valid streams are unaffected (`C04_rle_eq_lz77`).
* `read_uint_prefilled` masks the bit count with 31 and truncates to `u32`; both only matter for
  tokens no valid stream contains. Modelled as coded.
-/
namespace Jxl.Entropy
open Jxl.Enc List

/-- For every config of the shape `IntegerConfig::parse` accepts and every `v < 2^32`: reading the
token and extra bits the encoder emits returns `v` and consumes exactly those bits. -/
theorem C04_uint_roundtrip (c : IntegerConfig) (hc : c.msbInToken + c.lsbInToken ≤ c.splitExponent)
    (v : Nat) (hv : v < 2 ^ 32) (rest : Bits) :
    readUint c (tokenOf c v) (uintBits c v ++ rest) = .ok (v, rest) :=
  readUint_splitUint c hc v hv rest

example : readUint ⟨4, 1, 2⟩ (tokenOf ⟨4, 1, 2⟩ 0xDEADBEEF) (uintBits ⟨4, 1, 2⟩ 0xDEADBEEF ++ [true])
    = .ok (0xDEADBEEF, [true]) := by decide

/-- `IntegerConfig::parse(log_alphabet_size)` reads back every valid config. -/
theorem C04_integer_config_roundtrip (la : Nat) (hla : la < 2 ^ 32) (c : IntegerConfig)
    (hv : c.valid la = true) (rest : Bits) :
    IntegerConfig.parse la (writeConfig la c ++ rest) = .ok (c, rest) :=
  integerConfig_roundtrip la hla c hv rest

example : IntegerConfig.valid ⟨7, 3, 2⟩ 15 = true := by decide

/-- Inverse move-to-front undoes move-to-front on cluster ids. -/
theorem C04_mtf_inv (l : List Nat) (h : ∀ x ∈ l, x < 256) :
    mtfDecode (mtfEncode l) = l ∧ ∀ i ∈ mtfEncode l, i < 256 :=
  ⟨mtf_decode_encode l h, mtf_encode_lt l h⟩

example : mtfEncode [3, 3, 0, 3, 7] = [3, 0, 1, 1, 7] := by decide

/-- The hole check accepts exactly the maps whose image is `[0, max+1)`; otherwise `ClusterHole`. -/
theorem C04_clusters_hole_check (cl : List Nat) :
    (checkClusters cl = .ok (listMax cl + 1, cl) ↔ ∀ k, k < listMax cl + 1 → k ∈ cl) ∧
    (checkClusters cl = .error .clusterHole ↔ ∃ k, k < listMax cl + 1 ∧ k ∉ cl) :=
  ⟨checkClusters_ok_iff cl, checkClusters_err_iff cl⟩

example : checkClusters [0, 2, 2] = .error .clusterHole := by decide

/-- The simple cluster-map form reads back. -/
theorem C04_clusters_simple_roundtrip (nbits : Nat) (cl : List Nat) (h : ∀ x ∈ cl, x < 2 ^ nbits)
    (rest : Bits) :
    readMany (rbits nbits) cl.length (cl.flatMap (toBits nbits) ++ rest) = .ok (cl, rest) :=
  readMany_rbits nbits cl h rest

/-- Lehmer coding: decoding the (zero-trimmed) code of a permutation of `[0,size)` that fixes
`[0,skip)` returns the permutation. -/
theorem C04_lehmer_roundtrip (size skip : Nat) (perm : List Nat)
    (hfix : perm.take skip = List.range skip)
    (hperm : perm.drop skip ~ (List.range (size - skip)).map (· + skip)) :
    lehmerDecode size skip (lehmerEncode size skip perm) = perm := by
  unfold lehmerDecode lehmerEncode
  rw [lehmerApply_trim _ _ (by rw [lehmerCode_length]; exact hperm.length_eq),
    lehmerApply_code _ _ hperm, ← hfix, List.take_append_drop]

example : lehmerDecode 5 1 (lehmerEncode 5 1 [0, 3, 1, 2, 4]) = [0, 3, 1, 2, 4] := by decide

/-- Whatever Lehmer code passes the decoder's range checks (`lehmer[i] < size - skip - i`), the
result of `read_permutation` is a permutation of `[0,size)`. -/
theorem C04_read_permutation_is_perm (size skip : Nat) (hs : skip ≤ size) (lehmer : List Nat)
    (h : ∀ j, (hj : j < lehmer.length) → lehmer[j] < size - skip - j) :
    lehmerDecode size skip lehmer ~ List.range size := by
  have h1 := lehmerApply_perm lehmer ((List.range (size - skip)).map (· + skip))
    (by simpa only [List.length_map, List.length_range] using h)
  have h2 := @List.range_add skip (size - skip)
  rw [Nat.add_sub_cancel' hs] at h2
  rw [h2, lehmerDecode]
  simpa only [Nat.add_comm] using h1.append_left _

/-- For every length vector with lengths ≤ 15 and Kraft sum ≤ 1 (so in particular exactly 1, the
only ones `with_code_lengths` accepts), and every sequence of used symbols: decoding the
concatenated codewords returns the sequence, consumes exactly those bits, and the bit count is the
sum of the code lengths. (Spec-level decoder: the interval that contains the 15-bit MSB-first
look-ahead, i.e. what the bit-reversed tables index.) -/
theorem C04_prefix_canonical_roundtrip (lens : List Nat) (hle : ∀ l ∈ lens, l ≤ 15)
    (hk : kraft lens ≤ 2 ^ 15) (syms : List Nat) (hused : ∀ s ∈ syms, lens.getD s 0 ≠ 0)
    (rest : Bits) :
    let c := PrefixCode.table (sortedSyms lens)
    readMany c.read syms.length (syms.flatMap c.encode ++ rest) = .ok (syms, rest) ∧
    (syms.flatMap c.encode).length = (syms.map fun s => lens.getD s 0).sum := by
  intro c
  have h := fun s hs r => prefix_read_encode lens hle hk s (hused s hs) r
  refine ⟨readMany_roundtrip c.read c.encode syms (fun s hs r => (h s hs r).1) rest, ?_⟩
  rw [List.length_flatMap]
  exact congrArg List.sum (List.map_congr_left fun s hs => (h s hs []).2)

/-- the zero-bit single-symbol code -/
theorem C04_prefix_single_roundtrip (sym n : Nat) (rest : Bits) :
    readMany (PrefixCode.single sym).read n rest = .ok (List.replicate n sym, rest) := by
  induction n with
  | zero => rfl
  | succ n ih => simp only [readMany, PrefixCode.read, ih, List.replicate_succ]

example : kraft [1, 0, 3, 3, 2] = 2 ^ 15 := by decide
example : (PrefixCode.table (sortedSyms [1, 0, 3, 3, 2])).encode 3 = [true, true, true] := by decide

/- The two-level bit-reversed lookup tables of `Histogram::with_code_lengths` against this Spec
   decoder: `Props/C04Table.lean`, `C04_prefix_table_eq_spec`. -/

/-- Header fields of a prefix histogram: alphabet-size field, code-length-code length field,
and the one-symbol simple form round-trip. -/
theorem C04_prefix_header_roundtrip_partial :
    (∀ count rest, 1 ≤ count → count ≤ 2 ^ 15 →
      readPrefixCount (writePrefixCount count ++ rest) = .ok (count, rest)) ∧
    (∀ l rest, l ≤ 5 → readClcLen (writeClcLen l ++ rest) = .ok (l, rest)) ∧
    (∀ n sym rest, 2 ≤ n → n ≤ 2 ^ 15 → sym < n →
      parsePrefix n (writeSimple n [sym] none ++ rest) = .ok (.single sym, rest)) :=
  ⟨fun c r h1 h2 => readPrefixCount_write c h1 h2 r, fun l r h => readClcLen_write l h r,
   fun n s r h1 h2 h3 => parsePrefix_simple1 n s h1 h2 h3 r⟩

/-- Complex prefix histogram. For every alphabet size `2 ≤ count ≤ 2^15` and every complete
length vector (`count` entries, lengths ≤ 15, Kraft sum exactly 1), with or without run-length
coding of the lengths and for every requested `hskip`: `Histogram::parse(count)` on what
`writeComplex` emits — `hskip`, the code-length-code lengths in `CODE_LENGTH_ORDER` until the
space of 32 is used up, then the code-length symbols (literal lengths, repeat code 16 with 2 extra
bits, zero-run code 17 with 3 extra bits, both chained by the `(old − 2)·4 / ·8 + extra + 3` rule)
— returns the canonical code of `lens` and consumes exactly those bits. The code-length code is
the one `huffLengths 5` builds from the token frequencies (proved complete for every frequency
vector, `huffLengths_spec`), a single used token giving the zero-bit code. -/
theorem C04_prefix_complex_roundtrip (count : Nat) (lens : List Nat) (rle : Bool) (req : Option Nat)
    (h2 : 2 ≤ count) (hc15 : count ≤ 2 ^ 15) (hlen : lens.length = count)
    (h15 : ∀ l ∈ lens, l ≤ 15) (hk : kraft lens = 2 ^ 15) (rest : Bits) :
    parsePrefix count (writeComplex lens rle req ++ rest) = .ok (.table (sortedSyms lens), rest) :=
  parsePrefix_complex count lens rle req h2 hc15 hlen h15 hk rest

/-- six used symbols with lengths 2,2,3,3,3,3 in an alphabet of 8: not a simple shape; the run of
four 3s is written as one literal and one repeat code 16 -/
example : kraft [2, 2, 3, 3, 3, 3, 0, 0] = 2 ^ 15 ∧ simpleShape [2, 2, 3, 3, 3, 3, 0, 0] = none ∧
    clTokens true [2, 2, 3, 3, 3, 3, 0, 0] = [(2, 0, 0), (2, 0, 0), (3, 0, 0), (16, 2, 0)] := by
  decide

/-- a zero run in the middle is written with code 17 -/
example : clTokens true [1, 2, 0, 0, 0, 0, 0, 3, 3]
    = [(1, 0, 0), (2, 0, 0), (17, 3, 2), (3, 0, 0), (3, 0, 0)] := by decide

/-- Prefix histogram header, every form. For every prefix `CodeSpec` that passes the
encoder's Boolean per-code check `codeOk` (alphabet size in `[1, 2^15]`, one length ≤ 15 per
symbol, and either exactly one used symbol or Kraft sum 1) and every requested form
(`.auto | .simple | .complex rle hskip`): `Histogram::parse(count)` on the header `writePrefix`
emits — nothing for `count = 1`; the simple form for 1, 2, 3 or 4 used symbols of the shapes
1 / 1,1 / 1,2,2 / 2,2,2,2 / 1,2,3,3 (tree-select bit); the complex form otherwise or on request —
returns exactly the code the spec denotes (`CodeSpec.prefixCode`) and consumes exactly the
header bits. -/
theorem C04_prefix_histogram_roundtrip (count : Nat) (lens : List Nat) (form : PrefixForm)
    (tokens : List Nat) (h : codeOk .prefix tokens (.lengths count lens form) = true) (rest : Bits) :
    parsePrefix count (writePrefix count lens form ++ rest)
      = .ok ((CodeSpec.lengths count lens form).prefixCode, rest) :=
  prefix_histogram_rt count lens form tokens h rest

example : codeOk .prefix [0, 5, 3] (.lengths 8 [2, 2, 3, 3, 3, 3, 0, 0] .auto) = true ∧
    codeOk .prefix [1, 4] (.lengths 5 [3, 2, 0, 1, 3] .simple) = true ∧
    codeOk .prefix [7] (.lengths 9 [1, 2, 0, 0, 0, 0, 0, 3, 3] (.complex true 2)) = true := by decide

/-- One decode step inverts one encode step, and states stay in `[2^16, 2^32)`:
if the alias map of `h` has `inv k` as a preimage of `(s, k)` for every `k < D` (D = probability of
`s`), then from the encoder's new state the decoder returns `s`, pulls in exactly the 16-bit word
the encoder emitted (if any) and is back at the encoder's old state. -/
theorem C04_ans_step_inv (h : AnsHist) (s D : Nat) (inv : Nat → Nat) (hD : 0 < D) (hD' : D ≤ 4096)
    (hinv : ∀ k, k < D → h.lookup (inv k) = (s, k, D) ∧ inv k < 4096)
    (x : Nat) (hx1 : 2 ^ 16 ≤ x) (hx2 : x < 2 ^ 32) (rest : Bits) :
    let r := ansEncStep D inv x
    2 ^ 16 ≤ r.1 ∧ r.1 < 2 ^ 32 ∧
    h.readSymbol r.1 (stepBits r.2 ++ rest) = .ok ((s, x), rest) :=
  ans_step_inv h s D inv hD hD' hinv x hx1 hx2 rest

/-- symbols only, one histogram per cluster: decode loop used to state `C04_ans_roundtrip` -/
def ansReadSeq (hs : List AnsHist) : List Nat → Nat → Bits → R (List Nat × Nat)
  | [], x, s => .ok (([], x), s)
  | c :: cs, x, s =>
    match (hs.getD c default).readSymbol x s with
    | .error e => .error e
    | .ok ((sym, x'), s') =>
      match ansReadSeq hs cs x' s' with
      | .error e => .error e
      | .ok ((syms, xf), sf) => .ok ((sym :: syms, xf), sf)

/-- Whole sequences: for any histograms and any token sequence whose symbols the alias maps can
reach (`AnsToksOK`, provided by `C04_alias_bijection` for every table `AnsHist.build` makes from a
distribution summing to 4096), the stream the encoder produces — 32-bit initial state first, then
the renormalisation words interleaved with the tokens' extra bits, here empty — decodes to the
same symbols, ends in state `0x130000`, and all bits are consumed. -/
theorem C04_ans_roundtrip (hs : List AnsHist) (revs : List (Array (Array Nat))) (ts : List Tok)
    (hok : AnsToksOK hs ts) (hex : ∀ t ∈ ts, t.extra = []) (rest : Bits) :
    let (x, bits) := encodeToksAns hs revs ts
    ∃ s0, rbits 32 (toBits 32 x ++ bits ++ rest) = .ok (x, s0) ∧
      ansReadSeq hs (ts.map (·.cluster)) x s0 = .ok ((ts.map (·.sym), ansFinalState), rest) := by
  refine ⟨(encodeToksAns hs revs ts).2 ++ rest, ?_, ?_⟩
  · rw [List.append_assoc, rbits_toBits 32 _ _ (ans_stream hs revs ts hok).1.2]
  · induction ts with
    | nil => rfl
    | cons t r ih =>
      obtain ⟨ht, hr⟩ := List.forall_mem_cons.1 hex
      have hpop := (ans_stream hs revs _ hok).2 t r rfl rest
      rw [ht, List.nil_append] at hpop
      simp only [List.map_cons, ansReadSeq, hpop, ih (List.forall_mem_cons.1 hok).2 hr]

/-- The alias table: for every distribution `d` of table size `2^la` (`5 ≤ la ≤ 8`) summing to
4096 that is not single-symbol, every 12-bit index maps into range (`offset < d[symbol]`, the
reported probability is `d[symbol]`), and every `(symbol, offset)` with `offset < d[symbol]` has a
preimage: with 4096 indices and `Σ d = 4096` targets the alias map is a bijection
`[0,4096) ≃ Σ_s [0, d s)`. Proved by an invariant over the overfull/underfull loop
(`Proofs/Entropy/Alias.lean`). -/
theorem C04_alias_bijection (la : Nat) (hla : 5 ≤ la ∧ la ≤ 8) (d : AnsDist)
    (hlen : d.dist.length = 2 ^ la) (hsum : d.dist.sum = 4096) :
    let h := AnsHist.build la d
    (∀ idx, idx < 4096 →
      (h.lookup idx).1 < 2 ^ la ∧ (h.lookup idx).2.2 = d.dist.getD (h.lookup idx).1 0 ∧
      (h.lookup idx).2.1 < d.dist.getD (h.lookup idx).1 0) ∧
    (∀ s k, k < d.dist.getD s 0 → ∃ idx, idx < 4096 ∧ h.lookup idx = (s, k, d.dist.getD s 0)) :=
  alias_bijection la (Nat.le_trans hla.2 (by decide)) d hlen hsum

theorem C04_alias_in_range (la : Nat) (hla : 5 ≤ la ∧ la ≤ 8) (d : AnsDist)
    (hlen : d.dist.length = 2 ^ la) (hsum : d.dist.sum = 4096) (idx : Nat) (hidx : idx < 4096) :
    ((AnsHist.build la d).lookup idx).2.1 < d.dist.getD ((AnsHist.build la d).lookup idx).1 0 :=
  ((C04_alias_bijection la hla d hlen hsum).1 idx hidx).2.2

/-- hence every symbol with non-zero probability is encodable (`AnsSymOK`, the hypothesis of the
stream theorems) -/
theorem C04_alias_symOK (la : Nat) (hla : 5 ≤ la ∧ la ≤ 8) (d : AnsDist)
    (hlen : d.dist.length = 2 ^ la) (hsum : d.dist.sum = 4096) (s : Nat) (hs : d.dist.getD s 0 ≠ 0) :
    AnsSymOK (AnsHist.build la d) s :=
  alias_symOK la (Nat.le_trans hla.2 (by decide)) d hlen hsum s hs

/-- Histogram header, three of the four forms (single, two-symbol, flat) and the fields of the
general form (8-bit varint, log-count prefix code, shift). -/
theorem C04_ans_hist_roundtrip_partial :
    (∀ la v rest, v < 2 ^ la → v < 256 →
      parseAnsDist la ([true, false] ++ writeU8 v ++ rest)
        = .ok (⟨(List.replicate (2 ^ la) 0).set v 4096, v + 1⟩, rest)) ∧
    (∀ la v0 v1 p rest, v0 < 2 ^ la → v1 < 2 ^ la → v0 ≠ v1 → v0 < 256 → v1 < 256 → p < 4096 →
      parseAnsDist la ([true, true] ++ writeU8 v0 ++ writeU8 v1 ++ toBits 12 p ++ rest)
        = .ok (⟨((List.replicate (2 ^ la) 0).set v0 p).set v1 (4096 - p), max v0 v1 + 1⟩, rest)) ∧
    (∀ la a rest, 1 ≤ a → a ≤ 2 ^ la → a ≤ 256 →
      parseAnsDist la ([false, true] ++ writeU8 (a - 1) ++ rest)
        = .ok (⟨flatDist a ++ List.replicate (2 ^ la - a) 0, a⟩, rest)) ∧
    (∀ v rest, v < 256 → readU8 (writeU8 v ++ rest) = .ok (v, rest)) ∧
    (∀ c rest, c ≤ 13 → readLogCount (writeLogCount c ++ rest) = .ok (c, rest)) ∧
    (∀ sh rest, sh ≤ 13 → readShift (writeShift sh ++ rest) = .ok (sh, rest)) :=
  ⟨fun la v r h1 h2 => parseAns_single la v h1 h2 r,
   fun la v0 v1 p r a b c d e f => parseAns_binary la v0 v1 p a b c d e f r,
   fun la a r h1 h2 h3 => parseAns_flat la a h1 h2 h3 r,
   fun v r h => readU8_writeU8 v h r, fun c r h => readLogCount_write c h r,
   fun s r h => readShift_write s h r⟩

/-- General ANS histogram. For `5 ≤ la ≤ 8`, every distribution `d` with at most `2^la`
entries, sum 4096 and at least two used symbols, every `shift ≤ 13` under which all entries but
the omitted one are exactly representable (`ReprOK`; automatic for `shift = 13`, and what
`quantizeForShift shift d = d` gives), with or without RLE: the general branch of
`Histogram::parse` on what `writeGeneral` emits — shift field, alphabet size, one log-count per
entry with marker 13 + length for a run (`findRuns`: runs are disjoint, non-adjacent, avoid the
omitted position and the entry after it), then the mantissa bits — returns `d` padded with zeros
to `2^la` and the alphabet size `generalAlphabet d`: the omitted position is recovered as the first
maximal log-count, run entries repeat the previous value, the omitted entry is `4096 − Σ others`. -/
theorem C04_ans_general_roundtrip (la : Nat) (hla : 5 ≤ la ∧ la ≤ 8) (d : List Nat) (shift : Nat)
    (rle : Bool) (hlen : d.length ≤ 2 ^ la) (hsum : d.sum = 4096) (hused : 2 ≤ (usedSyms d).length)
    (hshift : shift ≤ 13) (hq : ReprOK shift d) (rest : Bits) :
    parseAnsDist la (writeGeneral d shift rle ++ rest)
      = .ok (⟨d ++ List.replicate (2 ^ la - d.length) 0, generalAlphabet d⟩, rest) :=
  parseAnsDist_general la hla d shift rle hlen hsum hused hshift hq rest

/-- a distribution whose omitted position is 6 (not 0) and which has an RLE run `(start 1, length 5)` -/
example : omitPos [16, 16, 16, 16, 16, 16, 4000] = 6 ∧
    effectiveForm [16, 16, 16, 16, 16, 16, 4000] .auto = .general 13 true ∧
    findRuns 6 #[16, 16, 16, 16, 16, 16, 4000] 7 8 0 [] = [(1, 5)] := by
  refine ⟨by decide, by decide, by decide +kernel⟩

/-- ANS histogram header, every form. For every ANS `CodeSpec` that passes the encoder's
Boolean per-code check `codeOk` (`5 ≤ la ≤ 8`, at most `2^la` probabilities summing to 4096) and
every requested form (`.auto | .single | .binary | .flat | .general shift rle`; a form that cannot
express `d` exactly falls back to single / binary / `general 13` as `effectiveForm` says):
`Histogram::parse(la)` on the header `writeAns` emits returns exactly the table the spec denotes
(`CodeSpec.ansHist`: the distribution padded to `2^la`, the alphabet size of the form, and the
alias table built from them) and consumes exactly the header bits. -/
theorem C04_ans_histogram_roundtrip (la : Nat) (d : List Nat) (form : AnsForm) (tokens : List Nat)
    (h : codeOk (.ans la) tokens (.dist d form) = true) (rest : Bits) :
    parseAns la (writeAns d form ++ rest) = .ok ((CodeSpec.dist d form).ansHist la, rest) :=
  ans_histogram_rt la d form tokens h rest

example : codeOk (.ans 5) [0, 6] (.dist [16, 16, 16, 16, 16, 16, 4000] .auto) = true ∧
    codeOk (.ans 8) [3] (.dist (quantizeForShift 3 [1000, 1000, 1000, 1000, 90, 6]) (.general 3 true)) = true ∧
    ansFormOk (quantizeForShift 3 [1000, 1000, 1000, 1000, 90, 6]) (.general 3 true) = true := by
  decide

/-- The special-distance table regenerated from `lib.rs` on this run equals the frozen Spec copy,
and the Spec copy is what the format describes: exactly the 120 offsets `(dx, dy)` with
`dy ∈ [0,7]`, `dx ∈ [-7,8]`, `(dy = 0 → dx ≥ 1)`, each once, in order of non-decreasing
Euclidean length. -/
theorem C04_special_distances :
    Jxl.Gen.lz77SpecialDistances = specialDistancesSpec ∧
    specialDistancesSpec.length = 120 ∧ specialDistancesSpec.Nodup ∧
    (∀ e ∈ specialDistancesSpec, 0 ≤ e.2 ∧ e.2 ≤ 7 ∧ -7 ≤ e.1 ∧ e.1 ≤ 8 ∧ (e.2 = 0 → 1 ≤ e.1)) ∧
    specialDistancesSpec.Pairwise (fun a b => a.1 * a.1 + a.2 * a.2 ≤ b.1 * b.1 + b.2 * b.2) := by
  refine ⟨by decide +kernel, rfl, ?_, by decide +kernel, ?_⟩
  · -- the table is strictly increasing in (dx² + dy², |dx|, dx < 0), packed into one number;
    -- both orders are transitive, so only the 119 neighbouring pairs are evaluated
    let key (e : Int × Int) : Int :=
      (e.1 * e.1 + e.2 * e.2) * 32 + 2 * e.1.natAbs + (if e.1 < 0 then 1 else 0)
    let lt (a b : Int × Int) : Prop := key a < key b
    have : Trans lt lt lt := ⟨Int.lt_trans⟩
    have h : specialDistancesSpec.IsChain lt := by decide +kernel
    exact (List.isChain_iff_pairwise.1 h).imp fun hlt heq => by
      rw [heq] at hlt; exact Int.lt_irrefl _ hlt
  · let le (a b : Int × Int) : Prop := a.1 * a.1 + a.2 * a.2 ≤ b.1 * b.1 + b.2 * b.2
    have : Trans le le le := ⟨Int.le_trans⟩
    have h : specialDistancesSpec.IsChain le := by decide +kernel
    exact List.isChain_iff_pairwise.1 h

/-- LZ77 parameters header reads back (all four selectors of both fields). -/
theorem C04_lz77_header_roundtrip (lz : Option Lz77Params)
    (h : ∀ p, lz = some p →
      (p.minSymbol = 224 ∨ p.minSymbol = 512 ∨ p.minSymbol = 4096 ∨
        (8 ≤ p.minSymbol ∧ p.minSymbol < 8 + 2 ^ 15)) ∧
      (3 ≤ p.minLength ∧ p.minLength ≤ 264) ∧ p.lenConf.valid 8 = true) (rest : Bits) :
    parseLz77 (writeLz77 lz ++ rest) = .ok (lz, rest) :=
  parseLz77_writeLz77 lz h rest

/-- Decoding an encoded parse yields its expansion: for any plan with LZ77 enabled, both coders,
any multiplier (special distances via the table regenerated from the source, window clamp, copies
overlapping their own output), any item list valid for the plan (`ItemsOK`: literals below
`min_symbol`, copy lengths ≥ `min_length` and < 2^32, first item not a copy) whose tokens the codes
can carry (`ToksOK`), and any context list with one context per *output* value:
`begin`, one `read_varint_with_multiplier` per context, `finalize` succeed, return exactly
`expandItems mult items`, and consume exactly the encoder's bits. -/
theorem C04_lz77_expand (p : EntropyPlan) (lz : Lz77Params) (hlz : p.lz77 = some lz) (mult : Nat)
    (items : List Item) (ctxs : List Nat) (rest : Bits)
    (hctx : CtxsFor items ctxs) (hitems : ItemsOK p items False)
    (hok : ToksOK p (p.toks items)) :
    ∃ st0 s0 st1,
      (planDecoder p).begin {} (encodeItems p items ++ rest) = .ok (st0, s0) ∧
      (planDecoder p).readSeq mult ctxs st0 s0 = .ok ((expandItems mult items, st1), rest) ∧
      (planDecoder p).finalize st1 = .ok () :=
  stream_roundtrip p mult items ctxs rest hctx hitems hok

example : expandItems 5 [.lit 0 7, .lit 0 9, .copy 0 4 (distCodeFor 5 2), .copy 0 3 1]
    = [7, 9, 7, 9, 7, 9, 9, 9, 9] := by decide

/-- RLE mode against the general path. Under the `as_rle` shape (every copy is "distance code 1",
multiplier ≠ 0, the distance token costs nothing — `DistTokFree`, shown for prefix plans in
`distTok_free_prefix`): (1) the RLE decoder returns one token per item, `Value v` for a literal and
`Repeat len` for a copy, and consumes exactly the encoder's bits; (2) expanding those tokens the way
jxl-modular's `RleState` does gives exactly what the general LZ77 path returns for the same
stream (`C04_lz77_expand`). -/
theorem C04_rle_eq_lz77 (p : EntropyPlan) (lz : Lz77Params) (hlz : p.lz77 = some lz)
    (hfree : DistTokFree p) (mult : Nat) (hm : mult ≠ 0)
    (c0 v0 : Nat) (items : List Item) (rest : Bits)
    (hitems : ItemsOK p (.lit c0 v0 :: items) False) (hd : AllDist1 items)
    (hok : ToksOK p (p.toks (.lit c0 v0 :: items))) :
    (∃ st0 s0 st1,
      (planDecoder p).begin {} (encodeItems p (.lit c0 v0 :: items) ++ rest) = .ok (st0, s0) ∧
      readRleSeq (planDecoder p) lz ((Item.lit c0 v0 :: items).map itemCtx) st0 s0
        = .ok (((Item.lit c0 v0 :: items).map rleTokOf, st1), rest) ∧
      (planDecoder p).finalize st1 = .ok ()) ∧
    rleExpand ((Item.lit c0 v0 :: items).map rleTokOf) 0 = expandItems mult (.lit c0 v0 :: items) := by
  refine ⟨?_, ?_⟩
  · obtain ⟨st0, hb, h0⟩ := begin_ok p _ hok rest
    obtain ⟨x, hseq, hfin⟩ := rle_seq p lz hlz hfree (.lit c0 v0 :: items) st0 rest
      (hitems.imp False.elim) hd hok h0.state
    exact ⟨st0, _, _, hb, hseq, finalize_ok p _ hfin⟩
  · rw [expandItems, List.foldl_cons, show lzStep mult [] (.lit c0 v0) = [v0] from rfl,
      foldl_lzStep_rle mult hm items v0 [] hd, List.reverse_append, List.reverse_reverse]
    rfl

/-- Without LZ77: for any resolved plan (prefix or ANS codes, any cluster map and per-cluster
configs) and any sequence of `(context, value)` with values `< 2^32`, configs of the accepted
shape and tokens the codes can carry: `begin`, one read per symbol, `finalize` succeed on the
encoder's stream, return the values and consume exactly the encoder's bits (`rest` is untouched).
With LZ77 this is `C04_lz77_expand`. -/
theorem C04_entropy_stream_plain (p : EntropyPlan) (hlz : p.lz77 = none) (mult : Nat)
    (syms : List (Nat × Nat)) (rest : Bits)
    (hv : ∀ cv ∈ syms, cv.2 < 2 ^ 32 ∧ CfgOK (p.config (p.clusterOf cv.1)))
    (hok : ToksOK p (p.toks (syms.map fun (c, v) => .lit c v))) :
    ∃ st0 s0 st1,
      (planDecoder p).begin {} (encodeSymbols p syms ++ rest) = .ok (st0, s0) ∧
      (planDecoder p).readSeq mult (syms.map (·.1)) st0 s0 = .ok ((syms.map (·.2), st1), rest) ∧
      (planDecoder p).finalize st1 = .ok () :=
  by
  have hitems : ItemsOK p (syms.map fun (c, v) => Item.lit c v) False := by
    clear hok
    induction syms with
    | nil => trivial
    | cons cv r ih =>
      obtain ⟨h1, hr⟩ := List.forall_mem_cons.1 hv
      exact ⟨⟨h1.1, h1.2, fun lz h => nomatch hlz.symm.trans h⟩, (ih hr).imp False.elim⟩
  have := stream_roundtrip p mult _ _ rest (ctxsFor_lits Prod.fst Prod.snd syms) hitems hok
  rwa [expandItems_lits mult Prod.fst Prod.snd syms] at this

/-- `C04_lz77_expand` and `C04_entropy_stream_plain` in one, with the encoder's own Boolean validity
check as the only hypothesis about the plan (`EntropyPlan.check`, what `jxlmodel c04enc` evaluates before it emits
a stream; it is `decide`-able for concrete plans): whenever the reference encoder accepts a plan
and a parse — and, with LZ77, no copy is 2^32 values or longer — the decoder the plan denotes
returns exactly the encoded sequence from the encoder's stream, consumes exactly the encoder's
bits and passes the final-state check. -/
theorem C04_entropy_roundtrip_checked (p : EntropyPlan) (mult : Nat) (items : List Item)
    (ctxs : List Nat) (rest : Bits) (hctx : CtxsFor items ctxs) (h : p.check items = true)
    (hlen : ∀ i ∈ items, match i with | .copy _ len _ => len < 2 ^ 32 | .lit _ _ => True) :
    ∃ st0 s0 st1,
      (planDecoder p).begin {} (encodeItems p items ++ rest) = .ok (st0, s0) ∧
      (planDecoder p).readSeq mult ctxs st0 s0 = .ok ((expandItems mult items, st1), rest) ∧
      (planDecoder p).finalize st1 = .ok () :=
  check_roundtrip p mult items ctxs rest hctx h hlen

/-- Header composition, nested (entropy-coded, optionally move-to-front) cluster maps included:
if the plan and the plans nested in its cluster map are well formed (`HeaderOKD`: what `check` asks
of sizes, configs, LZ77 parameters and holes, with exactly one config and code per cluster; the
nested plan passes `check` on the cluster ids) and every histogram header reads back as the code it
denotes (`HistRTD`; `histRT_of_check` gives this for each level of a checked plan), then
`Decoder::parse(num_dist)` on the encoder's header returns exactly `planDecoder p`
— LZ77 parameters, cluster map (nested decoder parsed, begun, read, finalized, inverse MTF, hole
check), `use_prefix_code`/`log_alphabet_size`, every `IntegerConfig`, every histogram — and
consumes exactly the header bits. -/
theorem C04_header_roundtrip_partial (p : EntropyPlan) (ok : HeaderOKD planDepth p)
    (hrt : HistRTD planDepth p) (rest : Bits) :
    Decoder.parse p.numDist (encodeHeader p ++ rest) = .ok (planDecoder p, rest) :=
  parse_header_nested planDepth parseFuel p true rest (by decide) ok hrt (by simp)

/-- a concrete plan that satisfies both hypotheses (non-vacuity): one context, one cluster whose
prefix code is the zero-bit code of symbol 2 in an alphabet of 4 -/
def demoPlan : EntropyPlan :=
  { numDist := 1, clusterMap := [0], configs := [⟨0, 0, 0⟩], codes := [.lengths 4 [0, 0, 1, 0] .auto] }

example : HeaderOKD planDepth demoPlan ∧ HistRTD planDepth demoPlan ∧
    demoPlan.check [.lit 0 2, .lit 0 2] = true := by
  refine ⟨⟨⟨rfl, rfl⟩, rfl, by decide, trivial, nofun, by decide, rfl⟩, ⟨?_, trivial⟩, by decide +kernel⟩
  -- the one histogram header reads back because the code passes `codeOk`
  exact List.forall_mem_singleton.2 ⟨4, [0, 0, 1, 0], .auto, rfl, by decide, by decide,
    C04_prefix_histogram_roundtrip 4 [0, 0, 1, 0] .auto [2] (by decide)⟩

/-- Top level, everything composed, with `HistRTD` (each histogram header reads back) as a
hypothesis. For every plan the reference encoder accepts (`check`), well formed as above, every
parse `items` (no copy of 2^32 values or more) and every context list with one context per output
value: `Decoder::parse` on `header ++ stream ++ rest` succeeds, and `begin`, one
`read_varint_with_multiplier` per context, `finalize` return exactly the encoded sequence
(LZ77-expanded), leave exactly `rest`, and pass the final-state check. -/
theorem C04_entropy_roundtrip_partial (p : EntropyPlan) (mult : Nat) (items : List Item)
    (ctxs : List Nat) (rest : Bits) (ok : HeaderOKD planDepth p) (hrt : HistRTD planDepth p)
    (hctx : CtxsFor items ctxs) (h : p.check items = true)
    (hlen : ∀ i ∈ items, match i with | .copy _ len _ => len < 2 ^ 32 | .lit _ _ => True) :
    ∃ d s st0 s0 st1,
      Decoder.parse p.numDist (encodeHeader p ++ encodeItems p items ++ rest) = .ok (d, s) ∧
      d.begin {} s = .ok (st0, s0) ∧
      d.readSeq mult ctxs st0 s0 = .ok ((expandItems mult items, st1), rest) ∧
      d.finalize st1 = .ok () := by
  obtain ⟨st0, s0, st1, hb, hseq, hfin⟩ := C04_entropy_roundtrip_checked p mult items ctxs rest hctx h hlen
  refine ⟨planDecoder p, encodeItems p items ++ rest, st0, s0, st1, ?_, hb, hseq, hfin⟩
  rw [List.append_assoc]
  exact C04_header_roundtrip_partial p ok hrt _

/-- Header, from the encoder's check alone. For every plan the reference encoder accepts for
some parse (`p.check items = true`; `check` is executable): `Decoder::parse(num_dist)` on
`encodeHeader p ++ rest` succeeds, consumes exactly the header, and returns the decoder the plan
denotes — LZ77 parameters, cluster map (simple, or entropy coded by a nested decoder, optionally
move-to-front, up to the nesting depth the format allows), coder kind, every `IntegerConfig`,
every histogram. `check` only asks for *at least* one config and one code per cluster; the surplus
ones are never written, so the decoder is that of the trimmed plan `trimD planDepth p`, which is
`planDecoder p` itself when the lists have exactly one entry per cluster. -/
theorem C04_header_roundtrip (p : EntropyPlan) (items : List Item) (h : p.check items = true)
    (rest : Bits) :
    Decoder.parse p.numDist (encodeHeader p ++ rest) = .ok (planDecoder (trimD planDepth p), rest) ∧
    (p.configs.length = p.numClusters ∧ p.codes.length = p.numClusters →
      planDecoder (trimD planDepth p) = planDecoder p) :=
  ⟨header_roundtrip_of_check p items h rest, planDecoder_trimD planDepth p⟩

/-- a prefix plan whose code needs the complex form (six used symbols, a repeat code) -/
def demoComplexPlan : EntropyPlan :=
  { numDist := 1, clusterMap := [0], configs := [⟨4, 1, 1⟩],
    codes := [.lengths 8 [2, 2, 3, 3, 3, 3, 0, 0] .auto] }

/-- an ANS plan whose histogram needs the general form with an RLE run and omitted position 6 -/
def demoAnsPlan : EntropyPlan :=
  { numDist := 1, clusterMap := [0], coder := .ans 5, configs := [⟨4, 1, 1⟩],
    codes := [.dist [16, 16, 16, 16, 16, 16, 4000] .auto] }

/-- nested plan for a cluster map, with a surplus code -/
def demoInnerPlan : EntropyPlan :=
  { numDist := 1, clusterMap := [0], configs := [⟨4, 1, 1⟩],
    codes := [.lengths 2 [1, 1] .auto, .lengths 2 [1, 1] .auto] }

/-- three contexts, two clusters, the cluster map entropy coded with move-to-front by a nested plan;
a surplus config at the top level and a surplus code in the nested plan (trimmed away) -/
def demoNestedPlan : EntropyPlan :=
  { numDist := 3, clusterMap := [0, 1, 0], clusterInner := some (true, demoInnerPlan),
    configs := [⟨4, 1, 1⟩, ⟨4, 1, 1⟩, ⟨4, 1, 1⟩],
    codes := [.lengths 8 [2, 2, 3, 3, 3, 3, 0, 0] .auto,
              .lengths 8 [2, 2, 3, 3, 3, 3, 0, 0] (.complex false 2)] }

example : demoComplexPlan.check [.lit 0 0, .lit 0 5, .lit 0 3] = true ∧
    demoAnsPlan.check [.lit 0 0, .lit 0 6, .lit 0 6] = true ∧
    demoNestedPlan.check [.lit 0 0, .lit 1 5, .lit 2 3] = true := by
  refine ⟨by decide +kernel, by decide +kernel, by decide +kernel⟩

/-- Top level, everything composed, no open hypothesis. For every plan the reference encoder
accepts (`p.check items = true`), every parse `items` (no copy of 2^32 values or more), every
multiplier and every context list with one context per output value: `Decoder::parse(num_dist)`
on `header ++ stream ++ rest` succeeds, and with the decoder it returns `begin`, one
`read_varint_with_multiplier` per context and `finalize` return exactly the encoded sequence
(LZ77-expanded), leave exactly `rest`, and pass the ANS final-state check. -/
theorem C04_entropy_roundtrip (p : EntropyPlan) (mult : Nat) (items : List Item)
    (ctxs : List Nat) (rest : Bits) (hctx : CtxsFor items ctxs) (h : p.check items = true)
    (hlen : ∀ i ∈ items, match i with | .copy _ len _ => len < 2 ^ 32 | .lit _ _ => True) :
    ∃ d s st0 s0 st1,
      Decoder.parse p.numDist (encodeHeader p ++ encodeItems p items ++ rest) = .ok (d, s) ∧
      d.begin {} s = .ok (st0, s0) ∧
      d.readSeq mult ctxs st0 s0 = .ok ((expandItems mult items, st1), rest) ∧
      d.finalize st1 = .ok () :=
  ⟨_, _, entropy_roundtrip_of_check p mult items ctxs rest hctx h hlen⟩

example : CtxsFor [Item.lit 0 0, .lit 1 5, .lit 2 3] [0, 1, 2] := ⟨_, rfl, _, rfl, _, rfl, rfl⟩

/- The theorems are about the Lean model of `jxl_coding`; model and crate are tied by the
   differential run (`tools/props/c04.py`), which also replays the reference encoder's streams
   through the real decoder. -/

example : (prefixPlan 2 [.lit 0 5, .lit 1 300, .lit 0 5]).check [.lit 0 5, .lit 1 300, .lit 0 5] = true := by
  decide +kernel

end Jxl.Entropy
