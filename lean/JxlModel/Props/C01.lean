import JxlModel.Proofs.Checked
import JxlModel.Gen.C01Pins
import JxlModel.Model.C01Pinned
import JxlModel.Props.C10
import JxlModel.Props.C17
import JxlModel.Props.C18
/-!
# C01 — decoding untrusted bytes is total (Ok or Err, never panic / hang)

What is proved here is totality of *modelled* bookkeeping code in a checked-arithmetic model
(`Outcome.panic` = what a build with overflow checks would do), for all header values the encoding
can express, plus the per-layer totality theorems of other properties re-stated under `C01_`:

* `Frame::parse` validation and the group / TOC entry arithmetic behind it;
* the `LfGlobal` area product (with the witness of the repaired defect, F3);
* MA-tree leaf multiplier arithmetic; hybrid-integer extra-bit count; the `value + 1` root of
  table compilation before its repair (F8);
* container parser: every error is one of the two declared kinds, no panic site reachable, and
  no livelock (C10); ICC command interpreter: fuel never exhausted (C18); jbrd status total on
  headers the repaired parser accepts (C17).

Everything else — the unmodelled majority of the decoder — is covered by the differential
campaign of tools/props/c01.py (testing, not proof); see the evidence file for what it reached.
-/
namespace Jxl.Checked

/-- The Rust functions transcribed in `Model/Checked.lean` still have the text the model was
validated against (regenerated from the current tree on every run). -/
theorem C01_sources_match_pinned : Gen.pins = Pinned.pins := by decide

/-- `Frame::parse`'s validation never panics, whatever the header fields are. -/
theorem C01_frame_validate_total (h : FH) : (frameValidate h).isPanic = false := by
  rcases frameValidate_cases h with e | e
  · rw [e]; rfl
  · rw [e.1]; rfl

/-- For every encodable header that passes `Frame::parse`'s validation, `num_groups`,
`num_lf_groups` and the TOC entry count are computed without overflow; the entry count stays below
`2^31`, so the `entry_count > 65536` rejection in `Toc::parse` compares the true value. -/
theorem C01_group_counts_total (h : FH) (he : h.Encodable) (hv : frameValidate h = .ok ()) :
    (∃ n, numGroups h = .ok n ∧ n ≤ 2 ^ 26 + 2 ^ 24 + 1) ∧
    (∃ n, numLfGroups h = .ok n ∧ n ≤ 2 ^ 26 + 2 ^ 24 + 1) ∧
    (∃ n, tocEntryCount h = .ok n ∧ n < 2 ^ 31) := by
  obtain ⟨_, _, hups, hl, _, _, hp2, _⟩ := he
  have hu : 1 ≤ h.upsampling := by omega
  have hg := groupDim_ge h
  obtain ⟨ng, e1, hngb⟩ := numGroupsLike_ok h "header.rs num_groups" (groupDim h) hg hu hl hv
  obtain ⟨nl, e2, hnlb⟩ :=
    numGroupsLike_ok h "header.rs num_lf_groups" (groupDim h * 8) (by omega) hu hl hv
  change numGroups h = .ok ng at e1
  change numLfGroups h = .ok nl at e2
  refine ⟨⟨ng, e1, hngb⟩, ⟨nl, e2, hnlb⟩, ?_⟩
  unfold tocEntryCount
  rw [e1, bind_ok]
  split
  · exact ⟨1, rfl, by decide⟩
  · -- at most 11 passes: every intermediate sum stays below 2^31
    have h1 : ng * h.numPasses ≤ (2 ^ 26 + 2 ^ 24 + 1) * 11 := Nat.mul_le_mul hngb hp2
    rw [e2, bind_ok, mulU32_ok _ (by unfold u32Max; omega), bind_ok,
      addU32_ok _ (by unfold u32Max; omega), bind_ok, addU32_ok _ (by unfold u32Max; omega),
      bind_ok, addU32_ok _ (by unfold u32Max; omega)]
    exact ⟨_, rfl, by omega⟩

/-- The repaired `LfGlobal` area product cannot overflow for any header `Frame::parse` accepts. -/
theorem C01_lf_global_area_total (h : FH) (hv : frameValidate h = .ok ()) :
    lfGlobalArea h = .ok (h.width * h.height) := by
  obtain ⟨_, _, ha, _, _⟩ := frameValidate_ok h hv
  exact if_pos (Nat.lt_of_le_of_lt ha (by decide))

/-- F3 (before the repair): a 65536×65536 frame crop passes validation and panics in the `u32`
product. -/
theorem C01_lf_global_area_old_witness :
    let h : FH := { width := 65536, height := 65536, upsampling := 1, lfLevel := 0, groupSizeShift := 1,
                    numPasses := 1, ecs := [] }
    frameValidate h = .ok () ∧ lfGlobalAreaOld h = .panic "lf_global.rs:57" := by decide

/-- MA-tree leaf: the multiplier arithmetic never panics, and an accepted multiplier is exactly
`(mul_bits + 1) * 2^mul_log` and fits `u32` (no bits are lost in the shift). -/
theorem C01_ma_multiplier_total (mulLog mulBits : Nat) (hb : mulBits < u32Max) :
    (maMultiplier mulLog mulBits).isPanic = false ∧
    (∀ m, maMultiplier mulLog mulBits = .ok m → m = (mulBits + 1) * 2 ^ mulLog ∧ m < u32Max) := by
  unfold maMultiplier
  by_cases hl : mulLog > 30
  · rw [if_pos hl]
    exact ⟨rfl, nofun⟩
  -- `mul_log ≤ 30`, so `(1 << (31 - mul_log)) - 2` does not underflow
  have h2 : 2 ^ 1 ≤ 2 ^ (31 - mulLog) := Nat.pow_le_pow_right (Nat.le_succ 1) (by omega)
  rw [if_neg hl, subU32_ok _ h2]
  by_cases hm : mulBits > 2 ^ (31 - mulLog) - 2
  · simp only [if_pos hm]
    exact ⟨rfl, nofun⟩
  · -- accepted: `mul_bits + 1 < 2^(31 - mul_log)`, so the shifted value is below `2^31`
    have hlt : mulBits + 1 < 2 ^ (31 - mulLog) := by omega
    have hfit : (mulBits + 1) * 2 ^ mulLog < u32Max := by
      have := Nat.mul_lt_mul_of_pos_right hlt (Nat.two_pow_pos mulLog)
      rw [← Nat.pow_add, Nat.sub_add_cancel (by omega : mulLog ≤ 31)] at this
      exact Nat.lt_trans this (by decide)
    simp only [if_neg hm, addU32_ok _
      (Nat.lt_of_le_of_lt (Nat.le_mul_of_pos_right _ (Nat.two_pow_pos mulLog)) hfit)]
    exact ⟨rfl, fun m h => by cases h; exact ⟨rfl, hfit⟩⟩

/-- Hybrid-integer extra-bit count: the `u32` subtraction cannot underflow once the config
passed `IntegerConfig::parse`, and at most 31 bits are read. -/
theorem C01_uint_extra_bits_total (splitExp msb lsb token : Nat) :
    (uintExtraBits splitExp msb lsb token).isPanic = false ∧
    (∀ n, uintExtraBits splitExp msb lsb token = .ok n → n ≤ 31) := by
  unfold uintExtraBits
  by_cases h1 : msb > splitExp
  · rw [if_pos h1]; exact ⟨rfl, nofun⟩
  rw [if_neg h1]
  by_cases h2 : lsb + msb > splitExp
  · rw [if_pos h2]; exact ⟨rfl, nofun⟩
  rw [if_neg h2]
  by_cases h3 : token < 2 ^ splitExp
  · rw [if_pos h3]
    exact ⟨rfl, fun n h => by cases h; decide⟩
  · -- `lsb + msb ≤ split_exponent` is what `IntegerConfig::parse` checks
    rw [if_neg h3, subU32_ok _ (by omega : msb + lsb ≤ splitExp)]
    refine ⟨rfl, fun n h => ?_⟩
    cases h
    exact Nat.le_of_lt_succ (Nat.mod_lt _ (by decide))

/-- F8 (before the repair): `value + 1` at the root of table compilation panics for
`value = i32::MAX`. -/
theorem C01_compile_root_old_witness : compileRootOld 2147483647 = .panic "ma.rs:514" := by decide

end Jxl.Checked

namespace Jxl.Container
/-- Container parser, any chunking: an error is always one of the two declared kinds — the
`unreachable!` arm and the `- 4` underflow sites are never reached. -/
theorem C01_container_no_panic (chunks : List Bytes) (e : Err)
    (h : (feedChunks init [] chunks).error = some e) : e = .invalidBox ∨ e = .validationFailed :=
  C10_no_panic chunks e h

/-- Container parser: a call that consumed nothing, emitted nothing and reported no error left the
state unchanged and was offered fewer than 16 bytes (no livelock on re-offered input). -/
theorem C01_container_no_livelock (s : PState) (buf : Bytes) (h1 : (feed s buf).error = none)
    (h2 : consumed buf (feed s buf) = 0) (h3 : (feed s buf).events = []) :
    (feed s buf).state = s ∧ buf.length < 16 :=
  C10_no_livelock s buf h1 h2 h3
end Jxl.Container

namespace Jxl.Icc
/-- ICC command interpreter terminates within its fuel on every input (bounded time). -/
theorem C01_icc_decode_terminates (s : List Nat) : decodeIcc s ≠ .error .fuel :=
  C18_fuel_never_exhausted s
end Jxl.Icc

namespace Jxl.JpegBits
/-- `jpeg_reconstruction_status()` cannot panic on headers the repaired jbrd parser accepts. -/
theorem C01_jbrd_status_total (f : Facts) (h : ∀ am ∈ f.app, appMarkerOk am = true) :
    status f ≠ .panic :=
  C17_status_total f h
end Jxl.JpegBits
