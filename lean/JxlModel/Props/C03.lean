import JxlModel.Proofs.Modular
import JxlModel.Proofs.Flatten
import JxlModel.Proofs.PredictorState
import JxlModel.Proofs.TableOld
import JxlModel.Proofs.TransformChain
import JxlModel.Proofs.GroupPartition
/-!
# C03 — lossless Modular images decode to exactly the encoded samples

Layers (DESIGN.md §4 C03):

* token level (`C03_token_roundtrip`): for **every** way of finding leaves (`leafOf`: any tree, any
  flattening, any property vector), every predictor state (incl. any weighted-predictor
  parameters), every previous-channel set and every sample sequence the reference encoder accepts,
  the decoder reproduces the samples exactly and consumes exactly the encoder's tokens; zig-zag
  sign packing (`C03_unpack_pack`);
* transforms in exact integer arithmetic: all 7 RCT types × 6 permutations, and squeeze for
  **every** tendency function (`C03_rct_inv_fwd`, `C03_squeeze_line_inv_fwd`); `C03_wrap_exact`
  is the bridge to the wrapping arithmetic the code runs (identity on in-range values);
* flattened tree = tree, lookup tables included (`C03_flatten_eq_eval`; `C03_flatten_eq_eval_partial`
  is the table-free corollary, no range hypotheses). The model is the repaired code (/repo
  f9ead7c): the range ending at `i32::MAX` fills the whole tail of the table.
  `C03_unrepaired_table_wrong_at_i32max` is the witness of finding F14 on the old fill
  (`Proofs/TableOld.lean`);
* incremental predictor state = neighbours read from the grid (Impl refines Spec):
  `C03_pstate_tracks_grid`, `C03_tracks_neighbors`, `C03_props_impl_eq_spec`,
  `C03_fast_path_in_range`, `C03_record_reads_in_range`. Hence the decoder model and the reference
  encoder, which carry the Impl state, equal the grid decoder / encoder that read everything from
  the samples (`C03_decoder_impl_eq_grid`, `C03_decode_samples_impl_eq_grid`,
  `C03_encoder_impl_eq_grid`), and the grid pair round-trips (`C03_grid_roundtrip`).
  The weighted predictor itself has no independent Spec (property 15 and predictor 6 take its
  output as a parameter on both sides); what is proved is that it is fed the Spec neighbours;
* the whole transform chain (`C03_transform_chain_inv_fwd`; one level down `C03_rct_chan_inv_fwd`,
  `C03_squeeze_chan_inv_fwd`, `C03_squeeze_step_inv_fwd`, `C03_palette_inv_fwd`,
  `C03_transform_inv_fwd`): whenever the reference encoder accepts
  (`forwardAll sb ts pals chans = some coded`), the decoder's `inverseAll sb bitDepth wp ts coded`
  — wrapping arithmetic at the sample width, the channel-list rewriting, the palette expansion with
  its delta pass — gives back `chans`, under the executable hypothesis `chainOk`
  (`Model/Modular/ChainOk.lean`): per transform, on the channel list it is applied to, the touched
  channels exist and their buffers have `w * h` samples, and the values the inverse wraps are
  representable (`rctTripleOk`: the three samples, and `d + f` for RCT types 4/5 — the decoder
  halves that sum after wrapping it; `sqLineOk`: both samples of a pair and their difference;
  palette: nothing). In the pipeline the structural half of `chainOk` follows from
  `transformInfoAll` accepting, leaving only the value conditions `chainRangeOk`
  (`C03_pipeline_roundtrip`), for which one bit of headroom suffices (`C03_headroom_suffices`);
  `encodeFrame` checks the coded channels' dimensions at run time,
  `C03_forward_matches_transform_info` shows the check cannot fail.
  The encoder uses explicit palette entries only (implicit entries `index ≥ nbColours` and delta
  entries `index < nbDeltas` are exercised on the decoder side by coded-domain plans of the
  differential run, not by `forwardOne`).
  **Finding (reference encoder, repaired in `forwardOne`):** the palette search ignored
  `nbDeltas`; with `nbDeltas > 0` it could pick a delta entry, to which the decoder (as the Rust
  `Palette::inverse_inner`) adds a prediction — accepted, but not decoded to the original
  (`C03_palette_forward_needs_nondelta`, replayed on the real decoder). The check's oracle compares
  with `inverseAll` of the coded channels, so the differential run could not see it.
  Both sides use the same sample width `sb`; `encodeFrame` runs the forward transforms at 32 bits
  and the decoder possibly at 16: that step is C12 (`C12_inverseAll_narrow_eq_wide`);
* the group partition (`C03_group_partition_reassembles`, `C03_group_columns_cover`): the
  per-group rectangles `encodeFrame` cuts every non-global channel into, pasted back as the decoded
  pieces are, give back every channel.

Not proved here (tied by the differential run only, see evidence): the composition of these
layers inside `encodeFrame` into one statement `modelDecoded = some chans` (token round trip per
sub-image → group pieces → pasted channels → transform chain); each layer is proved above.
Nor the step from `C03_token_roundtrip` (one `leafOf` on both sides) to `decodeChannel` inverting
`encodeChannel`: they find leaves differently (flattened tree / tree; `C03_flatten_eq_eval` asks for
property values in the `i32` range), and choose the weighted-predictor switch and the previous
channels differently (`flatUsesSC`, `flatMaxPrev` of the flattened tree / `usesProp`, `usesPred`, all
of `prevSame`).
-/
namespace Jxl.Modular

theorem C03_residual_sound (sb : SBits) (leaf : Leaf) (pred v : Int) (tok : Nat)
    (h : encodeResidual sb leaf pred v = some tok) : sampleOf sb leaf pred tok = v := by
  simp only [encodeResidual] at h
  split at h
  · simp at h
  · split at h
    · split at h
      · rename_i hc
        simp at h
        subst h
        simpa using hc.2
      · simp at h
    · simp at h

theorem C03_token_roundtrip (sb : SBits) (leafOf : LeafOf) (prev : List Chan)
    (vs : List Int) (ps : PState) (out : List (Nat × Nat)) (rest : List Nat)
    (h : encodeSamples sb leafOf prev vs ps = some out) :
    ∃ ps', decodeSamples sb leafOf prev vs.length ps (out.map (·.2) ++ rest) = some (vs, rest, ps') := by
  induction vs generalizing ps out with
  | nil =>
    simp [encodeSamples] at h
    subst h
    exact ⟨ps, by simp [decodeSamples]⟩
  | cons v vs ih =>
    simp only [encodeSamples] at h
    split at h
    · simp at h
    · rename_i leaf hleaf
      split at h
      · simp at h
      · rename_i tok htok
        split at h
        · simp at h
        · rename_i out' hout
          simp at h
          subst h
          have hv := C03_residual_sound sb leaf _ v tok htok
          obtain ⟨ps', hps'⟩ := ih (ps.record ps.scPredict v) out' hout
          refine ⟨ps', ?_⟩
          simp only [List.length_cons, decodeSamples, List.map_cons, List.cons_append, hleaf, hv, hps']

/-- Flattened tree = tree (Impl refines Spec), **lookup tables included**. `flatten`: static
pruning on channel / stream / absent previous channels, fused two-level decisions, same-property
decision chains compiled to index tables by `try_compile_to_table` (range bookkeeping, 1022 span
rule, sort, index fill), breadth-first index assignment; `get_leaf`: saturating subtraction and
clamping for tables. The two hypotheses are what the Rust types (`i32`) guarantee. -/
theorem C03_flatten_eq_eval (c s pc : Nat) (t : Tree) (props : Nat → Int)
    (hp : ∀ p, i32Min ≤ props p ∧ props p ≤ i32Max) (hv : t.valuesInI32 = true) :
    getLeaf (flatten c s pc t) props = some (t.evalFor c s pc props) :=
  flatten_getLeaf_eq_evalFor c s pc t props
    (AllSub_imp _ _ (fun _ h => Or.inr ⟨h, hp⟩) t (valuesInI32_sound t hv))

/-- Corollary for trees none of whose subtrees compiles to a lookup table: no range hypotheses. -/
theorem C03_flatten_eq_eval_partial (c s pc : Nat) (t : Tree) (props : Nat → Int)
    (hnt : noTabB c s pc t = true) :
    getLeaf (flatten c s pc t) props = some (t.evalFor c s pc props) :=
  flatten_getLeaf_eq_evalFor c s pc t props
    (AllSub_imp _ _ (fun _ h => Or.inl h) t (noTabB_sound c s pc t hnt))

/-- a chain on property 9 whose root compares with `i32::MAX` (always false: the right child is
taken); all decision values are legal `i32` values -/
def exMaxTree : Tree :=
  .dec 9 i32Max (.leaf { ctx := 0, pred := 0, offset := 0, mul := 1 })
    (.dec 9 (i32Max - 1) (.leaf { ctx := 1, pred := 0, offset := 0, mul := 1 })
      (.dec 9 (i32Max - 2) (.leaf { ctx := 2, pred := 0, offset := 0, mul := 1 })
        (.dec 9 (i32Max - 3) (.leaf { ctx := 3, pred := 0, offset := 0, mul := 1 })
          (.leaf { ctx := 4, pred := 0, offset := 0, mul := 1 }))))

/-- **Finding F14, about the UNREPAIRED code** (`tryCompileOld` / `flattenOld` in
`Proofs/TableOld.lean`: the index fill before /repo f9ead7c; not the current model). For `exMaxTree`
the old fill produced the table `[1, 2, 3, 0, 4]` with base `i32Max - 3`: the range ending at
`i32::MAX` was written to the last entry only (position `ub - lb + 1`), but with `ub = i32::MAX` the
value `i32::MAX` reads position `ub - lb = 3`, which still held the initial 0 — the walk returns to
node 0, the table itself. The model walk runs out of fuel (`none`); the old `FlatMaTree::get_leaf`
had the same table and looped forever (replayed on the real decoder, `corpus/c03/f14_*`). The tree
selects leaf 1. -/
theorem C03_unrepaired_table_wrong_at_i32max :
    ((flattenOld 0 0 0 exMaxTree)[0]?.map FlatNode.tableIndices) = some [1, 2, 3, 0, 4] ∧
      tblIdx i32Max (i32Max - 3) 5 = 3 ∧
      getLeaf (flattenOld 0 0 0 exMaxTree) (fun _ => i32Max) = none ∧
      exMaxTree.evalFor 0 0 0 (fun _ => i32Max) = { ctx := 1, pred := 0, offset := 0, mul := 1 } := by
  decide +kernel

/-- The incremental predictor state tracks the grid: width ≥ 1, any height, any `Int` samples
(`record` never wraps a sample, so no range hypothesis), with or without the weighted predictor
and whatever self-correcting prediction `scp` each `record` is given — in particular the state
`PState.run c wp k` the token decoder and encoder are in (they pass `ps.scPredict`). -/
theorem C03_pstate_tracks_grid (c : Chan) (wp : Option Wp) (hw : 1 ≤ c.w) :
    (PState.reset c.w wp).Tracks c 0 0 ∧
    (∀ (ps : PState) (x y : Nat) (scp : Option ScPred), ps.Tracks c x y →
      (ps.record scp (c.get x y)).Tracks c (nextX c.w x) (nextY c.w x y)) ∧
    (∀ (ps : PState) (k : Nat), PState.ReachedBy c wp ps k → ps.Tracks c (k % c.w) (k / c.w)) ∧
    (∀ k : Nat, (PState.run c wp k).Tracks c (k % c.w) (k / c.w)) :=
  ⟨PState.Tracks.init c wp hw, fun _ _ _ scp h => h.record scp, fun _ _ h => h.tracks hw,
   fun k => (PState.run_reachedBy c wp k).tracks hw⟩

/-- `w`, `n`, `nw` are cached; `nn`, `ne`, `nee`, `ww` go through the checked accessors that read the
two row buffers. -/
theorem C03_tracks_neighbors (ps : PState) (c : Chan) (x y : Nat) (h : ps.Tracks c x y) :
    ps.width = c.w ∧ ps.x = x ∧ ps.y = y ∧
    ps.w = (neighbors c x y).w ∧ ps.n = (neighbors c x y).n ∧ ps.nw = (neighbors c x y).nw ∧
    ps.nn = (neighbors c x y).nn ∧ ps.ne = (neighbors c x y).ne ∧
    ps.nee = (neighbors c x y).nee ∧ ps.ww = (neighbors c x y).ww ∧
    ps.prevGrad = (if x > 0 then gradProp c (x - 1) y else 0) :=
  ⟨h.hwidth, h.hx, h.hy, h.hw, h.hn, h.hnw, h.nn_eq, h.ne_eq, h.nee_eq, h.ww_eq, h.hgrad⟩

/-- All 16 properties: 0..14 from the grid; entry 15 is the weighted predictor's `max_error`, which
the Spec takes as a parameter — the weighted predictor has no second, independent definition, it is
run on the Spec neighbours `N, NW, NE, W, NN`. Every predictor: 0..13, and any other number, which
both sides treat as 13. -/
theorem C03_props_impl_eq_spec (ps : PState) (c : Chan) (x y : Nat) (h : ps.Tracks c x y)
    (scp : Option ScPred) :
    ps.props scp = propsSpec c x y ((scp.map (·.maxError)).getD 0) ∧
    (∀ pred : Nat, predictImpl pred ps scp
      = predictSpec pred (neighbors c x y) ((scp.map (·.prediction)).getD 0)) ∧
    ps.scPredict = ps.sc.map (fun sc =>
      sc.predict (neighbors c x y).n (neighbors c x y).nw (neighbors c x y).ne
        (neighbors c x y).w (neighbors c x y).nn) :=
  ⟨h.props_eq scp, fun pred => h.predict_eq pred scp, h.scPredict_eq⟩

theorem getElem?_eq_some_getD (a : Array Int) (i : Nat) (d : Int) (h : i < a.size) :
    a[i]? = some (a.getD i d) := by
  simp [Array.getD_eq_getD_getElem?, h]

/-- The fast path never reads out of range: for `2 ≤ x`, `x + 2 < width`, `y ≥ 2` — the positions
at which `image.rs` uses `properties::<false>` / `decode_one::<_, false>` — the unchecked
accessors `nn/ne/nee/ww::<false>` index inside the row buffers and return the Spec neighbours. -/
theorem C03_fast_path_in_range (ps : PState) (c : Chan) (x y : Nat) (h : ps.Tracks c x y)
    (hx2 : 2 ≤ x) (hxr : x + 2 < c.w) (hy2 : 2 ≤ y) :
    ps.nnF = some (neighbors c x y).nn ∧ ps.neF = some (neighbors c x y).ne ∧
    ps.neeF = some (neighbors c x y).nee ∧ ps.wwF = some (neighbors c x y).ww := by
  have hcs : ps.currRow.size = c.w := h.currSize.trans (if_neg (by omega))
  have hps : ps.prevRow.size = c.w := h.prevSize.trans (if_neg (by omega))
  have hx1 : x + 1 < c.w := by omega
  have hy0 : y > 0 := by omega
  refine ⟨?_, ?_, ?_, ?_⟩
  · unfold PState.nnF
    rw [h.hx, getElem?_eq_some_getD _ _ 0 (by omega), h.currHi x (Nat.le_refl _) h.hxw hy2, nb_nn,
      if_pos (by omega)]
  · unfold PState.neF
    rw [h.hx, getElem?_eq_some_getD _ _ 0 (by omega), h.prevGet _ hx1 hy0, nb_ne,
      if_pos ⟨hx1, hy0⟩]
  · unfold PState.neeF
    rw [h.hx, getElem?_eq_some_getD _ _ 0 (by omega), h.prevGet _ hxr hy0, nb_nee,
      if_pos ⟨hxr, hy0⟩]
  · unfold PState.wwF
    rw [h.hx, if_pos hx2, getElem?_eq_some_getD _ _ 0 (by omega), h.currLo _ (by omega), nb_ww,
      if_pos (by omega)]

/-- The direct indexings of the Rust that the model writes with `getD` are in range under the
invariant: `curr_row[x - 2]` in `ww::<true>`, `prev_row[x + 1]` in `Properties::record` (not at
the last column, `prev_row` non-empty) and `prev_row[0]` after the swap at a row end. -/
theorem C03_record_reads_in_range (ps : PState) (c : Chan) (x y : Nat) (h : ps.Tracks c x y) :
    (2 ≤ ps.x → ps.x - 2 < ps.currRow.size) ∧
    (ps.x + 1 < ps.width → ps.prevRow.isEmpty = false → ps.x + 1 < ps.prevRow.size) ∧
    (∀ v : Int, 0 < (if ps.x < ps.currRow.size then ps.currRow.setIfInBounds ps.x v
                else ps.currRow.push v).size) := by
  have h1 := h.currSize
  have h2 := h.prevSize
  have h3 := h.hxw
  have hx := h.hx
  have hwidth := h.hwidth
  refine ⟨fun hx2 => ?_, fun hx1 hne => ?_, fun v => ?_⟩
  · split at h1 <;> omega
  · have hy : y ≠ 0 := fun hy => by simp [h.prevRow_isEmpty.2 hy] at hne
    rw [if_neg hy] at h2
    omega
  · show 0 < (ps.stored v).size
    rw [h.stored_size]
    split <;> omega

/-- The sample loop that carries the Impl predictor state is the grid loop, for every leaf-selection
function and starting anywhere (`acc`: the samples decoded before). -/
theorem C03_decode_samples_impl_eq_grid (sb : SBits) (leafOf : LeafOf) (prev : List Chan)
    (w h : Nat) (hw : 1 ≤ w) (n : Nat) (acc : Array Int) (ps : PState) (toks : List Nat)
    (ht : ps.Tracks (partialChan w h acc) (acc.size % w) (acc.size / w)) :
    (decodeSamples sb leafOf prev n ps toks).map (fun r => (acc ++ r.1.toArray, r.2.1, r.2.2.sc))
      = decodeGrid sb leafOf prev w h n acc ps.sc toks := by
  induction n generalizing acc ps toks with
  | zero => simp [decodeSamples, decodeGrid]
  | succ n ih =>
    simp only [decodeSamples, decodeGrid]
    rw [ht.props_eq, ht.hx, ht.hy]
    simp only [ht.predict_eq]
    rw [ht.scPredict_eq]
    generalize leafOf _ = L
    cases L with
    | none => cases toks <;> rfl
    | some leaf =>
      cases toks with
      | nil => rfl
      | cons tok rest =>
        simp only []
        generalize sampleOf _ _ _ _ = v
        have := ih _ _ rest (ht.push hw ps.scPredict v)
        rw [PState.record_sc, ht.scPredict_eq] at this
        rw [← this]
        generalize decodeSamples _ _ _ _ _ _ = D
        cases D with
        | none => rfl
        | some r =>
          obtain ⟨vs, t, p⟩ := r
          simp

/-- The decoder model (Impl predictor state) is the grid decoder (Spec), which keeps no predictor
state except the weighted predictor's and at each sample reads position, neighbours, properties
and prediction from the samples decoded so far. (`decodeChannels` calls `decodeChannel` only for
`info.w ≠ 0`.) -/
theorem C03_decoder_impl_eq_grid (sb : SBits) (tree : Tree) (wp : Wp) (chanIdx stream : Nat)
    (info : ChanInfo) (prevSame : List Chan) (tokens : List Nat) (hw : 1 ≤ info.w) :
    decodeChannel sb tree wp chanIdx stream info prevSame tokens
      = decodeChannelGrid sb tree wp chanIdx stream info prevSame tokens := by
  unfold decodeChannel decodeChannelGrid
  simp only []
  generalize (if flatUsesSC _ = true then some wp else none) = wpo
  have := C03_decode_samples_impl_eq_grid sb
    (fun props => getLeaf (flatten chanIdx stream prevSame.length tree) props)
    (prevSame.take (flatMaxPrev (flatten chanIdx stream prevSame.length tree)))
    info.w info.h hw (info.w * info.h) #[] (PState.reset info.w wpo) tokens (PState.ReachedBy.init.tracks hw)
  rw [show Option.map (ScState.new info.w) wpo = (PState.reset info.w wpo).sc from rfl, ← this]
  generalize decodeSamples _ _ _ _ _ _ = D
  cases D with
  | none => rfl
  | some r =>
    obtain ⟨vs, t, p⟩ := r
    simp

theorem C03_encoder_impl_eq_grid (sb : SBits) (tree : Tree) (wp : Wp) (chanIdx stream : Nat)
    (c : Chan) (prevSame : List Chan) (hw : 1 ≤ c.w) (hsz : c.data.size = c.w * c.h) :
    encodeChannel sb tree wp chanIdx stream c prevSame
      = encodeGrid sb (specLeafOf tree chanIdx stream prevSame.length) prevSame c (c.w * c.h) 0
          ((if tree.usesProp 15 || tree.usesPred 6 then some wp else none).map
            (ScState.new c.w)) := by
  exact encodeSamples_eq_encodeGrid sb _ prevSame c hw (c.w * c.h) 0 _ (by omega)
    (PState.ReachedBy.init.tracks hw)

/-- Round trip stated on the Spec side only. -/
theorem C03_grid_roundtrip (sb : SBits) (leafOf : LeafOf) (prev : List Chan) (c : Chan)
    (wpo : Option Wp) (out : List (Nat × Nat)) (rest : List Nat)
    (hw : 1 ≤ c.w) (hsz : c.data.size = c.w * c.h)
    (h : encodeGrid sb leafOf prev c (c.w * c.h) 0 (wpo.map (ScState.new c.w)) = some out) :
    ∃ sc', decodeGrid sb leafOf prev c.w c.h (c.w * c.h) #[] (wpo.map (ScState.new c.w))
      (out.map (·.2) ++ rest) = some (c.data, rest, sc') := by
  have he : encodeSamples sb leafOf prev c.data.toList (PState.reset c.w wpo) = some out :=
    (encodeSamples_eq_encodeGrid sb leafOf prev c hw _ 0 _ (by omega)
      (PState.ReachedBy.init.tracks hw)).trans h
  obtain ⟨ps', hd⟩ := C03_token_roundtrip sb leafOf prev c.data.toList _ out rest he
  have hg := C03_decode_samples_impl_eq_grid sb leafOf prev c.w c.h hw c.data.toList.length #[]
    (PState.reset c.w wpo) (out.map (·.2) ++ rest) (PState.ReachedBy.init.tracks hw)
  rw [hd] at hg
  refine ⟨ps'.sc, ?_⟩
  rw [show c.w * c.h = c.data.toList.length by simp [hsz],
    show Option.map (ScState.new c.w) wpo = (PState.reset c.w wpo).sc from rfl, ← hg]
  simp

theorem C03_unpack_pack (v : Int) : unpackSigned (packSigned v) = v := by
  unfold unpackSigned packSigned
  simp only [beq_iff_eq]
  by_cases h : v ≥ 0
  · rw [if_pos h, if_pos (by omega)]
    omega
  · rw [if_neg h, if_neg (by omega)]
    omega

/-- All RCT types (0..6, and anything else behaves as in the code) and permutations:
inverse ∘ forward = identity in exact integer arithmetic. -/
theorem C03_rct_inv_fwd (ty perm : Nat) (t : Int × Int × Int) :
    rctInvPermute perm (rctInvT id ty (rctFwdT ty (rctFwdPermute perm t))) = t := by
  rw [rct_sample_inv]
  exact rct_permute_inv perm t

theorem C03_squeeze_line_inv_fwd (T : Int → Int → Int → Int) (line : List Int) :
    unsqueezeLineG id T (squeezeLineG T line).1 (squeezeLineG T line).2 = line := by
  unfold unsqueezeLineG squeezeLineG
  exact unsqueeze_squeeze_go T line _

theorem C03_wrap_exact (b : Nat) (v : Int) (hb : 0 < b)
    (h1 : -(2 : Int) ^ (b - 1) ≤ v) (h2 : v < (2 : Int) ^ (b - 1)) : wrap b v = v :=
  wrap_eq_self b v hb h1 h2

/-! Non-vacuity: a concrete channel with a two-level tree, the gradient and the weighted
predictor, encodes; decoding the tokens gives the samples back. -/
def exTree : Tree :=
  .dec 9 3 (.leaf { ctx := 0, pred := 5, offset := 0, mul := 1 })
    (.dec 3 1 (.leaf { ctx := 1, pred := 6, offset := 1, mul := 1 })
              (.leaf { ctx := 2, pred := 13, offset := 0, mul := 1 }))

def exChan : Chan := { w := 4, h := 3, data := #[5, 9, 200, 7, 0, 255, 13, 13, 90, 91, 92, 1] }

example : (encodeChannel 32 exTree {} 0 0 exChan []).isSome = true := by decide +kernel

example :
    (match encodeChannel 32 exTree {} 0 0 exChan [] with
     | some toks => (decodeChannel 32 exTree {} 0 0 { w := 4, h := 3, hshift := 0, vshift := 0 } []
          (toks.map (·.2))).map (·.1.data.toList)
     | none => none) = some exChan.data.toList := by decide +kernel

/-! Non-vacuity of the predictor-state theorems on the 4x3 channel: the hypotheses are
satisfiable (a state inside row 1 at `(2, 1)`, one at the last column, one on the third row, with
and without the weighted predictor), and the conclusions are checked by
evaluation on the same states. -/
example : (PState.run exChan (some {}) 6).Tracks exChan 2 1 :=
  (C03_pstate_tracks_grid exChan (some {}) (by decide)).2.2.2 6
example : (PState.run exChan none 11).Tracks exChan 3 2 :=
  (C03_pstate_tracks_grid exChan none (by decide)).2.2.2 11
example : PState.ReachedBy exChan none
    (((PState.reset 4 none).record none 5).record (some default) 9) 2 :=
  (PState.ReachedBy.init.step none).step (some default)
def PState.obs (ps : PState) : Nat × Nat × List Int :=
  (ps.x, ps.y, [ps.w, ps.n, ps.nw, ps.nn, ps.ne, ps.nee, ps.ww, ps.prevGrad])
def Nb.obs (nb : Nb) : List Int := [nb.w, nb.n, nb.nw, nb.nn, nb.ne, nb.nee, nb.ww]
def PState.obsF (ps : PState) : List (Option Int) := [ps.nnF, ps.neF, ps.neeF, ps.wwF]
example : (PState.run exChan none 6).obs = (2, 1, [255, 200, 9, 200, 7, 7, 0, 4]) := by
  decide +kernel
example : (neighbors exChan 2 1).obs = [255, 200, 9, 200, 7, 7, 0] := by decide +kernel
example : (PState.run exChan (some {}) 10).props (PState.run exChan (some {}) 10).scPredict
    = [0, 0, 2, 2, 13, 91, 13, 91, -254, -151, -164, 242, 0, -187, 1, 1514] := by decide +kernel
example : propsSpec exChan 2 2 1514
    = [0, 0, 2, 2, 13, 91, 13, 91, -254, -151, -164, 242, 0, -187, 1, 1514] := by decide +kernel
/-- the fast path needs width ≥ 5: a 5x3 channel, position `(2, 2)` -/
def exChan5 : Chan :=
  { w := 5, h := 3, data := #[5, 9, 200, 7, 1, 0, 255, 13, 13, 2, 90, 91, 92, 1, 3] }
example : (PState.run exChan5 none 12).Tracks exChan5 2 2 ∧ 2 ≤ 2 ∧ 2 + 2 < exChan5.w ∧ 2 ≤ 2 :=
  ⟨(C03_pstate_tracks_grid exChan5 none (by decide)).2.2.2 12, by decide, by decide, by decide⟩
example : (PState.run exChan5 none 12).obsF = [some 200, some 13, some 2, some 90] := by
  decide +kernel
example : (neighbors exChan5 2 2).obs = [91, 13, 255, 200, 13, 2, 90] := by decide +kernel

/-! Non-vacuity of the grid encoder / decoder theorems: the 4x3 channel with the two-level tree
(gradient, weighted and predictor 13 leaves) is well-formed, the grid encoder accepts it, and the
grid decoder returns its samples. -/
example : 1 ≤ exChan.w ∧ exChan.data.size = exChan.w * exChan.h := by decide
example : (encodeGrid 32 (specLeafOf exTree 0 0 0) [] exChan 12 0
    ((some ({} : Wp)).map (ScState.new 4))).isSome = true := by decide +kernel
example :
    (match encodeGrid 32 (specLeafOf exTree 0 0 0) [] exChan 12 0 ((some ({} : Wp)).map (ScState.new 4)) with
     | some toks => (decodeChannelGrid 32 exTree {} 0 0 { w := 4, h := 3, hshift := 0, vshift := 0 } []
          (toks.map (·.2))).map (·.1.data.toList)
     | none => none) = some exChan.data.toList := by decide +kernel
example : (PState.run exChan (some {}) 5).Tracks
    (partialChan 4 3 #[5, 9, 200, 7, 0]) ((#[5, 9, 200, 7, 0] : Array Int).size % 4)
    ((#[5, 9, 200, 7, 0] : Array Int).size / 4) :=
  ((C03_pstate_tracks_grid exChan (some {}) (by decide)).2.2.2 5).congr rfl (by
    intro i j hi hb
    have hi' : i < 4 := hi
    have hb' : j < 1 ∨ (j = 1 ∧ i < 1) := hb
    have : (i = 0 ∨ i = 1 ∨ i = 2 ∨ i = 3) ∧ (j = 0 ∨ j = 1) := by omega
    rcases this with ⟨rfl | rfl | rfl | rfl, rfl | rfl⟩ <;> first | rfl | omega)

/-- the hypothesis of `C03_flatten_eq_eval_partial` for the two-level tree -/
example : noTabB 0 0 0 exTree = true := by decide +kernel

/-! Non-vacuity of `C03_flatten_eq_eval`: a chain of five decisions on property 9 (and a nested
decision on property 3) compiles to a lookup table; the hypotheses hold and the walk over the
flattened array is evaluated. -/
def exTabTree : Tree :=
  .dec 9 10 (.leaf { ctx := 0, pred := 5, offset := 0, mul := 1 })
    (.dec 9 5 (.leaf { ctx := 1, pred := 5, offset := 0, mul := 1 })
      (.dec 9 0 (.dec 3 2 (.leaf { ctx := 2, pred := 5, offset := 0, mul := 1 })
                          (.leaf { ctx := 6, pred := 4, offset := 0, mul := 1 }))
        (.dec 9 (-5) (.leaf { ctx := 3, pred := 5, offset := 0, mul := 1 })
          (.dec 9 (-10) (.leaf { ctx := 4, pred := 5, offset := 0, mul := 1 })
                        (.leaf { ctx := 5, pred := 5, offset := 0, mul := 1 })))))

def isTableNode : FlatNode → Bool
  | .table _ _ _ => true
  | _ => false

example : exTabTree.valuesInI32 = true := by decide +kernel
example : noTabB 0 0 0 exTabTree = false := by decide +kernel
example : (flatten 0 0 0 exTabTree)[0]?.map isTableNode = some true := by decide +kernel
example : getLeaf (flatten 0 0 0 exTabTree) (fun k => if k = 9 then 3 else 7)
    = some { ctx := 2, pred := 5, offset := 0, mul := 1 } := by decide +kernel
example : getLeaf (flatten 0 0 0 exTabTree) (fun k => if k = 9 then 3 else 1)
    = some { ctx := 6, pred := 4, offset := 0, mul := 1 } := by decide +kernel
example : getLeaf (flatten 0 0 0 exTabTree) (fun k => if k = 9 then -2 else 1)
    = some { ctx := 3, pred := 5, offset := 0, mul := 1 } := by decide +kernel
example : getLeaf (flatten 0 0 0 exTabTree) (fun _ => i32Min)
    = some { ctx := 5, pred := 5, offset := 0, mul := 1 } := by decide +kernel
example : getLeaf (flatten 0 0 0 exTabTree) (fun _ => i32Max)
    = some { ctx := 0, pred := 5, offset := 0, mul := 1 } := by decide +kernel
/-! The repaired table for a root value `i32::MAX` (the F14 witness tree): `[1, 2, 3, 4, 4]`; the
hypotheses of `C03_flatten_eq_eval` hold and the walk gives the tree's leaf. -/
example : exMaxTree.valuesInI32 = true := by decide +kernel
example : ((flatten 0 0 0 exMaxTree)[0]?.map FlatNode.tableIndices) = some [1, 2, 3, 4, 4] := by
  decide +kernel
example : getLeaf (flatten 0 0 0 exMaxTree) (fun _ => i32Max)
    = some (exMaxTree.evalFor 0 0 0 (fun _ => i32Max)) := by decide +kernel
example : getLeaf (flatten 0 0 0 exMaxTree) (fun _ => i32Max)
    = some { ctx := 1, pred := 0, offset := 0, mul := 1 } := by decide +kernel
example : getLeaf (flatten 0 0 0 exMaxTree) (fun _ => i32Max - 1)
    = some { ctx := 2, pred := 0, offset := 0, mul := 1 } := by decide +kernel
example : getLeaf (flatten 0 0 0 exMaxTree) (fun _ => i32Min)
    = some { ctx := 4, pred := 0, offset := 0, mul := 1 } := by decide +kernel
/-- the old and the repaired flattening agree away from `i32::MAX` root values -/
example : getLeaf (flattenOld 0 0 0 exTabTree) (fun k => if k = 9 then 3 else 1)
    = getLeaf (flatten 0 0 0 exTabTree) (fun k => if k = 9 then 3 else 1) := by decide +kernel

example : (squeezeLineG (tendency 32) [10, 3, 7, 7, 250, 0, 4]).1 = [7, 7, 125, 4] := by decide +kernel
example : unsqueezeLine 32 (squeezeLine 32 [10, 3, 7, 7, 250, 0, 4]).1 (squeezeLine 32 [10, 3, 7, 7, 250, 0, 4]).2
    = [10, 3, 7, 7, 250, 0, 4] := by decide +kernel

/-- One RCT on three whole channels: all 42 `rct_type`s, wrapping arithmetic at the sample width.
Hypothesis `rctChanOk`: equally many samples, every (permuted) triple `rctTripleOk`. -/
theorem C03_rct_chan_inv_fwd (sb : SBits) (t : Nat) (x y z : Chan)
    (h : rctChanOk sb t x y z = true) :
    rctInverse sb t (rctForward t x y z).1 (rctForward t x y z).2.1 (rctForward t x y z).2.2
      = (x, y, z) := by
  simp only [rctChanOk, rctRangeOk, Bool.and_eq_true, beq_iff_eq, List.all_eq_true, List.mem_range] at h
  obtain ⟨⟨hy, hz⟩, hall⟩ := h
  rw [rctForward_eq]
  unfold rctInverse
  simp only [List.size_toArray, List.length_map, List.length_range, List.map_map]
  have key : ∀ i, i < x.data.size →
      rctInvPermute (t / 7) (rctInvSample sb (t % 7)
        (((List.range x.data.size).map fun i => (rctFwdAt t x y z i).1).toArray.getD i 0)
        (((List.range x.data.size).map fun i => (rctFwdAt t x y z i).2.1).toArray.getD i 0)
        (((List.range x.data.size).map fun i => (rctFwdAt t x y z i).2.2).toArray.getD i 0))
      = (x.data.getD i 0, y.data.getD i 0, z.data.getD i 0) := by
    intro i hi
    simp only [getD_toArray, getD_map_range _ _ _ _ hi]
    have := rct_sample_inv_wrap sb (t % 7) _ (hall i hi)
    unfold rctInvT at this
    unfold rctFwdAt rctInvSample
    rw [this, rct_permute_inv]
  exact Prod.ext (Chan.with_data x _ rfl fun i hi => by simp only [Function.comp, key i hi])
    (Prod.ext (Chan.with_data y _ hy.symm fun i hi => by simp only [Function.comp, key i hi])
      (Chan.with_data z _ hz.symm fun i hi => by simp only [Function.comp, key i hi]))

theorem inverseOne_forwardOne_rct (sb : SBits) (bitDepth : Nat) (wp : Wp) (chans coded : List Chan)
    (pal : Option Chan) (b t : Nat) (hok : stepOk sb chans (.rct b t) = true)
    (h : forwardOne sb chans pal (.rct b t) = some coded) :
    inverseOne sb bitDepth wp coded (.rct b t) = chans := by
  rcases Nat.lt_or_ge (b + 2) chans.length with hlt | hge
  · obtain ⟨L, M, R, rfl, rfl, hM⟩ := exists_window (show b + 3 ≤ chans.length from hlt)
    match M, hM with
    | [x, y, z], _ =>
      simp [stepOk] at hok
      simp [forwardOne] at h
      subst h
      simp [inverseOne, C03_rct_chan_inv_fwd sb t x y z hok]
  · simp [stepOk, List.getElem?_eq_none hge] at hok

/-- One squeeze of a whole channel, horizontal or vertical, any size (odd, 1, 0 included).
Hypothesis `sqChanOk`: buffer of `w * h` samples, every row / column `sqLineOk`. -/
theorem C03_squeeze_chan_inv_fwd (sb : SBits) (hz : Bool) (c : Chan) (h : sqChanOk sb hz c = true) :
    unsqueezeChan sb hz (squeezeChan sb hz c).1 (squeezeChan sb hz c).2 = c := by
  simp only [sqChanOk, sqChanLinesOk, Bool.and_eq_true] at h
  obtain ⟨hwf, hlines⟩ := h
  cases hz with
  | true =>
    simp only [if_true, List.all_eq_true, List.mem_range] at hlines
    simp only [squeezeChan, unsqueezeChan, if_true, Chan.ofRows_w, Chan.ofRows_h, List.length_map,
      List.length_range]
    rw [unsqueeze_squeeze_lines sb Chan.ofRows Chan.row (fun k ls i h hi => Chan.row_ofRows ls k h i hi)
      c.row c.h c.w (Chan.row_length c) hlines]
    have : (c.w + 1) / 2 + c.w / 2 = c.w := by omega
    rw [this]
    exact Chan.ofRows_rows c hwf
  | false =>
    simp only [Bool.false_eq_true, if_false, List.all_eq_true, List.mem_range] at hlines
    simp only [squeezeChan, unsqueezeChan, Bool.false_eq_true, if_false, Chan.ofCols_w, Chan.ofCols_h,
      List.length_map, List.length_range]
    rw [unsqueeze_squeeze_lines sb Chan.ofCols Chan.col (fun k ls i h hi => Chan.col_ofCols ls k h i hi)
      c.col c.w c.h (Chan.col_length c) hlines]
    have : (c.h + 1) / 2 + c.h / 2 = c.h := by omega
    rw [this]
    exact Chan.ofCols_cols c hwf

theorem unsqueeze_squeeze_chans (sb : SBits) (hz : Bool) (M : List Chan) (n : Nat) (hn : M.length = n)
    (hall : ∀ c ∈ M, sqChanOk sb hz c = true) :
    (List.range n).map (fun i => unsqueezeChan sb hz
      ((M.map fun c => (squeezeChan sb hz c).1).getD i default)
      ((M.map fun c => (squeezeChan sb hz c).2).getD i default)) = M := by
  apply List.ext_getElem
  · simp [hn]
  · intro i h1 h2
    simp only [List.getElem_map, List.getElem_range, List.getD_eq_getElem?_getD, List.getElem?_map,
      List.getElem?_eq_getElem h2, Option.map_some, Option.getD_some]
    exact C03_squeeze_chan_inv_fwd sb hz M[i] (hall _ (List.getElem_mem h2))

/-- One squeeze step on the channel list (`squeezeFwdStep` is the body of `forwardOne`'s fold,
`squeezeInvStep` that of `inverseOne`'s). -/
theorem C03_squeeze_step_inv_fwd (sb : SBits) (chans : List Chan) (sp : SqueezeParam)
    (h : sqStepOk sb chans sp = true) :
    squeezeInvStep sb (squeezeFwdStep sb chans sp) sp = chans := by
  simp only [sqStepOk, Bool.and_eq_true, decide_eq_true_eq, List.all_eq_true] at h
  obtain ⟨hlen, hall⟩ := h
  have hMl : ((chans.drop sp.beginC).take sp.numC).length = sp.numC := by simp; omega
  rw [squeezeFwdStep_eq sb chans sp hlen, squeezeInvStep_splice sb sp _ _ _ _ (by simp; omega)
    (by rw [List.length_map, hMl]) (by rw [List.length_map, hMl]),
    unsqueeze_squeeze_chans sb sp.horizontal _ _ hMl hall]
  exact take_drop_split chans _ _

theorem squeeze_fold_inv_fwd (sb : SBits) (ps : List SqueezeParam) (chans : List Chan)
    (h : sqStepsOk sb ps chans = true) :
    ps.reverse.foldl (squeezeInvStep sb) (ps.foldl (squeezeFwdStep sb) chans) = chans := by
  induction ps generalizing chans with
  | nil => rfl
  | cons sp ps ih =>
    simp only [sqStepsOk, Bool.and_eq_true] at h
    simp only [List.foldl_cons, List.reverse_cons, List.foldl_append, List.foldl_nil]
    rw [ih _ h.2, C03_squeeze_step_inv_fwd sb chans sp h.1]

theorem inverseOne_forwardOne_squeeze (sb : SBits) (bitDepth : Nat) (wp : Wp) (chans coded : List Chan)
    (pal : Option Chan) (ps : List SqueezeParam) (hok : stepOk sb chans (.squeeze ps) = true)
    (h : forwardOne sb chans pal (.squeeze ps) = some coded) :
    inverseOne sb bitDepth wp coded (.squeeze ps) = chans := by
  rw [forwardOne_squeeze_eq_fold] at h
  simp only [Option.some.injEq] at h
  subst h
  exact squeeze_fold_inv_fwd sb ps chans hok

/-- Palette, one pixel: the index the encoder's search returns is an explicit entry that is not a
delta entry, so the decoder's `paletteValue` of it is the pixel's sample. -/
theorem C03_palette_chosen_index_value (sb : SBits) (pal : Chan) (srcs : List Chan)
    (n nbc nbd bitDepth x y k : Nat) (h : palFind pal srcs n nbc nbd x y = some k) :
    nbd ≤ k ∧ k < nbc ∧
      ∀ c, c < n → paletteValue sb pal nbc bitDepth (k : Int) c = (srcs.getD c default).get x y := by
  obtain ⟨h1, h2, h3⟩ := palFind_some h
  exact ⟨h1, h2, fun c hc => by rw [paletteValue_explicit sb pal nbc bitDepth k c h2, h3 c hc]⟩

theorem C03_transform_inv_fwd (sb : SBits) (bitDepth : Nat) (wp : Wp) (chans coded : List Chan)
    (pal : Option Chan) (t : Transform) (hok : stepOk sb chans t = true)
    (h : forwardOne sb chans pal t = some coded) :
    inverseOne sb bitDepth wp coded t = chans := by
  cases t with
  | rct b ty => exact inverseOne_forwardOne_rct sb bitDepth wp chans coded pal b ty hok h
  | palette b n nbc nbd dp => exact inverseOne_forwardOne_palette sb bitDepth wp chans coded pal b n nbc nbd dp hok h
  | squeeze ps => exact inverseOne_forwardOne_squeeze sb bitDepth wp chans coded pal ps hok h

/-- One palette transform in the pipeline (`transformInfo` accepts, dimensions match, buffers
well-formed): no hypothesis on sample values. -/
theorem C03_palette_inv_fwd (sb : SBits) (bitDepth : Nat) (wp : Wp) (cl cl' : ChanList)
    (b n nbc nbd dp : Nat) (t' : Transform) (chans coded : List Chan) (pal : Option Chan)
    (hti : transformInfo cl (.palette b n nbc nbd dp) = .ok (cl', t'))
    (hd : dimsMatch chans cl.info = true) (hwf : allWf chans = true)
    (h : forwardOne sb chans pal t' = some coded) :
    inverseOne sb bitDepth wp coded t' = chans := by
  obtain ⟨rfl, hok, _⟩ := palette_step_of_info sb pal hti (fits_iff.mpr ⟨hd, hwf⟩)
  exact C03_transform_inv_fwd sb bitDepth wp chans coded pal _ hok h

/-- **The whole chain.** For every sample width, bit depth, weighted-predictor header, every list
of resolved transforms, palette tables and channels: if the reference encoder accepts
(`forwardAll … = some coded`) and `chainOk` holds, the decoder's inverse chain returns exactly the
original channels. -/
theorem C03_transform_chain_inv_fwd (sb : SBits) (bitDepth : Nat) (wp : Wp) (ts : List Transform)
    (pals chans coded : List Chan) (hok : chainOk sb ts pals chans = true)
    (h : forwardAll sb ts pals chans = some coded) :
    inverseAll sb bitDepth wp ts coded = chans := by
  induction ts generalizing pals chans with
  | nil =>
    simp only [forwardAll, Option.some.injEq] at h
    subst h
    rfl
  | cons t ts ih =>
    rw [forwardAll_cons] at h
    rw [chainOk_cons, Bool.and_eq_true] at hok
    cases hf : forwardOne sb chans (palSplit t pals).1 t with
    | none => rw [hf] at h; simp at h
    | some chans' =>
      rw [hf] at h hok
      simp only at h hok
      rw [inverseAll_cons, ih _ _ hok.2 h]
      exact C03_transform_inv_fwd sb bitDepth wp chans chans' _ t hok.1 hf

/-- Chains of RCTs only (any number, overlapping channel ranges allowed): the instance of
`C03_transform_chain_inv_fwd` for `ts = [rct b₁ t₁, rct b₂ t₂, …]`; no palette table is consumed. -/
theorem C03_rct_chain_inv_fwd (sb : SBits) (bitDepth : Nat) (wp : Wp) (bts : List (Nat × Nat))
    (pals chans coded : List Chan)
    (hok : chainOk sb (bts.map fun p => Transform.rct p.1 p.2) pals chans = true)
    (h : forwardAll sb (bts.map fun p => Transform.rct p.1 p.2) pals chans = some coded) :
    inverseAll sb bitDepth wp (bts.map fun p => Transform.rct p.1 p.2) coded = chans :=
  C03_transform_chain_inv_fwd sb bitDepth wp _ pals chans coded hok h

/-- Channel bookkeeping. `transformInfoAll` returns the list `cl'` the decoder decodes channels for,
and the resolved transforms `ts'` (default squeeze parameters filled in); `palTablesOk`: every
palette table is a well-formed `nbColours × numC` grid. The channels the forward transforms produce
have exactly the dimensions of `cl'` (as many, same order: the palette meta channel in front,
squeeze residuals after their averages or at the end). -/
theorem C03_forward_matches_transform_info (sb : SBits) (ts : List Transform) (cl cl' : ChanList)
    (ts' : List Transform) (pals chans coded : List Chan)
    (hti : transformInfoAll cl ts = .ok (cl', ts'))
    (hd : dimsMatch chans cl.info = true) (hwf : allWf chans = true)
    (hpals : palTablesOk ts' pals = true)
    (hf : forwardAll sb ts' pals chans = some coded) :
    dimsMatch coded cl'.info = true ∧ allWf coded = true :=
  fits_iff.mp ((chain_of_info sb ts cl cl' ts' pals chans hti (fits_iff.mpr ⟨hd, hwf⟩) hpals).2 coded hf)

/-- **The chain in the pipeline**, as `encodeFrame` and the decoder use it: under the value
conditions `chainRangeOk` alone the coded channels are what the decoder expects and its inverse
chain returns the original channels. -/
theorem C03_pipeline_roundtrip (sb : SBits) (bitDepth : Nat) (wp : Wp) (ts : List Transform)
    (cl cl' : ChanList) (ts' : List Transform) (pals chans coded : List Chan)
    (hti : transformInfoAll cl ts = .ok (cl', ts'))
    (hd : dimsMatch chans cl.info = true) (hwf : allWf chans = true)
    (hpals : palTablesOk ts' pals = true)
    (hr : chainRangeOk sb ts' pals chans = true)
    (hf : forwardAll sb ts' pals chans = some coded) :
    dimsMatch coded cl'.info = true ∧ allWf coded = true ∧
      inverseAll sb bitDepth wp ts' coded = chans :=
  have hb := C03_forward_matches_transform_info sb ts cl cl' ts' pals chans coded hti hd hwf hpals hf
  ⟨hb.1, hb.2, C03_transform_chain_inv_fwd sb bitDepth wp ts' pals chans coded
    (chainOk_of_range sb ts cl cl' ts' pals chans hti hd hwf hpals hr) hf⟩

/-- One bit of headroom is enough for the value conditions: three samples in
`[-2^(sb-2), 2^(sb-2))` are `rctTripleOk` for every RCT type, and a line of such samples is
`sqLineOk`. (8-bit images in `i16` buffers, 16-bit and up to 30-bit images in `i32` buffers have
it at the first transform; later transforms see the previous ones' output.) -/
theorem C03_headroom_suffices (sb : SBits) :
    (∀ (ty : Nat) (t : Int × Int × Int), inHeadroom sb t.1 = true → inHeadroom sb t.2.1 = true →
      inHeadroom sb t.2.2 = true → rctTripleOk sb ty t = true) ∧
    (∀ line : List Int, line.all (inHeadroom sb) = true → sqLineOk sb line = true) :=
  ⟨fun ty t h1 h2 h3 => rctTripleOk_of_headroom sb ty t h1 h2 h3,
   fun line h => sqLineOk_of_headroom sb line h⟩

/-- **Finding (reference encoder), about the UNREPAIRED forward palette** (`forwardPaletteOld` in
`Proofs/TransformChain.lean`, not the current `forwardOne`). The image `[5, 7]` with the table
`[7, 5]`, `nbDeltas = 1`, delta predictor 1 (West): the old search, which ignored `nbDeltas`,
accepted and coded the indices `[1, 0]`; index 0 is a delta entry, so the decoder (the model, and
the real `Palette::inverse_inner`: replayed, it returns `5 12`) adds the prediction `W = 5` to the
second pixel: `[5, 12]`. The repaired `forwardOne` searches the non-delta entries only and
rejects this plan (pixel 7 has no non-delta entry). -/
theorem C03_palette_forward_needs_nondelta :
    (forwardPaletteOld [{ w := 2, h := 1, data := #[5, 7] }] (some { w := 2, h := 1, data := #[7, 5] }) 0 1 2).map
        (fun cs => cs.map (·.data.toList)) = some [[7, 5], [1, 0]] ∧
      (inverseOne 32 8 {} [{ w := 2, h := 1, data := #[7, 5] }, { w := 2, h := 1, data := #[1, 0] }]
        (.palette 0 1 2 1 1)).map (·.data.toList) = [[5, 12]] ∧
      (forwardOne 32 [{ w := 2, h := 1, data := #[5, 7] }] (some { w := 2, h := 1, data := #[7, 5] })
        (.palette 0 1 2 1 1)).isNone = true := by
  decide +kernel

/-! Non-vacuity of the chain theorems: a 3-channel 5x4 image through
`[palette (1 channel, 6 entries of which 2 are delta entries), rct 10 on the index channel and the
two others, squeeze (horizontal in place on three channels, then vertical not in place on two)]`:
`chainOk` holds, the encoder accepts, and decoding gives the image back (by evaluation, not through
the theorem). -/
def exRgb3 : List Chan :=
  [{ w := 5, h := 4, data := #[0, 3, 2, 1, 0, 2, 0, 3, 2, 2, 1, 0, 3, 3, 1, 0, 2, 1, 3, 0] },
   { w := 5, h := 4, data := #[0, 10, 20, 0, 10, 20, 255, 20, 0, 0, 10, 0, 7, 200, 100, 0, 0, 99, 98, 97] },
   { w := 5, h := 4, data := #[0, 0, 0, 0, 0, 100, 100, 0, 0, 100, 0, 250, 251, 252, 3, 2, 1, 0, 128, 127] }]
/-- palette table for channel 0: 6 entries; the first two are delta entries and are never chosen -/
def exPal6 : Chan := { w := 6, h := 1, data := #[3, 0, 0, 1, 2, 3] }
def exChain3 : List Transform :=
  [.palette 0 1 6 2 5, .rct 1 10,
   .squeeze [{ horizontal := true, inPlace := true, beginC := 1, numC := 3 },
             { horizontal := false, inPlace := false, beginC := 2, numC := 2 }]]
def chanObs (cs : List Chan) : List (Nat × Nat × List Int) := cs.map fun c => (c.w, c.h, c.data.toList)

example : chainOk 32 exChain3 [exPal6] exRgb3 = true := by decide +kernel
example : chainOk 16 exChain3 [exPal6] exRgb3 = true := by decide +kernel
example : ((forwardAll 32 exChain3 [exPal6] exRgb3).map fun cs => cs.map (·.data.size))
    = some [6, 12, 6, 6, 8, 8, 8, 6, 6] := by decide +kernel
example : ((forwardAll 32 exChain3 [exPal6] exRgb3).map fun coded =>
    chanObs (inverseAll 32 8 {} exChain3 coded)) = some (chanObs exRgb3) := by decide +kernel
/-- the index channel uses the non-delta entries 2..5 only -/
example : ((forwardOne 32 exRgb3 (some exPal6) (.palette 0 1 6 2 5)).map fun cs =>
    (cs.getD 1 default).data.toList)
    = some [2, 5, 4, 3, 2, 4, 2, 5, 4, 4, 3, 2, 5, 5, 3, 2, 4, 3, 5, 2] := by decide +kernel
example : palFind exPal6 (exRgb3.take 1) 1 6 2 1 0 = some 5 := by decide +kernel
example : rctChanOk 32 10 (exRgb3.getD 0 default) (exRgb3.getD 1 default) (exRgb3.getD 2 default) = true := by
  decide +kernel
example : sqChanOk 32 true (exRgb3.getD 1 default) = true ∧ sqChanOk 32 false (exRgb3.getD 2 default) = true := by
  decide +kernel
example : sqStepOk 32 exRgb3 { horizontal := false, inPlace := false, beginC := 1, numC := 2 } = true := by
  decide +kernel
/-- an RCT-only chain (two RCTs on the same three channels) -/
example : chainOk 32 ([(0, 41), (0, 6)].map fun p => Transform.rct p.1 p.2) [] exRgb3 = true ∧
    (forwardAll 32 ([(0, 41), (0, 6)].map fun p => Transform.rct p.1 p.2) [] exRgb3).isSome = true := by
  decide +kernel

/-- all hypotheses of `C03_pipeline_roundtrip` (and of `C03_forward_matches_transform_info`,
`C03_palette_inv_fwd`) for a plan, as one Boolean -/
def pipelineHyps (sb : SBits) (cl : ChanList) (ts : List Transform) (pals chans : List Chan) : Bool :=
  match transformInfoAll cl ts with
  | .ok (_, ts') =>
    dimsMatch chans cl.info && allWf chans && palTablesOk ts' pals && chainRangeOk sb ts' pals chans &&
      (forwardAll sb ts' pals chans).isSome
  | .error _ => false

def exInfo3 : ChanList :=
  { info := List.replicate 3 { w := 5, h := 4, hshift := 0, vshift := 0 }, nbMeta := 0 }
example : pipelineHyps 32 exInfo3 exChain3 [exPal6] exRgb3 = true := by decide +kernel
/-- default squeeze parameters: a 12x10 channel; `transformInfo` resolves `squeeze []` to
`[horizontal, vertical]` (both in place) and the round trip holds -/
def exWide : List Chan :=
  [Chan.ofFn 12 10 fun x y => ((x * 37 + y * 91 + x * y * 5) % 256 : Nat)]
def exInfoWide : ChanList := { info := [{ w := 12, h := 10, hshift := 0, vshift := 0 }], nbMeta := 0 }
example : pipelineHyps 16 exInfoWide [.squeeze []] [] exWide = true := by decide +kernel
def sqParamsObs : Transform → List (Bool × Bool × Nat × Nat)
  | .squeeze ps => ps.map fun sp => (sp.horizontal, sp.inPlace, sp.beginC, sp.numC)
  | _ => []
def exWideObs : Option (List (List (Bool × Bool × Nat × Nat)) × List (Nat × Nat) × List (Nat × Nat) × Bool) :=
  match transformInfoAll exInfoWide [.squeeze []] with
  | .ok (cl', ts') =>
    (forwardAll 16 ts' [] exWide).map fun coded =>
      (ts'.map sqParamsObs, cl'.info.map ChanInfo.dims, coded.map Chan.dims,
        chanObs (inverseAll 16 8 {} ts' coded) == chanObs exWide)
  | .error _ => none
example : exWideObs.map (·.1) = some [[(true, true, 0, 1), (false, true, 0, 1)]] := by decide +kernel
example : exWideObs.map (·.2.1) = some [(6, 5), (6, 5), (6, 10)] := by decide +kernel
example : exWideObs.map (·.2.2.1) = some [(6, 5), (6, 5), (6, 10)] := by decide +kernel
example : exWideObs.map (·.2.2.2) = some true := by decide +kernel
/-- headroom: 8-bit samples in `i16` buffers -/
example : [0, 255, 128, 7].all (inHeadroom 16) = true ∧ inHeadroom 32 (2 ^ 30 - 1) = true ∧
    inHeadroom 32 (2 ^ 30) = false := by decide +kernel
/-- the value conditions are needed: RCT type 4 on `d = f = 2·10⁹` (`d + f` is not an `i32`) is
accepted by the encoder and not inverted; the triple is not `rctTripleOk` -/
example : rctTripleOk 32 4 (2000000000, -2000000000, 2000000000) = false ∧
    rctInvT (wrap 32) 4 (rctFwdT 4 (2000000000, -2000000000, 2000000000))
      = (2000000000, 147483648, 2000000000) := by decide +kernel

end Jxl.Modular

namespace Jxl.Enc
open Jxl.Modular

/-- **Group partition.** Cutting the non-global channels into the per-group pieces
(`groupPieceChans`, what `encodeFrame` codes as the groups' sub-images) and pasting the pieces back
(`pasteGroups`, what it does with the decoded sub-images) returns exactly the channels; any sizes
(also smaller than one group cell, 0 included) and shifts. -/
theorem C03_group_partition_reassembles (groupDim gcols : Nat) (restCh : List (ChanInfo × Chan))
    (hok : groupLayoutOk groupDim gcols restCh = true) :
    pasteGroups groupDim gcols (restCh.map (·.1))
      (fun g => some ((groupPieceChans groupDim gcols restCh g).map (·.2))) = restCh.map (·.2) := by
  rw [pasteGroups, List.length_map, ← map_getD_range (restCh.map (·.2)) default (List.length_map _)]
  refine List.map_congr_left fun ci hlt => ?_
  rw [List.mem_range] at hlt
  obtain ⟨⟨inf, c⟩, hci⟩ : ∃ p, restCh[ci]? = some p := ⟨_, List.getElem?_eq_getElem hlt⟩
  have hp := List.all_eq_true.mp hok _ (List.mem_of_getElem? hci)
  simp only [Bool.and_eq_true, beq_iff_eq, decide_eq_true_eq] at hp
  obtain ⟨⟨⟨⟨⟨hwf, hw⟩, hh⟩, hgw⟩, hgh⟩, hcols⟩ := hp
  simp only [List.getD_eq_getElem?_getD, List.getElem?_map, hci, Option.map_some, Option.getD_some]
  rw [← hw, ← hh]
  refine Chan.ext_get (Chan.ofFn_wf _ _ _) hwf rfl rfl fun x y hx hy => ?_
  unfold pasteChan
  rw [Chan.get_ofFn _ _ _ x y hx hy]
  generalize hgwd : groupDim / 2 ^ inf.hshift.toNat = gw at *
  generalize hghd : groupDim / 2 ^ inf.vshift.toNat = gh at *
  -- the pixel lies in group `g`, at `(x % gw, y % gh)` of the cell in column `x / gw`, row `y / gh`
  have hxg : x / gw < gcols := Nat.div_lt_of_lt_mul (by rw [Nat.mul_comm]; omega)
  have hmod : (y / gh * gcols + x / gw) % gcols = x / gw := Nat.mul_add_mod_of_lt hxg
  have hdiv : (y / gh * gcols + x / gw) / gcols = y / gh := mul_add_div_of_lt hxg
  generalize y / gh * gcols + x / gw = g at *
  have hx0 := Nat.div_add_mod' x gw
  have hy0 := Nat.div_add_mod' y gh
  have hxm := Nat.mod_lt x hgw
  have hym := Nat.mod_lt y hgh
  -- the channel's piece in that group is the crop at the cell
  simp only [groupPieceChans, List.map_filterMap]
  rw [length_filter_range_getD (groupPieceNonEmpty groupDim gcols · g) _ _ _ (by simp; omega),
    ← List.map_take, List.countP_map,
    getD_filterMap_countP _ _ restCh ci (inf, c) (c.crop (x / gw * gw) (y / gh * gh)
      (min gw (inf.w - x / gw * gw)) (min gh (inf.h - y / gh * gh))) default hci]
  · unfold Chan.crop
    rw [Chan.get_ofFn _ _ _ _ _ (by omega) (by omega), hx0, hy0]
  · -- `groupPieceChans` keeps the channel: its rectangle in `g` holds `(x, y)`
    simp only [hgwd, hghd, hmod, hdiv, beq_iff_eq]
    rw [if_neg (by omega)]
    rfl
  · -- `groupPieceNonEmpty` is the test by which `groupPieceChans` keeps a channel
    intro b
    simp [groupPieceNonEmpty]

/-- The geometric half of `groupLayoutOk` for channels of the natural shape: width
`⌈cw / 2^s⌉` for a frame of width `cw` and shift `s` with `2^s` dividing the group dimension
(`128 · 2^group_shift`, `s ≤ 7 + group_shift`), and `⌈cw / groupDim⌉` group columns. -/
theorem C03_group_columns_cover (cw groupDim s : Nat) (hdvd : 2 ^ s ∣ groupDim) (hg : 0 < groupDim) :
    0 < groupDim / 2 ^ s ∧ ceilDiv cw (2 ^ s) ≤ ceilDiv cw groupDim * (groupDim / 2 ^ s) := by
  obtain ⟨q, rfl⟩ := hdvd
  have hp : 0 < 2 ^ s := Nat.pow_pos (by omega)
  rw [Nat.mul_div_cancel_left q hp]
  refine ⟨Nat.pos_of_mul_pos_left hg, (ceilDiv_le_iff hp).2 ?_⟩
  calc cw ≤ ceilDiv cw (2 ^ s * q) * (2 ^ s * q) := (ceilDiv_le_iff hg).1 (Nat.le_refl _)
    _ = ceilDiv cw (2 ^ s * q) * q * 2 ^ s := by rw [Nat.mul_comm (2 ^ s) q, Nat.mul_assoc]

/-! Non-vacuity: group dimension 2, three group columns (a 5-wide frame), channels `A` 1x1 (empty
in every group but the first), `B` 5x3, `C` 3x3 with `hshift = 1` (group cell 1x2). -/
def exRest : List (ChanInfo × Chan) :=
  [({ w := 1, h := 1, hshift := 0, vshift := 0 }, { w := 1, h := 1, data := #[42] }),
   ({ w := 5, h := 3, hshift := 0, vshift := 0 },
    { w := 5, h := 3, data := #[1, 2, 3, 4, 5, 6, 7, 8, 9, 10, 11, 12, 13, 14, 15] }),
   ({ w := 3, h := 3, hshift := 1, vshift := 0 },
    { w := 3, h := 3, data := #[-1, -2, -3, -4, -5, -6, -7, -8, -9] })]
example : groupLayoutOk 2 3 exRest = true := by decide +kernel
/-- group 1 (column 1, row 0) has no piece of `A`; its sub-image is `[B-piece 2x2, C-piece 1x2]` -/
example : (groupPieceChans 2 3 exRest 1).map (fun p => (p.2.w, p.2.h, p.2.data.toList))
    = [(2, 2, [3, 4, 8, 9]), (1, 2, [-2, -5])] := by decide +kernel
example : (groupPieceChans 2 3 exRest 5).map (fun p => (p.2.w, p.2.h, p.2.data.toList))
    = [(1, 1, [15]), (1, 1, [-9])] := by decide +kernel
example : chanObs (pasteGroups 2 3 (exRest.map (·.1))
      (fun g => some ((groupPieceChans 2 3 exRest g).map (·.2))))
    = chanObs (exRest.map (·.2)) := by decide +kernel
example : 2 ^ 3 ∣ 128 * 2 ^ 1 ∧ 0 < 128 * 2 ^ 1 := by decide

end Jxl.Enc
