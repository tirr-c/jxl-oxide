import JxlModel.Proofs.Color
import JxlModel.Proofs.ColorIcc
/-!
# C19 — colour descriptions round-trip through the synthesised ICC profile; transfer curves
invert and are monotone; converting to the encoding an image already has is a no-op

Model: `Model/Color.lean` (mirrors `icc/synthesize.rs`, `icc/parse.rs`, `convert.rs`, `tf*.rs`).

The ICC part is proved for all inputs, with the `f32` chromaticity arithmetic abstracted (`Quant`,
`FloatOps`) or, for the 432 named combinations, replaced by exact integer arithmetic on the numbers
the implementation really writes. The transfer curves are the real-valued curves with the decimal
constants of the source; where inverse or monotonicity fails at a breakpoint (sRGB, BT.709, HLG)
the negation is proved with a witness, next to the strongest true statement. Nothing is proved on
the 1e-8 sliver above the sRGB breakpoint.

Not proved (measured by the correspondence run, see `tools/props/c19.py`): anything about the
`f32` kernels and the `f32` chromaticity arithmetic (Bradford adaptation, matrix inverse, `1e-4`
matching on floats). The claim "custom xy within 1e-4" is *false* on the full field range (known
finding `xy-precision:*`), so no theorem states it.
-/
namespace Jxl.Color
open Jxl.Color.Tf

/-- For every enum encoding naming a real colour space (RGB or grey; any white point, primaries,
intent; any transfer function except `Unknown` and the undefined inverted gamma 0), whatever the
quantised numbers: synthesis succeeds, the profile is `size ‖ header[4..128] ‖ tag table ‖ data`,
its size field equals its length (when below 4 GiB), every tag has a 4-byte signature and lies
4-aligned inside the file, the required tags of the colour space are present, and the three RGB
TRC tags share one copy of the curve. -/
theorem C19_synth_structurally_valid (e : Enc) (q : Quant) (hcs : e.cs = .rgb ∨ e.cs = .grey)
    (htf : e.tf ≠ .unknown) (hg : e.tf ≠ .gamma 0 true) :
    ∃ trc tags data bytes, trcData q e.tf = .ok trc ∧
      tags = layoutTags 0 (pieces e q trc) ∧ data = layoutData (pieces e q trc) ∧
      synth e q = .ok bytes ∧
      bytes = be32 (132 + 12 * tags.length + data.length) ++ (header e.cs e.ri).drop 4
        ++ tagTable tags ++ data ∧
      bytes.length = 132 + 12 * tags.length + data.length ∧
      (bytes.length < 4294967296 → u32At bytes 0 = bytes.length) ∧
      (∀ t ∈ tags, t.sig.length = 4 ∧ (t.off + (132 + 12 * tags.length)) % 4 = 0 ∧
        t.off + (132 + 12 * tags.length) + t.len ≤ bytes.length) ∧
      (∀ s ∈ requiredSigs e.cs, ∃ t ∈ tags, t.sig = s) ∧
      (e.cs = .rgb → ∃ o, ∀ s ∈ [ascii "rTRC", ascii "gTRC", ascii "bTRC"],
        ({ sig := s, off := o, len := trc.length } : Tag) ∈ tags) := by
  obtain ⟨trc, htrc⟩ := trcData_ok q e.tf htf hg
  have hok := layoutTags_ok _ 0 rfl (sig_lengths e q trc)
  have hlen := profileOf_length e _ (layoutData (pieces e q trc)) fun t ht => (hok t ht).1
  refine ⟨trc, _, _, _, htrc, rfl, rfl, synth_eq e q trc hcs htrc, ?_, hlen, fun hlt => ?_,
    fun t ht => ?_, fun s hs => ?_, fun hrgb => ?_⟩
  · simp only [profileOf, synthBody, List.append_assoc]
  · rw [hlen] at hlt ⊢
    exact u32At_profileOf _ _ _ hlt
  · have hb := hok t ht
    rw [hlen]
    exact ⟨hb.1, by omega, by omega⟩
  · obtain ⟨p, hp, hsp⟩ := required_present e q trc s hs
    obtain ⟨o, ho⟩ := layoutTags_mem (pieces e q trc) 0 p.1 p.2 hp
    exact ⟨_, ho s hsp, rfl⟩
  · exact layoutTags_mem (pieces e q trc) 0 _ _ (by simp [pieces, hrgb])

/-- The four inputs `colour_encoding_to_icc` cannot synthesise (finding F5) are exactly the
model's panics: nothing else fails. -/
theorem C19_synth_panics_iff (e : Enc) (q : Quant) :
    (∃ p, synth e q = .error p) ↔
      (e.cs = .xyb ∨ e.cs = .unknown ∨ e.tf = .unknown ∨ e.tf = .gamma 0 true) := by
  constructor
  · rintro ⟨p, hp⟩
    by_contra hc
    have h1 : e.cs = .rgb ∨ e.cs = .grey := by
      cases h : e.cs <;> simp_all
    obtain ⟨trc, htrc⟩ := trcData_ok q e.tf (fun h => hc (by simp [h])) (fun h => hc (by simp [h]))
    rw [synth_eq e q trc h1 htrc] at hp
    cases hp
  · intro h
    unfold synth synthTags
    by_cases hx : e.cs = .xyb
    · exact ⟨.xyb, by simp [hx]⟩
    · rw [if_neg hx]
      cases htr : trcData q e.tf with
      | error p => exact ⟨p, rfl⟩
      | ok trc =>
        rcases h with h | h | h | h
        · exact absurd h hx
        · exact ⟨.csUnknown, by simp [h]⟩
        · rw [h] at htr; cases htr
        · rw [h] at htr; simp [trcData, gammaParam] at htr

/-- `parse_icc ∘ colour_encoding_to_icc`, every RGB / grey encoding (custom chromaticities and
gamma included), every choice of quantised numbers `q` (well-formed: nine `chad` entries, XYZ
triples, all `i32`), every instance of the float predicates `f` that accepts the numbers written:
the parser reads back exactly the colour space, the intent, the quantised `chad` / `wtpt` /
colorants (handed unchanged to the float part) and the transfer function of the curve that the
TRC decision logic recognises (`t`, see `C19_trc_named_roundtrip`, `C19_gamma_field_roundtrip`). -/
theorem C19_parse_synth_enum_fields (f : FloatOps) (e : Enc) (q : Quant) (trc : List Nat) (t : Trc)
    (hcs : e.cs = .rgb ∨ e.cs = .grey) (wf : q.WF)
    (htrc : trcData q e.tf = .ok trc) (hd : 4 ≤ trc.length)
    (ht : trcOfData q.pqLut q.hlgLut trc = some (.ok t))
    (hd50 : f.validXyz d50Xyz = true) (hchad : f.validChad q.chad = true)
    (hw : f.validXyz q.wtpt = true) (hr : f.validXyz q.rXYZ = true)
    (hg : f.validXyz q.gXYZ = true) (hb : f.validXyz q.bXYZ = true)
    (hL : 132 + 12 * (layoutTags 0 (pieces e q trc)).length + (layoutData (pieces e q trc)).length
      < 4294967296) :
    ∃ bytes, synth e q = .ok bytes ∧
      parseIcc f q.pqLut q.hlgLut bytes = .ok
        { cs := e.cs,
          wp := if e.cs = .rgb then f.whitePoint q.chad d50Xyz else f.whitePoint identityChad q.wtpt,
          prim := if e.cs = .rgb then f.primaries q.chad q.rXYZ q.gXYZ q.bXYZ else .srgb,
          tf := (recognisedTrc e t).toTf,
          ri := e.ri } := by
  refine ⟨_, synth_eq e q trc hcs htrc, ?_⟩
  unfold parseIcc detectInfo
  rw [parseRaw_layout e _ (sig_lengths e q trc) hL]
  dsimp only [bind, Except.bind, pure, Except.pure]
  rw [scan_pieces e wf hd50 hchad hw hr hg hb hd ht]
  -- the payload and `recognisedTrc e t` case by case, then both matches of the parser compute
  rcases cicp_cases e with ⟨h, hrec⟩ | ⟨p, k, ⟨rfl, hrec⟩ | ⟨rfl, hrec⟩, h⟩ <;>
    rcases hcs with hcs | hcs <;>
    simp [hcs, h, hrec, csSig_rgb, csSig_grey, cicpPayload, lit_cicp, lit_CMYK, lit_GRAY, lit_RGB_]

/-- The curve written for a named transfer function (BT.709, linear, sRGB, DCI, PQ, HLG) is
recognised as that transfer function (PQ/HLG: 4096-entry tables with different contents). -/
theorem C19_trc_named_roundtrip (e : Enc) (q : Quant) (htf : isNamedTf e.tf = true)
    (hpq : q.pqLut.length = 4096) (hhlg : q.hlgLut.length = 4096)
    (hne : q.hlgLut.flatMap be16 ≠ q.pqLut.flatMap be16) :
    ∃ trc t, trcData q e.tf = .ok trc ∧ 4 ≤ trc.length ∧
      trcOfData q.pqLut q.hlgLut trc = some (.ok t) ∧ (recognisedTrc e t).toTf = e.tf := by
  obtain ⟨trc, t, h1, h2, h3, h4⟩ := trc_named q hpq hhlg hne e.tf htf
  exact ⟨trc, t, h1, h2, h3, recognisedTrc_toTf e t h4⟩

/-- All named enum combinations (RGB/grey × D65/E/DCI × sRGB/BT.2100/P3 × six named transfer
functions × four intents), end to end, on the quantised numbers the implementation writes for
them (`namedQuant`: numbers read off real profiles, not compared with `quantOf` anywhere) and with
the parser's float part in exact integer arithmetic (`ratOps`): the profile parses back to the same
encoding (a grey profile carries no primaries: sRGB is reported). -/
theorem C19_parse_synth_named_enums (e : Enc) (pqLut hlgLut : List Nat)
    (hcs : e.cs = .rgb ∨ e.cs = .grey) (hwp : isNamedWp e.wp = true)
    (hprim : isNamedPrim e.prim = true) (htf : isNamedTf e.tf = true)
    (hpq : pqLut.length = 4096) (hhlg : hlgLut.length = 4096)
    (hne : hlgLut.flatMap be16 ≠ pqLut.flatMap be16)
    (hL : ∀ trc, 132 + 12 * (layoutTags 0 (pieces e (namedQuant e pqLut hlgLut) trc)).length
      + (layoutData (pieces e (namedQuant e pqLut hlgLut) trc)).length < 4294967296) :
    ∃ bytes, synth e (namedQuant e pqLut hlgLut) = .ok bytes ∧
      parseIcc ratOps pqLut hlgLut bytes =
        .ok (if e.cs = .rgb then e else { e with prim := .srgb }) := by
  obtain ⟨trc, t, h1, h2, h3, h4⟩ :=
    C19_trc_named_roundtrip e (namedQuant e pqLut hlgLut) htf hpq hhlg hne
  obtain ⟨vc, vw, vr, vg, vb, wrgb, wgrey, p⟩ := named_reads e pqLut hlgLut hwp hprim
  obtain ⟨bytes, hs, hp⟩ := C19_parse_synth_enum_fields ratOps e (namedQuant e pqLut hlgLut) trc t
    hcs (namedQuant_wf e pqLut hlgLut) h1 h2 h3 (by decide) vc vw vr vg vb (hL trc)
  refine ⟨bytes, hs, hp.trans ?_⟩
  rw [h4, wrgb, wgrey, p]
  split <;> rfl

/-- Every gamma field a validated header can carry (`1e7/8192 ≤ g ≤ 1e7`, i.e. 1221…10⁷):
the s15Fixed16 parameter fits, is accepted by `from_gamma`, and the transfer function that
comes back has a decode exponent within 1e-4 relative of `1e7/g` (`closeToInvGamma`: linear,
DCI, plain gamma `g'` with `|g'·g − 1e14| ≤ 1e10`, or — for exponents above 429.4967 — the same
inverted `g` exactly). -/
theorem C19_gamma_field_roundtrip (g : Nat) (h1 : 1221 ≤ g) (h2 : g ≤ 10000000) :
    ∃ G, gammaParam g true = .ok G ∧ 65536 ≤ G ∧ G < 2147483648 ∧
      trcOfData [] [] (para 0 [G]) = (Trc.fromGamma (G : Int)).map .ok ∧
      ∃ t, Trc.fromGamma (G : Int) = some t ∧ closeToInvGamma g t.toTf := by
  obtain ⟨k1, k2, k3, k4⟩ := invGammaParam_recognised h1 h2 rfl
  exact ⟨_, k1, k2, by omega, trc_gamma [] [] _ (by omega), k4⟩

/-- s15Fixed16 rounding of a non-negative ratio `num/den` as used for every integer-derived
parameter: the stored integer `v` satisfies `|v/65536 − num/den| ≤ 2⁻¹⁷` (stated without
division: `2·v·den ≤ 2·65536·num + den` and `2·65536·num ≤ 2·v·den + den + 1`). -/
theorem C19_s15_quantisation_bound (num den : Nat) (hd : 0 < den) :
    2 * (s15OfRatio num den * den) ≤ 2 * (num * 65536) + den ∧
    2 * (num * 65536) < 2 * (s15OfRatio num den * den) + den + 2 := by
  obtain ⟨h1, h2⟩ := (div_eq_iff_lt hd).mp (rfl : s15OfRatio num den = _)
  omega

theorem C19_fixed_point_bytes_roundtrip :
    (∀ n : Nat, n < 4294967296 → ofBe (be32 n) = n) ∧
    (∀ v : Int, -2147483648 ≤ v → v < 2147483648 →
      ∀ pre rest : List Nat, i32At (pre ++ beI32 v ++ rest) pre.length = v) :=
  ⟨ofBe_be32, fun v h1 h2 pre rest => (Seg.mid pre (beI32 v) rest).i32At ⟨h1, h2⟩⟩

/-- Converting to the encoding an image already has builds an empty op list (`is_noop`) and
running it returns every channel unchanged, for every described encoding (enum values of any
kind, XYB and unknown included, or an ICC profile) and every sample buffer. -/
theorem C19_same_encoding_is_noop {α : Type} (d : Described) (channels : List (List α)) :
    transformOps d d = some [] ∧
      ∀ ops, transformOps d d = some ops → runOps ops channels = channels := by
  have h : transformOps d d = some [] := by simp [transformOps, isEquivalent_refl]
  refine ⟨h, ?_⟩
  intro ops hops
  rw [h] at hops
  cases hops
  rfl

/-! `gammaApply` mirrors `tf::apply_gamma`: samples `≤ 1e-7` (negative ones included) become 0. -/

/-- pure gamma (`γ = g/1e7 ∈ (0,1]`), encode then decode, on `x > 1e-7` -/
theorem C19_tf_inverse_gamma (γ x : ℝ) (hγ : 0 < γ) (hγ1 : γ ≤ 1) (hx : 1e-7 < x) :
    gammaDecode γ (gammaEncode γ x) = x := by
  have hxγ : (1e-7 : ℝ) < x ^ γ :=
    (Real.self_le_rpow_of_le_one (by norm_num) (by norm_num) hγ1).trans_lt
      (Real.rpow_lt_rpow (by norm_num) hx hγ)
  unfold gammaDecode gammaEncode
  simp only [gammaApply_real, if_neg (not_le.mpr hx), if_neg (not_le.mpr hxγ), one_real]
  exact rpow_inv_cancel (by linarith) (mul_one_div_cancel hγ.ne')

/-- … and below the flush threshold the result is 0, i.e. off by at most `1e-7` for `0 ≤ x`
(negative samples are clamped: known finding `tf-domain:gamma-negative-clamped`). -/
theorem C19_tf_gamma_flushed (γ x : ℝ) (hx : x ≤ 1e-7) : gammaDecode γ (gammaEncode γ x) = 0 := by
  unfold gammaDecode gammaEncode
  simp only [gammaApply_real, if_pos hx]
  norm_num

theorem C19_tf_monotone_gamma (γ : ℝ) (hγ : 0 < γ) :
    Monotone (gammaEncode γ) ∧ Monotone (gammaDecode γ) := by
  refine ⟨gammaApply_monotone γ hγ.le, gammaApply_monotone _ ?_⟩
  rw [one_real]
  positivity

theorem C19_tf_inverse_dci (x : ℝ) (hx : 1e-7 < x) : dciDecode (dciEncode x) = x := by
  rw [dciEncode_real, dciDecode_real]
  exact C19_tf_inverse_gamma _ x (by norm_num) (by norm_num) hx

theorem C19_tf_monotone_dci :
    Monotone (dciEncode : ℝ → ℝ) ∧ Monotone (dciDecode : ℝ → ℝ) := by
  rw [dciEncode_real, dciDecode_real]
  exact C19_tf_monotone_gamma _ (by norm_num)

/-- BT.709, every real sample (negative ones take the linear piece both ways). The two pieces
with the rounded constants 1.099 / 0.099 / 0.018 / 4.5 do not meet — the encoder jumps *up* from
0.081 to 0.08124… at 0.018 — and the inverse still holds because
`0.018^0.45 > 0.18/1.099` (checked as `0.018^9 > (0.18/1.099)^20`). -/
theorem C19_tf_inverse_bt709 (x : ℝ) : bt709Decode (bt709Encode x) = x := by
  rw [bt709Encode_real, bt709Decode_real]
  exact Toe.bt709.dec_enc bt709_break.trans

theorem C19_tf_monotone_bt709_encode : Monotone (bt709Encode : ℝ → ℝ) := by
  rw [bt709Encode_real]
  exact Toe.bt709.enc_monotone bt709_break.le

/-- `bt709_to_linear` is **not** monotone: `0.081 ↦ 0.018` but `0.0811 ↦` less than `0.018`
(the decoder's power piece starts below the end of its linear piece). Replayed on the real
kernel by the correspondence run (known finding `monotone:bt709-dec-breakpoint`). -/
theorem C19_tf_bt709_decode_not_monotone : ¬ Monotone (bt709Decode : ℝ → ℝ) := by
  intro h
  have h1 : bt709Decode (0.081 : ℝ) ≤ bt709Decode (0.0811 : ℝ) := h (by norm_num)
  rw [bt709Decode_real, Toe.dec, Toe.dec, if_pos le_rfl, if_neg (by norm_num)] at h1
  have h2 : ((0.0811 + 0.099) / 1.099 : ℝ) ^ ((1 : ℝ) / 0.45) < 0.081 / 4.5 :=
    rpow_lt_of_pow_lt 20 9 (by norm_num) (by norm_num) (by norm_num) (by norm_num)
  exact absurd h1 (not_le.mpr h2)

theorem C19_tf_monotone_bt709_decode_partial :
    MonotoneOn (bt709Decode : ℝ → ℝ) (Set.Iic 0.081) ∧
    MonotoneOn (bt709Decode : ℝ → ℝ) (Set.Ioi 0.081) := by
  rw [bt709Decode_real]
  exact Toe.bt709.dec_monotoneOn

/-- sRGB, encode then decode, odd extension included, off the sliver
`0.0031308 < |x| < 0.00313081`. On part of it the encoder already uses its power piece while the
result is still `≤ 0.04045`, so that the decoder answers with its linear piece
(`((0.04045+0.055)/1.055)^2.4` lies between `0.04045/12.92` and `0.00313081`: `srgb_gap_lo`,
`srgb_gap_hi`); nothing is proved about the sliver, neither a refutation nor an error bound. -/
theorem C19_tf_inverse_srgb_partial (x : ℝ) (hx : |x| ≤ 0.0031308 ∨ 0.00313081 ≤ |x|) :
    srgbDecode (srgbEncode x) = x := by
  unfold srgbDecode srgbEncode
  apply odd_inverse srgbEncodePos srgbDecodePos x srgbEncodePos_pos
  · rw [srgbEncodePos_real, Toe.enc, if_pos (by norm_num)]
    norm_num
  · rw [srgbEncodePos_real, srgbDecodePos_real]
    exact Toe.srgb.dec_enc fun h => srgb_gap_hi.trans_le (hx.resolve_left (not_le.mpr h))

/-- the decoder's power piece starts above the end of its linear piece (`srgb_gap_lo`) -/
theorem C19_tf_monotone_srgb_decode : Monotone (srgbDecodePos : ℝ → ℝ) := by
  rw [srgbDecodePos_real]
  exact Toe.srgb.dec_monotone srgb_gap_lo

/-- The sRGB encoder with the constants of the standard is **not** monotone: just above the
breakpoint the power piece lies below `12.92 · 0.0031308` (by about 3e-8):
`f(0.003130801) < f(0.0031308)`. -/
theorem C19_tf_srgb_encode_not_monotone : ¬ Monotone (srgbEncodePos : ℝ → ℝ) := by
  intro h
  have h1 : srgbEncodePos (0.0031308 : ℝ) ≤ srgbEncodePos (0.003130801 : ℝ) := h (by norm_num)
  rw [srgbEncodePos_real, Toe.enc, Toe.enc, if_pos le_rfl, if_neg (by norm_num)] at h1
  have h2 : (0.003130801 : ℝ) ^ ((1 : ℝ) / 2.4) < (12.92 * 0.0031308 + 0.055) / 1.055 :=
    rpow_lt_of_pow_lt 5 12 (by norm_num) (by norm_num) (by norm_num) (by norm_num)
  rw [lt_div_iff₀' (by norm_num)] at h2
  linarith

theorem C19_tf_monotone_srgb_encode_partial :
    StrictMonoOn (srgbEncodePos : ℝ → ℝ) (Set.Iic 0.0031308) ∧
    StrictMonoOn (srgbEncodePos : ℝ → ℝ) (Set.Ioi 0.0031308) := by
  rw [srgbEncodePos_real]
  exact Toe.srgb.enc_strictMonoOn

/-- PQ (ST 2084 with the exact rational constants): EOTF ∘ inverse EOTF on every positive
luminance. -/
theorem C19_tf_inverse_pq (y : ℝ) (hy : 0 < y) : pqDecodePos (pqEncodePos y) = y := by
  obtain ⟨hm1, hm2, hc1, hc3, hk⟩ := pq_consts
  obtain ⟨hgt, hinv⟩ := mobius_inv hc3 hk (Real.rpow_pos_of_pos hy pqM1)
  have hq := hc1.trans_lt hgt
  rw [pqEncodePos_real]
  simp only [pqDecodePos, zero_real, one_real, pow_real, if_neg (not_le.mpr hy),
    if_neg (not_le.mpr (Real.rpow_pos_of_pos hq _)),
    rpow_inv_cancel hq.le (mul_one_div_cancel hm2.ne'), if_neg (not_le.mpr (sub_pos.mpr hgt)), hinv]
  exact rpow_inv_cancel hy.le (mul_one_div_cancel hm1.ne')

/-- PQ inverse EOTF is monotone on the whole line. (Monotonicity of the EOTF `pqDecodePos` is
not proved; the real kernel is a rational approximation that is *not* monotone near black,
known finding `monotone:pq-dec-near-black`.) -/
theorem C19_tf_monotone_pq_encode : Monotone (pqEncodePos : ℝ → ℝ) := by
  obtain ⟨hm1, hm2, hc1, hc3, hk⟩ := pq_consts
  have hM : ∀ {x : ℝ}, 0 < x → pqC1 ≤ mobius pqC1 pqC2 pqC3 (x ^ (pqM1 : ℝ)) := fun hx =>
    (mobius_inv hc3 hk (Real.rpow_pos_of_pos hx _)).1.le
  rw [pqEncodePos_real]
  exact monotone_ite monotoneOn_const
    (fun _ hx _ _ hxy => Real.rpow_le_rpow (hc1.trans (hM hx))
      (mobius_mono hc3 hk.le (Real.rpow_nonneg (le_of_lt hx) _)
        (Real.rpow_le_rpow (le_of_lt hx) hxy hm1.le)) hm2.le)
    fun _ hy => Real.rpow_le_rpow hc1 (hM hy) hm2.le

/-- HLG OETF then inverse OETF, piece by piece: the square-root piece `[0, 1/12]`
unconditionally, the logarithmic piece when the encoded value exceeds the decoder's breakpoint
0.5. That condition fails on a sliver above `1/12`; `C19_tf_inverse_hlg_iff` is the exact form. -/
theorem C19_tf_inverse_hlg_partial (x : ℝ) :
    (0 ≤ x → x ≤ 1 / 12 → hlgDecodePos (hlgEncodePos x) = x) ∧
    (1 / 12 < x → 0.5 < 0.17883277 * Real.log (12 * x - 0.28466892) + 0.5599107 →
      hlgDecodePos (hlgEncodePos x) = x) :=
  ⟨hlgPos_inverse_sqrt x, hlgPos_inverse_log x⟩

/-! HLG at the breakpoints, with the constants of `tf.rs` (`A = 0.17883277`, `B = 0.28466892`,
`C = 0.5599107`):
* the encoder's logarithmic piece starts at `A·ln(1 − B) + C = 0.49999997047… < 0.5`: the encoder
  jumps *down* by 2.95e-8 at `1/12`, and the hypothesis of `C19_tf_inverse_hlg_partial` is false for
  `1/12 < x ≤ hlgGapEnd = (exp((0.5 − C)/A) + B)/12 = 0.0833333431765…` (a sliver 9.8e-9 wide);
* the decoder's exponential piece starts at `hlgGapEnd > 1/12`: the decoder jumps *up*.
So "the round trip is the identity on `x ≥ 0`" and "the encoder is monotone on `[0, ∞)`" are false;
their negations are proved with witnesses, next to the strongest true statements. All numeric
bounds rest on one enclosure of `exp((0.5 − C)/A)` (`hlg_exp_enclosure`). The `f32` kernels
(constants rounded to `f32`, `ln`/`exp` of libm) are measured by the correspondence run, not
proved. -/

/-- `exp((0.5 − 0.5599107)/0.17883277)` and the end of the sliver to ten digits. -/
theorem C19_tf_hlg_breakpoint_numerics :
    (0.71533119804 : ℝ) < Real.exp (-5991070 / 17883277) ∧
    Real.exp (-5991070 / 17883277) < (0.71533119816 : ℝ) ∧
    hlgGapEnd = (Real.exp ((0.5 - 0.5599107) / 0.17883277) + 0.28466892) / 12 ∧
    (1 / 12 : ℝ) < 0.08333334317 ∧ 0.08333334317 < hlgGapEnd ∧ hlgGapEnd < 0.08333334318 :=
  ⟨hlg_exp_enclosure.1, hlg_exp_enclosure.2, hlgGapEnd_eq, by norm_num, hlgGapEnd_bounds.1,
    hlgGapEnd_bounds.2⟩

/-- The condition of `C19_tf_inverse_hlg_partial`: for `x > 1/12` the
logarithmic piece exceeds the decoder's breakpoint exactly when `x > hlgGapEnd`. In particular it
fails on `(1/12, 0.08333334317]` and holds on `[0.08333334318, ∞)`. -/
theorem C19_tf_hlg_log_piece_gt_half_iff (x : ℝ) (hx : 1 / 12 < x) :
    0.5 < 0.17883277 * Real.log (12 * x - 0.28466892) + 0.5599107 ↔ hlgGapEnd < x :=
  hlg_log_gt_iff hx

/-- HLG OETF then inverse OETF on `x ≥ 0` is the identity **exactly** off the sliver
`(1/12, hlgGapEnd]`. -/
theorem C19_tf_inverse_hlg_iff (x : ℝ) (hx : 0 ≤ x) :
    hlgDecodePos (hlgEncodePos x) = x ↔ (x ≤ 1 / 12 ∨ hlgGapEnd < x) := by
  by_cases h : x ≤ 1 / 12
  · exact ⟨fun _ => Or.inl h, fun _ => hlgPos_inverse_sqrt x hx h⟩
  · have h' := not_le.mp h
    rw [or_iff_right h]
    exact ⟨fun heq => not_le.mp fun hG => (hlg_roundtrip_sliver h' hG).1.ne heq,
      fun hG => hlgPos_inverse_log x h' ((hlg_log_gt_iff h').mpr hG)⟩

/-- the same with an explicit rational threshold: inverse for `0 ≤ x ≤ 1/12` and for
`x ≥ 0.08333334318` (`= 1/12 + 9.85e-9`) -/
theorem C19_tf_inverse_hlg_off_sliver (x : ℝ) (h0 : 0 ≤ x)
    (hx : x ≤ 1 / 12 ∨ 0.08333334318 ≤ x) : hlgDecodePos (hlgEncodePos x) = x :=
  (C19_tf_inverse_hlg_iff x h0).mpr (hx.imp_right hlgGapEnd_bounds.2.trans_le)

/-- Negation of the full statement `∀ x ≥ 0, hlgDecodePos (hlgEncodePos x) = x`, with a witness
interval: on all of `(1/12, 0.08333334317]` the encoder already uses its logarithmic piece but the
result is still `≤ 0.5`, so the decoder answers with its square piece. -/
theorem C19_tf_inverse_hlg_false_on_sliver (x : ℝ) (h1 : 1 / 12 < x) (h2 : x ≤ 0.08333334317) :
    hlgDecodePos (hlgEncodePos x) ≠ x :=
  (hlg_roundtrip_sliver h1 (h2.trans hlgGapEnd_bounds.1.le)).1.ne

theorem C19_tf_inverse_hlg_not_exact :
    ¬ ∀ x : ℝ, 0 ≤ x → hlgDecodePos (hlgEncodePos x) = x := fun h =>
  C19_tf_inverse_hlg_false_on_sliver 0.08333334 (by norm_num) (by norm_num) (h _ (by norm_num))

/-- … but the round trip is within `2e-8` of the identity for every `x ≥ 0` (sliver included),
and never above. -/
theorem C19_tf_inverse_hlg_within_2e8 (x : ℝ) (hx : 0 ≤ x) :
    hlgDecodePos (hlgEncodePos x) ≤ x ∧ x - 2e-8 ≤ hlgDecodePos (hlgEncodePos x) := by
  by_cases hok : x ≤ 1 / 12 ∨ hlgGapEnd < x
  · rw [(C19_tf_inverse_hlg_iff x hx).mpr hok]
    exact ⟨le_rfl, sub_le_self x (by norm_num)⟩
  · rw [not_or, not_le, not_lt] at hok
    have := hlg_roundtrip_sliver hok.1 hok.2
    exact ⟨this.1.le, this.2⟩

/-- the sign-symmetric kernels `linear_to_hlg` / `hlg_to_linear` (`copysign (f |x|) x`) on the
whole line, off the two slivers -/
theorem C19_tf_inverse_hlg_odd (x : ℝ) (hx : |x| ≤ 1 / 12 ∨ 0.08333334318 ≤ |x|) :
    hlgDecode (hlgEncode x) = x := by
  unfold hlgDecode hlgEncode
  apply odd_inverse hlgEncodePos hlgDecodePos x hlgEncodePos_pos
  · rw [hlgEncodePos_real, if_pos (by norm_num)]
    exact Real.sqrt_nonneg _
  · exact C19_tf_inverse_hlg_off_sliver _ (abs_nonneg x) hx

/-- `linear_to_hlg` with the constants of the code is **not** monotone on `[0, ∞)`:
`1/12 ↦ 0.5` but `0.08333334 ↦` less than `0.5` (the logarithmic piece starts 2.95e-8 below the
end of the square-root piece). -/
theorem C19_tf_hlg_encode_not_monotone : ¬ MonotoneOn (hlgEncodePos : ℝ → ℝ) (Set.Ici 0) := by
  intro h
  have h1 := @h (1 / 12) (by norm_num) 0.08333334 (by norm_num) (by norm_num)
  have hs : (0.5 : ℝ) ≤ Real.sqrt (3 * (1 / 12)) := (Real.le_sqrt' (by norm_num)).mpr (by norm_num)
  rw [hlgEncodePos_real, hlgEncodePos_real, if_pos le_rfl, if_neg (by norm_num)] at h1
  -- `0.5 ≤ hlgLog 0.08333334`; applying `hlgExp`, `hlgGapEnd ≤ 0.08333334`
  have h2 := hlgExp_strictMono.monotone (hs.trans h1)
  rw [hlgExp_hlgLog (by norm_num), ← hlgGapEnd_eq] at h2
  exact absurd (hlgGapEnd_bounds.1.trans_le h2) (by norm_num)

/-- … but it is monotone once the sliver `(1/12, hlgGapEnd]` is left out (and, with
`hlgGapEnd < 0.08333334318`, on `(-∞, 1/12] ∪ [0.08333334318, ∞)`). -/
theorem C19_tf_monotone_hlg_encode_off_sliver :
    MonotoneOn (hlgEncodePos : ℝ → ℝ) (Set.Iic (1 / 12) ∪ Set.Ioi hlgGapEnd) ∧
    MonotoneOn (hlgEncodePos : ℝ → ℝ) (Set.Iic (1 / 12) ∪ Set.Ici 0.08333334318) := by
  have key : MonotoneOn (hlgEncodePos : ℝ → ℝ) (Set.Iic (1 / 12) ∪ Set.Ioi hlgGapEnd) := by
    rw [show (hlgEncodePos : ℝ → ℝ) = _ from funext hlgEncodePos_real]
    refine monotoneOn_ite (fun x _ y _ hxy => Real.sqrt_le_sqrt (by linarith))
      (fun x hx y _ hxy => hlgLog_le hx.2 hxy) fun x _ y hy hx h12 => ?_
    have hy' : hlgGapEnd < y := hy.resolve_left (not_le.mpr h12)
    exact (hlg_sqrt_le hx).trans ((hlg_log_gt_iff h12).mpr hy').le
  exact ⟨key, key.mono (Set.union_subset_union_right _ fun y hy =>
    lt_of_lt_of_le hlgGapEnd_bounds.2 hy)⟩

/-- `hlg_to_linear` is monotone on all of `[0, ∞)`: its exponential piece starts above the end of
its square piece (`hlgGapEnd > 1/12`). -/
theorem C19_tf_monotone_hlg_decode : MonotoneOn (hlgDecodePos : ℝ → ℝ) (Set.Ici 0) := by
  rw [show (hlgDecodePos : ℝ → ℝ) = _ from funext hlgDecodePos_real]
  refine monotoneOn_ite (fun x hx y _ hxy => ?_) (fun x _ y _ hxy => hlgExp_strictMono.monotone hxy)
    fun x hx y _ hx5 hy5 => ?_
  · have := mul_self_le_mul_self hx.1 hxy
    linarith
  · have h1 := hlgExp_strictMono.monotone hy5.le
    have h2 := mul_self_le_mul_self hx hx5
    rw [← hlgGapEnd_eq] at h1
    linarith [hlgGapEnd_bounds.1]

/-- At the breakpoints the encoder jumps down
(`C19_tf_hlg_encode_not_monotone`), the decoder up (`C19_tf_monotone_hlg_decode`). -/
theorem C19_tf_monotone_hlg_partial :
    MonotoneOn (hlgEncodePos : ℝ → ℝ) (Set.Iic (1 / 12)) ∧
    MonotoneOn (hlgEncodePos : ℝ → ℝ) (Set.Ioi (1 / 12)) ∧
    MonotoneOn (hlgDecodePos : ℝ → ℝ) (Set.Icc 0 0.5) ∧
    MonotoneOn (hlgDecodePos : ℝ → ℝ) (Set.Ioi 0.5) := by
  refine ⟨C19_tf_monotone_hlg_encode_off_sliver.1.mono Set.subset_union_left,
    fun x (hx : 1 / 12 < x) y (hy : 1 / 12 < y) hxy => ?_,
    C19_tf_monotone_hlg_decode.mono fun x hx => hx.1,
    C19_tf_monotone_hlg_decode.mono fun x (hx : 0.5 < x) => le_trans (by norm_num) hx.le⟩
  rw [hlgEncodePos_real, hlgEncodePos_real, if_neg (not_le.mpr hx), if_neg (not_le.mpr hy)]
  exact hlgLog_le hx hxy

/-- Where the sliver lies on the `f32` grid (spacing `2⁻²⁷` in `[1/16, 1/8)`): it contains exactly
one `f32` value, `11184811·2⁻²⁷ = 0x3DAAAAAB`, which is the rounded `1.0 / 12.0` the code compares
with — so the kernel sends it to the square-root piece (unlike the real curve with the exact
`1/12`) — and the next `f32`, `11184812·2⁻²⁷`, is already beyond `hlgGapEnd` (by 9e-11). This is
why the correspondence run sees no HLG inversion on the real kernels. (A fact about the real
curve at these two rationals; nothing here is a statement about `f32` arithmetic.) -/
theorem C19_tf_hlg_sliver_on_f32_grid :
    (11184810 : ℝ) / 2 ^ 27 < 1 / 12 ∧ (1 / 12 : ℝ) < 11184811 / 2 ^ 27 ∧
    (11184811 : ℝ) / 2 ^ 27 < hlgGapEnd ∧ hlgGapEnd < 11184812 / 2 ^ 27 := by
  refine ⟨by norm_num, by norm_num, lt_trans (by norm_num) hlgGapEnd_bounds.1,
    lt_trans hlgGapEnd_bounds.2 (by norm_num)⟩

/-- Non-vacuity on a concrete encoding (sRGB): the numbers written for it are well formed,
the synthesised profile is 572 bytes long as in the real crate and parses back, and the length
hypothesis of `C19_parse_synth_enum_fields` holds for its TRC data. -/
def exEnc : Enc := { cs := .rgb, wp := .d65, prim := .srgb, tf := .srgb, ri := .relative }

example : (namedQuant exEnc [] []).WF := namedQuant_wf exEnc [] []

def exBytes : List Nat := (synth exEnc (namedQuant exEnc [] [])).toOption.getD []

example : synth exEnc (namedQuant exEnc [] []) = .ok exBytes ∧ exBytes.length = 572 ∧
    parseIcc ratOps [] [] exBytes = .ok exEnc := by decide +kernel

example : 132 + 12 * (layoutTags 0 (pieces exEnc (namedQuant exEnc [] []) (para 3 srgbParams))).length
    + (layoutData (pieces exEnc (namedQuant exEnc [] []) (para 3 srgbParams))).length < 4294967296 := by
  decide +kernel

/-- a custom grey encoding with gamma: the symbolic parts of the theorems instantiated -/
def exGrey : Enc :=
  { cs := .grey, wp := (.custom ⟨345700, 358500⟩), prim := .srgb, tf := (.gamma 4545455 true),
    ri := .perceptual }

def exGreyQuant : Quant :=
  { chad := [], wtpt := [63190, 65536, 54061], rXYZ := [], gXYZ := [], bXYZ := [], pqLut := [],
    hlgLut := [] }

def exGreyBytes : List Nat := (synth exGrey exGreyQuant).toOption.getD []

example : synth exGrey exGreyQuant = .ok exGreyBytes ∧ u32At exGreyBytes 0 = exGreyBytes.length ∧
    exGreyBytes.length % 4 = 0 ∧ 128 < exGreyBytes.length := by decide +kernel

example : closeToInvGamma 4545455 (.gamma 21999969 false) := by unfold closeToInvGamma; decide
example : gammaParam 4545455 true = .ok 144179 := by decide
-- the hypotheses of `C19_tf_inverse_gamma` at `γ = 0.4545455`, `x = 0.5`, and of
-- `C19_tf_inverse_srgb_partial` at `x = -0.5`
example : (1e-7 : ℝ) < 0.5 ∧ (0 : ℝ) < 0.4545455 ∧ (0.4545455 : ℝ) ≤ 1 := by norm_num
example : |(-0.5 : ℝ)| ≤ 0.0031308 ∨ 0.00313081 ≤ |(-0.5 : ℝ)| := by
  right; rw [abs_of_neg (by norm_num)]; norm_num
/-- HLG: points on each side of the sliver (`C19_tf_inverse_hlg_off_sliver`), inside it
(`…_false_on_sliver`) and on the negative half (`…_odd`) meet the hypotheses -/
example : (0 : ℝ) ≤ 0.05 ∧ ((0.05 : ℝ) ≤ 1 / 12 ∨ (0.08333334318 : ℝ) ≤ 0.05) := by
  refine ⟨by norm_num, Or.inl (by norm_num)⟩
example : (0 : ℝ) ≤ 0.5 ∧ ((0.5 : ℝ) ≤ 1 / 12 ∨ (0.08333334318 : ℝ) ≤ 0.5) := by
  refine ⟨by norm_num, Or.inr (by norm_num)⟩
example : (1 / 12 : ℝ) < 0.08333334 ∧ (0.08333334 : ℝ) ≤ 0.08333334317 := by
  constructor <;> norm_num
example : |(-0.5 : ℝ)| ≤ 1 / 12 ∨ 0.08333334318 ≤ |(-0.5 : ℝ)| := by
  right; rw [abs_of_neg (by norm_num)]; norm_num
example : transformOps (.enum exEnc) (.enum exEnc) = some [] := by decide
example : isEquivalent (.enum exEnc) (.enum { exEnc with tf := .linear }) = false := by decide

end Jxl.Color
