import JxlModel.Model.Entropy.Prefix
import JxlModel.Model.Enc.Huffman
/-!
# Encoder: prefix-code histogram headers (inverse of `prefix::Histogram::parse`)
-/
namespace Jxl.Enc
open Jxl Jxl.Entropy

/-- how to write a prefix-code header -/
inductive PrefixForm
  | auto                               -- simple if the shape allows, else complex with RLE
  | simple                             -- 1–4 symbols (falls back to complex if impossible)
  | complex (rle : Bool) (hskip : Nat) -- code-length code; `hskip` ∈ {0,2,3} (0 if infeasible)
deriving Repr, DecidableEq, Inhabited

/-- the decoder that a length vector denotes: exactly one non-zero entry = zero-bit code -/
def codeOfLens (lens : List Nat) : PrefixCode :=
  match (lens.zipIdx.filter fun (l, _) => l ≠ 0) with
  | [(_, s)] => .single s
  | _ => .table (sortedSyms lens)

/-- `(symbols in header order, tree selector)` if the used part of `lens` is a simple shape -/
def simpleShape (lens : List Nat) : Option (List Nat × Option Bool) :=
  let used := (lens.zipIdx.filter fun (l, _) => l ≠ 0)
  let withLen (k : Nat) := (used.filter fun (l, _) => l = k).map (·.2)
  match used.length with
  | 1 => some (used.map (·.2), none)
  | 2 => if (withLen 1).length = 2 then some (withLen 1, none) else none
  | 3 => if (withLen 1).length = 1 ∧ (withLen 2).length = 2 then some (withLen 1 ++ withLen 2, none)
         else none
  | 4 =>
    if (withLen 2).length = 4 then some (withLen 2, some false)
    else if (withLen 1).length = 1 ∧ (withLen 2).length = 1 ∧ (withLen 3).length = 2 then
      some (withLen 1 ++ withLen 2 ++ withLen 3, some true)
    else none
  | _ => none

def writeSimple (count : Nat) (syms : List Nat) (sel : Option Bool) : Bits :=
  toBits 2 1 ++ toBits 2 (syms.length - 1) ++ syms.flatMap (toBits (clog2 count))
    ++ (match sel with | some b => [b] | none => [])

/-- code-length-code length field (inverse of `readClcLen`) -/
def writeClcLen : Nat → Bits
  | 0 => [false, false]
  | 4 => [true, false]
  | 3 => [false, true]
  | 2 => [true, true, false]
  | 1 => [true, true, true, false]
  | _ => [true, true, true, true]

/-- chained repeat digits for `reps + 3` repeats, base `b` (4 for code 16, 8 for code 17),
most significant first -/
def chainDigits (b : Nat) : Nat → Nat → List Nat → List Nat
  | 0, _, acc => acc
  | fuel+1, reps, acc =>
    let acc := reps % b :: acc
    let reps := reps / b
    if reps = 0 then acc else chainDigits b fuel (reps - 1) acc

/-- code-length symbols `(sym, extra bit count, extra value)` for the run `(v, n)` -/
def runTokens (rle : Bool) (v n : Nat) : List (Nat × Nat × Nat) :=
  if v = 0 then
    if rle ∧ n ≥ 3 then (chainDigits 8 32 (n - 3) []).map fun d => (17, 3, d)
    else List.replicate n (0, 0, 0)
  else
    if rle ∧ n ≥ 4 then
      (v, 0, 0) :: (chainDigits 4 32 (n - 4) []).map fun d => (16, 2, d)
    else List.replicate n (v, 0, 0)

/-- run-length grouping -/
def groupRuns : List Nat → List (Nat × Nat)
  | [] => []
  | a :: r =>
    match groupRuns r with
    | (b, n) :: t => if a = b then (b, n + 1) :: t else (a, 1) :: (b, n) :: t
    | [] => [(a, 1)]

def trimTrailingZeros (l : List Nat) : List Nat := (l.reverse.dropWhile (· = 0)).reverse

def clTokens (rle : Bool) (lens : List Nat) : List (Nat × Nat × Nat) :=
  (groupRuns (trimTrailingZeros lens)).flatMap fun (v, n) => runTokens rle v n

/-- code-length-code lengths in transmission order, stopping when the space is used up -/
def writeClc : List Nat → List Nat → Nat → Bits
  | [], _, _ => []
  | idx :: r, clc, acc =>
    let l := clc.getD idx 0
    let acc' := if l = 0 then acc else acc + 32 / 2 ^ l
    writeClcLen l ++ (if acc' ≥ 32 then [] else writeClc r clc acc')

def writeComplex (lens : List Nat) (rle : Bool) (hskipReq : Option Nat) : Bits :=
  let toks := clTokens rle lens
  let clc := huffLengths 5 (histogram 18 (toks.map (·.1)))
  let feasible (h : Nat) : Bool := (codeLengthOrder.take h).all fun i => clc.getD i 0 = 0
  let hskip := match hskipReq with
    | some h => if (h = 2 ∨ h = 3) ∧ feasible h then h else 0
    | none => if feasible 3 then 3 else if feasible 2 then 2 else 0
  let code := codeOfLens clc
  toBits 2 hskip ++ writeClc (codeLengthOrder.drop hskip) clc 0
    ++ toks.flatMap fun (sym, nb, x) => code.encode sym ++ toBits nb x

/-- header of one prefix histogram with alphabet size `count` (`lens` has `count` entries) -/
def writePrefix (count : Nat) (lens : List Nat) (form : PrefixForm) : Bits :=
  if count ≤ 1 then []
  else
    match form, simpleShape lens with
    | .complex _ _, some ([s], _) => writeSimple count [s] none
    | .complex rle h, _ => writeComplex lens rle (some h)
    | _, some (syms, sel) => writeSimple count syms sel
    | _, none => writeComplex lens true none

end Jxl.Enc
