import JxlModel.Model.Entropy.Decoder
import JxlModel.Model.Enc.PrefixEnc
import JxlModel.Model.Enc.AnsEnc
/-!
# Reference entropy ENCODER (import-free; links into `jxlmodel`)

## API (namespace `Jxl.Enc`; decoder-side types from `Jxl.Entropy`)

* `structure EntropyPlan` — everything the header says, for `numDist` contexts:
  `lz77 : Option Lz77Params` (`minSymbol`, `minLength`, `lenConf`; adds one distance context at
  index `numDist`), `clusterMap : List Nat` (`numDist` entries, `+1` with LZ77; values
  `0..numClusters-1`, no holes), `clusterNbits` / `clusterInner` (how the map is coded: simple with
  `clusterNbits ≤ 3` bits per entry, or `some (mtf, innerPlan)` = entropy coded by a nested
  `numDist = 1` plan, optionally move-to-front; nesting depth ≤ `planDepth = 3` as in the format),
  `coder : CoderKind` (`.prefix` or `.ans logAlphabetSize`, 5..8), `configs : List IntegerConfig`
  and `codes : List CodeSpec`, one per cluster.
* `CodeSpec`: `.lengths count lens form` (prefix code: alphabet size, length vector — Kraft sum 1,
  or exactly one non-zero entry for the zero-bit single-symbol code — and `PrefixForm`
  `.auto | .simple | .complex rle hskip`), `.dist d form` (ANS: probabilities summing to 4096 and
  `AnsForm` `.auto | .single | .binary | .flat | .general shift rle`), or `.auto pform aform`
  ("build it from the observed token frequencies": `huffLengths 15` / `normalizeAns`,
  `quantizeForShift` for `general shift`).
* `Item`: `.lit ctx value` or `.copy ctx len distCode` (LZ77 copy of `len ≥ minLength` values;
  `distCode` is the *coded* distance value, see `distCodeFor mult distance`).
* `EntropyPlan.resolve items` — replaces every `.auto` by an explicit code fitted to `items`
  (idempotent on explicit plans; also resolves nested cluster-map plans).
  `encodeHeader` / `encodeItems` expect a resolved plan.
* `encodeHeader : EntropyPlan → Bits` — what `Decoder::parse(numDist)` reads
  (`writeLz77 ++ encodeClusterMap ++ encodeCodes`); `encodeClusterMap` alone is what
  `read_clusters(totalDist)` reads.
* `encodeItems : EntropyPlan → List Item → Bits`, `encodeSymbols : EntropyPlan → List (ctx × value)
  → Bits` — the symbol stream. For ANS it starts with the 32-bit initial state (the decoder reads
  it in `begin` / before its first symbol) and is produced by the usual reverse pass so that the
  decoder ends in state `0x130000`.
* `encode plan items = (resolved plan, header ++ stream)`.
  `EntropyPlan.check items : Bool` — can the (resolved) plan express `items`? (tokens inside the
  alphabets, non-zero probabilities / lengths, literals below `minSymbol`, valid configs, cluster
  map without holes, …). `Props/C04.lean: C04_entropy_roundtrip_checked` proves that `check = true`
  suffices for the stream to decode back.
* `planDecoder p : Jxl.Entropy.Decoder` — the decoder the header of `p` denotes (for driving the
  model decoder without parsing).
* Ready-made plans: `prefixPlan numDist items`, `ansPlan numDist items` ("prefix codes please" /
  "ANS please"; one cluster per context up to 8, simple cluster map, `IntegerConfig ⟨4,1,1⟩`,
  ANS tokens must stay below 256), `autoPlan kind numDist lz cfg` (unresolved template).
* `encodePermutation plan size skip perm : Bits` — the symbols `read_permutation` reads (`plan`
  must cover contexts 0..7); `permItems` gives them as `Item`s for custom assembly.
* `expandItems mult items` — the value sequence the decoder must return (LZ77 expansion);
  `lzStep` is its one-item step.
* Helpers: `huffLengths maxLen freqs` (length-limited, Kraft-complete), `normalizeAns freqs`,
  `quantizeForShift`, `histogram`, `writePrefix`, `writeAns`, `writeConfig`, `writeLz77`.
-/
namespace Jxl.Enc
open Jxl Jxl.Entropy

inductive CoderKind
  | prefix
  | ans (logAlpha : Nat)
deriving Repr, DecidableEq, Inhabited

inductive CodeSpec
  | lengths (count : Nat) (lens : List Nat) (form : PrefixForm)
  | dist (d : List Nat) (form : AnsForm)
  | auto (pform : PrefixForm) (aform : AnsForm)
deriving Repr, Inhabited

structure EntropyPlan where
  numDist : Nat
  lz77 : Option Lz77Params := none
  clusterMap : List Nat
  clusterNbits : Nat := 3
  clusterInner : Option (Bool × EntropyPlan) := none
  coder : CoderKind := .prefix
  configs : List IntegerConfig
  codes : List CodeSpec
deriving Repr, Inhabited

inductive Item
  | lit (ctx v : Nat)
  | copy (ctx len distCode : Nat)
deriving Repr, DecidableEq, Inhabited

/-- one coded token in decoding order -/
structure Tok where
  cluster : Nat
  sym : Nat
  extra : Bits
deriving Repr, Inhabited

namespace EntropyPlan

def logAlpha (p : EntropyPlan) : Nat :=
  match p.coder with | .prefix => 15 | .ans la => la

def numClusters (p : EntropyPlan) : Nat := listMax p.clusterMap + 1

def totalDist (p : EntropyPlan) : Nat := if p.lz77.isSome then p.numDist + 1 else p.numDist

def clusterOf (p : EntropyPlan) (ctx : Nat) : Nat := p.clusterMap.getD ctx 0

def config (p : EntropyPlan) (cluster : Nat) : IntegerConfig := p.configs.getD cluster default

def lzCluster (p : EntropyPlan) : Nat := p.clusterMap.getLastD 0

/-- tokens of one item -/
def itemToks (p : EntropyPlan) : Item → List Tok
  | .lit ctx v =>
    let c := p.clusterOf ctx
    [⟨c, tokenOf (p.config c) v, uintBits (p.config c) v⟩]
  | .copy ctx len dc =>
    match p.lz77 with
    | none => []
    | some lz =>
      let c := p.clusterOf ctx
      let n := len - lz.minLength
      [⟨c, lz.minSymbol + tokenOf lz.lenConf n, uintBits lz.lenConf n⟩,
       ⟨p.lzCluster, tokenOf (p.config p.lzCluster) dc, uintBits (p.config p.lzCluster) dc⟩]

def toks (p : EntropyPlan) (items : List Item) : List Tok := items.flatMap p.itemToks

end EntropyPlan

/-- the code a `CodeSpec` denotes on the decoder side (prefix) -/
def CodeSpec.prefixCode : CodeSpec → PrefixCode
  | .lengths count lens _ => if count ≤ 1 then .single 0 else codeOfLens lens
  | _ => .single 0

/-- padded distribution and alphabet size the decoder derives for an ANS spec -/
def ansAlphabet (d : List Nat) (form : AnsForm) : Nat :=
  let u := usedSyms d
  match effectiveForm d form with
  | .single => u.getD 0 0 + 1
  | .binary => max (u.getD 0 0) (u.getD 1 0) + 1
  | .flat => u.length
  | .general _ _ => generalAlphabet d
  | .auto => 0

def CodeSpec.ansHist (la : Nat) : CodeSpec → AnsHist
  | .dist d form =>
    AnsHist.build la ⟨d ++ List.replicate (2 ^ la - d.length) 0, ansAlphabet d form⟩
  | _ => default

/-- the `Coder` a (resolved) plan's histograms denote -/
def planCode (p : EntropyPlan) : Code :=
  match p.coder with
  | .prefix => .prefix (p.codes.map CodeSpec.prefixCode)
  | .ans la => .ans (p.codes.map (CodeSpec.ansHist la))

/-- the decoder that `Decoder::parse` builds from `encodeHeader p` (for a resolved, checked plan
with one config and code per cluster: `C04_header_roundtrip`) -/
def planDecoder (p : EntropyPlan) : Decoder := ⟨p.lz77, p.clusterMap, p.configs, planCode p⟩

/-! ## Resolving `.auto` codes from observed tokens -/

def resolveCode (kind : CoderKind) (tokens : List Nat) : CodeSpec → CodeSpec
  | .auto pform aform =>
    let n := listMax tokens + 1
    let n := if tokens.isEmpty then 1 else n
    let freqs := histogram n tokens
    match kind with
    | .prefix => .lengths n (huffLengths 15 freqs) pform
    | .ans _ =>
      let used := (freqs.filter (· ≠ 0)).length
      match aform with
      | .flat => .dist (flatDist n) .flat
      | .general shift rle =>
        if used ≥ 2 then .dist (quantizeForShift (min shift 13) (normalizeAns freqs)) (.general (min shift 13) rle)
        else .dist (normalizeAns freqs) .auto
      | .single => .dist (normalizeAns freqs) (if used ≤ 1 then .single else .auto)
      | .binary => .dist (normalizeAns freqs) (if used = 2 then .binary else .auto)
      | .auto => .dist (normalizeAns freqs) .auto
  | c => c

/-- the ids the nested cluster-map decoder has to produce -/
def clusterIds (mtf : Bool) (cm : List Nat) : List Nat := if mtf then mtfEncode cm else cm

/-- nesting depth that the format allows for cluster-map plans (see `parseDecoder`) -/
def planDepth : Nat := 3

def EntropyPlan.resolveD : Nat → EntropyPlan → List Item → EntropyPlan
  | depth, p, items =>
    let ts := p.toks items
    let codes := p.codes.zipIdx.map fun (c, i) =>
      resolveCode p.coder ((ts.filter fun t => t.cluster = i).map (·.sym)) c
    let inner := match depth, p.clusterInner with
      | d+1, some (mtf, ip) =>
        some (mtf, resolveD d ip ((clusterIds mtf p.clusterMap).map fun v => .lit 0 v))
      | _, _ => none
    { p with codes := codes, clusterInner := inner }

def EntropyPlan.resolve (p : EntropyPlan) (items : List Item) : EntropyPlan :=
  p.resolveD planDepth items

/-! ## Header -/

def writeConfig (la : Nat) (c : IntegerConfig) : Bits :=
  toBits (addLog2Ceil la) c.splitExponent ++
  (if c.splitExponent ≠ la then
     toBits (addLog2Ceil c.splitExponent) c.msbInToken ++
     toBits (addLog2Ceil (c.splitExponent - c.msbInToken)) c.lsbInToken
   else [])

def writeLz77 : Option Lz77Params → Bits
  | none => [false]
  | some lz =>
    let ms := if lz.minSymbol = 224 then toBits 2 0 else if lz.minSymbol = 512 then toBits 2 1
      else if lz.minSymbol = 4096 then toBits 2 2 else toBits 2 3 ++ toBits 15 (lz.minSymbol - 8)
    let ml := if lz.minLength = 3 then toBits 2 0 else if lz.minLength = 4 then toBits 2 1
      else if lz.minLength ≤ 8 then toBits 2 2 ++ toBits 2 (lz.minLength - 5)
      else toBits 2 3 ++ toBits 8 (lz.minLength - 9)
    [true] ++ ms ++ ml ++ writeConfig 8 lz.lenConf

/-- inverse of `readPrefixCount` -/
def writePrefixCount (count : Nat) : Bits :=
  if count ≤ 1 then [false]
  else let n := Nat.log2 (count - 1); [true] ++ toBits 4 n ++ toBits n (count - 1 - 2 ^ n)

/-- prefix-coded token stream -/
def encodeToksPrefix (codes : List PrefixCode) : List Tok → Bits
  | [] => []
  | t :: r => (codes.getD t.cluster default).encode t.sym ++ (t.extra ++ encodeToksPrefix codes r)

/-- rANS token stream, built backwards: returns the state the decoder must start from and the
bits that follow the 32-bit state. A token with probability 0 is skipped (`check` reports it). -/
def encodeToksAns (hists : List AnsHist) (revs : List (Array (Array Nat))) : List Tok → Nat × Bits
  | [] => (ansFinalState, [])
  | t :: r =>
    let (x, bits) := encodeToksAns hists revs r
    let h := hists.getD t.cluster default
    let dSym := symDist h t.sym
    if dSym = 0 then (x, t.extra ++ bits)
    else
      let (x', w) := ansEncStep dSym (aliasInv h (revs.getD t.cluster #[]) t.sym) x
      (x', stepBits w ++ (t.extra ++ bits))

/-- symbol stream of a resolved plan -/
def encodeToks (p : EntropyPlan) (ts : List Tok) : Bits :=
  match p.coder with
  | .prefix => encodeToksPrefix (p.codes.map CodeSpec.prefixCode) ts
  | .ans la =>
    let hists := p.codes.map (CodeSpec.ansHist la)
    let revs := hists.map fun h => buildRev h (2 ^ la)
    let (x, bits) := encodeToksAns hists revs ts
    toBits 32 x ++ bits

def encodeItems (p : EntropyPlan) (items : List Item) : Bits := encodeToks p (p.toks items)

def encodeSymbols (p : EntropyPlan) (syms : List (Nat × Nat)) : Bits :=
  encodeItems p (syms.map fun (c, v) => .lit c v)

/-- alphabet-size field of a prefix histogram -/
def CodeSpec.countBits : CodeSpec → Bits
  | .lengths count _ _ => writePrefixCount count
  | _ => [false]

/-- alphabet size of a prefix histogram -/
def CodeSpec.count : CodeSpec → Nat
  | .lengths count _ _ => count
  | _ => 1

/-- prefix histogram header -/
def CodeSpec.prefixHeader : CodeSpec → Bits
  | .lengths count lens form => writePrefix count lens form
  | _ => []

/-- ANS histogram header -/
def CodeSpec.ansHeader : CodeSpec → Bits
  | .dist d form => writeAns d form
  | _ => [true, false, false]

/-- everything after the cluster map: coder kind, configs, histograms -/
def encodeCodes (p : EntropyPlan) : Bits :=
  let nc := p.numClusters
  let la := p.logAlpha
  let kind : Bits := match p.coder with | .prefix => [true] | .ans la => [false] ++ toBits 2 (la - 5)
  let cfgs := (p.configs.take nc).flatMap (writeConfig la)
  let codes : Bits := match p.coder with
    | .prefix =>
      (p.codes.take nc).flatMap CodeSpec.countBits ++ (p.codes.take nc).flatMap CodeSpec.prefixHeader
    | .ans _ => (p.codes.take nc).flatMap CodeSpec.ansHeader
  kind ++ cfgs ++ codes

/-- what `read_clusters(totalDist)` reads -/
def encodeClusterMapD : Nat → EntropyPlan → Bits
  | 0, p =>
    if p.totalDist = 1 then []
    else [true] ++ toBits 2 p.clusterNbits ++ p.clusterMap.flatMap (toBits p.clusterNbits)
  | d+1, p =>
    if p.totalDist = 1 then []
    else match p.clusterInner with
      | some (mtf, ip) =>
        [false, mtf] ++ (writeLz77 ip.lz77 ++ encodeClusterMapD d ip ++ encodeCodes ip) ++
          encodeSymbols ip ((clusterIds mtf p.clusterMap).map fun v => (0, v))
      | none => [true] ++ toBits 2 p.clusterNbits ++ p.clusterMap.flatMap (toBits p.clusterNbits)

def encodeHeaderD (depth : Nat) (p : EntropyPlan) : Bits :=
  writeLz77 p.lz77 ++ encodeClusterMapD depth p ++ encodeCodes p

def encodeClusterMap (p : EntropyPlan) : Bits := encodeClusterMapD planDepth p

def encodeHeader (p : EntropyPlan) : Bits := encodeHeaderD planDepth p

/-- resolve, then header and stream -/
def encode (p : EntropyPlan) (items : List Item) : EntropyPlan × Bits :=
  let r := p.resolve items
  (r, encodeHeader r ++ encodeItems r items)

/-! ## Validity of a resolved plan for a sequence -/

def codeOk (kind : CoderKind) (tokens : List Nat) : CodeSpec → Bool
  | .lengths count lens _ =>
    kind == .prefix && decide (1 ≤ count) && decide (count ≤ 2 ^ 15) && lens.length == count &&
    lens.all (· ≤ 15) &&
    (if count = 1 then tokens.all (· = 0)
     else
       match codeOfLens lens with
       | .single s => tokens.all (· = s)
       | .table _ => kraft lens == 2 ^ 15 && tokens.all fun t => lens.getD t 0 ≠ 0)
  | .dist d _ =>
    match kind with
    | .prefix => false
    | .ans la => decide (5 ≤ la) && decide (la ≤ 8) && decide (d.length ≤ 2 ^ la) &&
        d.foldl (· + ·) 0 == 4096 && tokens.all fun t => d.getD t 0 ≠ 0
  | .auto _ _ => false

def EntropyPlan.checkD : Nat → EntropyPlan → List Item → Bool
  | depth, p, items =>
  let ts := p.toks items
  let nc := p.numClusters
  p.clusterMap.length == p.totalDist && decide (p.totalDist ≥ 1) && decide (nc ≤ 256) &&
  distinctCount p.clusterMap == nc &&
  decide (p.configs.length ≥ nc) && decide (p.codes.length ≥ nc) &&
  (p.configs.take nc).all (fun c => c.valid p.logAlpha) &&
  (match depth, p.clusterInner with
   | d+1, some (mtf, ip) =>
     ip.numDist == 1 && (decide (p.totalDist > 2) || ip.lz77.isNone) &&
     checkD d ip ((clusterIds mtf p.clusterMap).map fun v => .lit 0 v)
   | _, some _ => false
   | _, none => p.totalDist == 1 || (decide (p.clusterNbits ≤ 3) && p.clusterMap.all (· < 2 ^ p.clusterNbits))) &&
  (match p.lz77 with
   | none => items.all (fun i => match i with | .lit c _ => decide (c < p.numDist) | .copy .. => false)
   | some lz =>
     lz.lenConf.valid 8 && decide (lz.minLength ≥ 3) && decide (lz.minLength ≤ 264) &&
     (lz.minSymbol == 224 || lz.minSymbol == 512 || lz.minSymbol == 4096 ||
       (decide (8 ≤ lz.minSymbol) && decide (lz.minSymbol < 8 + 2 ^ 15))) &&
     (match items with | .copy .. :: _ => false | _ => true) &&
     items.all (fun i => match i with
       | .lit c v => decide (c < p.numDist) && decide (tokenOf (p.config (p.clusterOf c)) v < lz.minSymbol)
       | .copy c len _ => decide (c < p.numDist) && decide (len ≥ lz.minLength) &&
           decide (len - lz.minLength < 2 ^ 32))) &&
  items.all (fun i => match i with | .lit _ v => decide (v < 2 ^ 32) | .copy _ _ dc => decide (dc < 2 ^ 32)) &&
  (p.codes.take nc).zipIdx.all fun (c, i) =>
    codeOk p.coder ((ts.filter fun t => t.cluster = i).map (·.sym)) c

def EntropyPlan.check (p : EntropyPlan) (items : List Item) : Bool := p.checkD planDepth items

/-! ## LZ77 helpers -/

/-- a coded distance value that makes the decoder copy from `distance ≥ 1` back (given the
multiplier): a special-distance code if one matches, else the plain code. -/
def distCodeFor (mult distance : Nat) : Nat :=
  if mult = 0 then distance - 1
  else
    match (List.range 120).find? (fun k => lzRawDistance mult k + 1 = distance) with
    | some k => k
    | none => distance - 1 + 120

/-- history (most recent first) after one item -/
def lzStep (mult : Nat) (hist : List Nat) : Item → List Nat
  | .lit _ v => v :: hist
  | .copy _ len dc => copyBack (lzCopyDistance mult dc hist.length) len hist

/-- what the decoder returns for `items` (numDecoded-clamped distances as in the decoder) -/
def expandItems (mult : Nat) (items : List Item) : List Nat :=
  (items.foldl (lzStep mult) []).reverse

/-! ## Ready-made plans -/

/-- one cluster per context (at most 8 clusters; contexts beyond share the last), all codes
`.auto`, simple cluster map -/
def autoPlan (kind : CoderKind) (numDist : Nat) (lz : Option Lz77Params := none)
    (cfg : IntegerConfig := ⟨4, 1, 1⟩) : EntropyPlan :=
  let total := if lz.isSome then numDist + 1 else numDist
  let cm := (List.range total).map fun i => min i 7
  let nc := listMax cm + 1
  { numDist := numDist, lz77 := lz, clusterMap := cm, clusterNbits := 3, coder := kind,
    configs := List.replicate nc cfg, codes := List.replicate nc (.auto .auto .auto) }

/-- "prefix codes please" -/
def prefixPlan (numDist : Nat) (items : List Item) : EntropyPlan :=
  (autoPlan .prefix numDist).resolve items

/-- "ANS please" (`log_alphabet_size = 8`; tokens must stay below 256) -/
def ansPlan (numDist : Nat) (items : List Item) : EntropyPlan :=
  (autoPlan (.ans 8) numDist).resolve items

/-! ## Permutations -/

/-- the symbols `read_permutation(size, skip)` reads for `perm` -/
def permItems (size skip : Nat) (perm : List Nat) : List Item :=
  let lehmer := lehmerEncode size skip perm
  let ctxs := (0 :: lehmer).map permContext   -- context of entry i is that of entry i-1 (0 first)
  .lit (permContext size) lehmer.length :: (lehmer.zip ctxs).map fun (v, c) => .lit c v

def encodePermutation (p : EntropyPlan) (size skip : Nat) (perm : List Nat) : Bits :=
  encodeItems p (permItems size skip perm)

end Jxl.Enc
