import JxlModel.Model.Entropy.Ans
import JxlModel.Model.Entropy.Cluster
import JxlModel.Model.Enc.Huffman
/-!
# Encoder: ANS histogram headers (inverse of `ans::Histogram::parse`) and the rANS encoder step
-/
namespace Jxl.Enc
open Jxl Jxl.Entropy

/-- which header form to use for an ANS distribution -/
inductive AnsForm
  | auto                          -- single / binary if possible, else general(13, rle)
  | single                        -- one symbol with probability 4096
  | binary                        -- two symbols
  | flat                          -- evenly distributed over `alphabet_size` symbols
  | general (shift : Nat) (rle : Bool)  -- log-counts; `shift ≤ 13`; precision limited by `shift`
deriving Repr, DecidableEq, Inhabited

/-- inverse of `readU8` -/
def writeU8 (v : Nat) : Bits :=
  if v = 0 then [false]
  else let n := Nat.log2 v; true :: toBits 3 n ++ toBits n (v - 2 ^ n)

/-- inverse of `readLogCount` -/
def writeLogCount : Nat → Bits
  | 10 => toBits 3 0
  | 4 => toBits 3 1 ++ [true]
  | 0 => toBits 3 1 ++ [false, true]
  | 11 => toBits 3 1 ++ [false, false, true]
  | 13 => toBits 3 1 ++ [false, false, false, true]
  | 12 => toBits 3 1 ++ [false, false, false, false]
  | 7 => toBits 3 2
  | 1 => toBits 3 3 ++ [true]
  | 3 => toBits 3 3 ++ [false]
  | 6 => toBits 3 4
  | 8 => toBits 3 5
  | 9 => toBits 3 6
  | 2 => toBits 3 7 ++ [true]
  | _ => toBits 3 7 ++ [false]      -- 5

/-- inverse of the shift field -/
def writeShift (shift : Nat) : Bits :=
  if shift = 0 then [false]
  else if shift ≤ 2 then [true, false] ++ toBits 1 (shift - 1)
  else if shift ≤ 6 then [true, true, false] ++ toBits 2 (shift - 3)
  else [true, true, true] ++ toBits 3 (shift - 7)

/-- log-count code of a probability: 0 ↦ 0, else floor(log2 d) + 1 -/
def logCount (d : Nat) : Nat := if d = 0 then 0 else Nat.log2 d + 1

/-- number of mantissa bits transmitted for log-count `code` under `shift` -/
def mantissaBits (shift code : Nat) : Nat :=
  let zeros := code - 1
  min (shift - (12 - zeros) / 2) zeros

/-- position that is omitted: first index with the maximal log-count -/
def omitPos (d : List Nat) : Nat :=
  let codes := d.map logCount
  let m := listMax codes
  codes.idxOf m

/-- round the distribution so that `general shift` can express it: every entry except the omitted
one loses the mantissa bits that are not transmitted; the omitted entry absorbs the difference -/
def quantizeForShift (shift : Nat) (d : List Nat) : List Nat :=
  let op := omitPos d
  let q := d.zipIdx.map fun (x, i) =>
    if i = op ∨ x ≤ 1 then x
    else
      let code := logCount x
      let drop := (code - 1) - mantissaBits shift code
      x / 2 ^ drop * 2 ^ drop
  let others := (q.zipIdx.foldl (fun a (x, i) => if i = op then a else a + x) 0)
  q.set op (4096 - others)

/-- runs `(start, len)` coded with the RLE marker: `len ≥ 4` entries equal to the entry before
`start` (0 at the very beginning), never containing the omitted position nor starting right after
it. Greedy, maximal, `len ≤ 255 + 4`. -/
def findRuns (op : Nat) (d : Array Nat) (n : Nat) : Nat → Nat → List (Nat × Nat) → List (Nat × Nat)
  | 0, _, acc => acc.reverse
  | fuel+1, i, acc =>
    if i ≥ n then acc.reverse
    else
      let prev := if i = 0 then 0 else d[i - 1]!
      if i = op ∨ (i ≠ 0 ∧ i - 1 = op) ∨ d[i]! ≠ prev then findRuns op d n fuel (i + 1) acc
      else
        -- extend
        let rec ext (f j : Nat) : Nat :=
          match f with
          | 0 => j
          | f+1 => if j < n ∧ j ≠ op ∧ d[j]! = prev ∧ j - i < 259 then ext f (j + 1) else j
        let j := ext 300 i
        if j - i ≥ 4 then findRuns op d n fuel j ((i, j - i) :: acc)
        else findRuns op d n fuel (i + 1) acc

/-- alphabet size declared by the general form: last used index + 1, at least 3 -/
def generalAlphabet (d : List Nat) : Nat :=
  max 3 ((trimTrailingZeros' d).length)
where trimTrailingZeros' (l : List Nat) : List Nat := (l.reverse.dropWhile (· = 0)).reverse

def writeGeneral (d : List Nat) (shift : Nat) (rle : Bool) : Bits :=
  let a := generalAlphabet d
  let arr := (d ++ List.replicate (a - d.length) 0).toArray
  let op := omitPos d
  let runs := if rle then findRuns op arr a (a + 1) 0 [] else []
  let inRun (i : Nat) : Bool := runs.any fun (s, l) => s ≤ i ∧ i < s + l
  let idxs := List.range a
  let part1 := idxs.flatMap fun i =>
    match runs.find? (fun (s, _) => s = i) with
    | some (_, l) => writeLogCount 13 ++ writeU8 (l - 4)
    | none => if inRun i then [] else writeLogCount (logCount arr[i]!)
  let part2 := idxs.flatMap fun i =>
    if inRun i ∨ i = op then []
    else
      let x := arr[i]!
      let code := logCount x
      if code > 1 then
        let zeros := code - 1
        let bc := mantissaBits shift code
        toBits bc ((x - 2 ^ zeros) / 2 ^ (zeros - bc))
      else []
  [false, false] ++ writeShift shift ++ writeU8 (a - 3) ++ part1 ++ part2

def flatDist (a : Nat) : List Nat :=
  List.replicate (4096 % a) (4096 / a + 1) ++ List.replicate (a - 4096 % a) (4096 / a)

/-- used symbols of a distribution -/
def usedSyms (d : List Nat) : List Nat := (d.zipIdx.filter fun (x, _) => x ≠ 0).map (·.2)

/-- ANS histogram header. `d` sums to 4096. If the requested form cannot express `d` exactly the
general form with full precision (`shift = 13`) is used instead (`ansFormOk` tells). -/
def ansFormOk (d : List Nat) : AnsForm → Bool
  | .auto => true
  | .single => (usedSyms d).length = 1
  | .binary => (usedSyms d).length = 2
  | .flat => let a := (usedSyms d).length; a ≥ 1 ∧ d.take a = flatDist a ∧ (d.drop a).all (· = 0)
  | .general shift _ => shift ≤ 13 ∧ (usedSyms d).length ≥ 2 ∧ quantizeForShift shift d = d

/-- the form actually written: the requested one if it can express `d`, else single / binary /
general with full precision -/
def effectiveForm (d : List Nat) (form : AnsForm) : AnsForm :=
  let u := usedSyms d
  let form : AnsForm := if ansFormOk d form then form else .auto
  match form with
  | .auto => if u.length = 1 then .single else if u.length = 2 then .binary else .general 13 true
  | f => f

def writeAns (d : List Nat) (form : AnsForm) : Bits :=
  let u := usedSyms d
  match effectiveForm d form with
  | .single => [true, false] ++ writeU8 (u.getD 0 0)
  | .binary =>
    let v0 := u.getD 0 0
    let v1 := u.getD 1 0
    [true, true] ++ writeU8 v0 ++ writeU8 v1 ++ toBits 12 (d.getD v0 0)
  | .flat => [false, true] ++ writeU8 (u.length - 1)
  | .general shift rle => writeGeneral d shift rle
  | .auto => []

/-! ## rANS encoder -/

/-- reverse alias map of a histogram: `rev[sym][offset] = idx` -/
def buildRev (h : AnsHist) (tableSize : Nat) : Array (Array Nat) :=
  let bucketsA := h.buckets.toArray
  let B := 2 ^ h.logBucketSize
  let lookupA (idx : Nat) : Nat × Nat :=
    let i := idx / B
    let pos := idx % B
    let b := bucketsA.getD i default
    if pos ≥ b.cutoff then (b.aliasSym, b.aliasOff + pos) else (i, pos)
  let init : Array (Array Nat) := (h.buckets.map fun b => Array.replicate b.dist 0).toArray
  let init := if init.size < tableSize then init ++ Array.replicate (tableSize - init.size) #[] else init
  (List.range 4096).foldl (fun rev idx =>
    let (s, o) := lookupA idx
    if s < rev.size then rev.modify s (fun a => if o < a.size then a.set! o idx else a) else rev) init

/-- probability of `sym` under `h` (the bucket with index `sym` keeps the symbol's own `dist`) -/
def symDist (h : AnsHist) (sym : Nat) : Nat := (h.buckets.getD sym default).dist

/-- index with `lookup idx = (sym, off, _)`: the fast table, checked; linear search otherwise.
Correct whenever such an index exists below 4096 (`aliasInv_spec`, `Proofs/Entropy/Seq.lean`). -/
def aliasInv (h : AnsHist) (rev : Array (Array Nat)) (sym off : Nat) : Nat :=
  let c := (rev.getD sym #[]).getD off 0
  let ok (idx : Nat) : Bool := decide (h.lookup idx = (sym, off, symDist h sym))
  if c < 4096 ∧ ok c then c else ((List.range 4096).find? ok).getD 0

/-- one encoder step (inverse of `AnsHist.readSymbol`): from the state *after* the symbol to the
state *before* it, and the 16-bit word the decoder will pull in after decoding the symbol -/
def ansEncStep (dSym : Nat) (inv : Nat → Nat) (x : Nat) : Nat × Option Nat :=
  let (x1, w) := if x / 2 ^ 20 ≥ dSym then (x / 2 ^ 16, some (x % 2 ^ 16)) else (x, none)
  ((x1 / dSym) * 4096 + inv (x1 % dSym), w)

/-- bits the encoder emits for one step -/
def stepBits : Option Nat → Bits
  | some w => toBits 16 w
  | none => []

end Jxl.Enc
