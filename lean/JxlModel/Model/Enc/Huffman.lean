import JxlModel.Model.Entropy.Reader
/-!
# Encoder helpers: code construction from frequencies

* `huffLengths maxLen freqs` — code lengths `≤ maxLen` with Kraft sum exactly 1 whenever at least
  two symbols are used (heuristic `⌈log2(total/f)⌉` + Kraft repair; not optimal, always valid).
  One used symbol ↦ that symbol gets length 1 (callers treat "exactly one non-zero length" as the
  zero-bit single-symbol code). No used symbol ↦ all zeros.
* `normalizeAns freqs` — distribution summing to 4096 with every used symbol ≥ 1.
-/
namespace Jxl.Enc
open Jxl.Entropy

structure HSym where
  sym : Nat
  f : Nat
  l : Nat
deriving Repr, Inhabited

def hKraft (maxLen : Nat) (l : List HSym) : Nat := l.foldl (fun a h => a + 2 ^ (maxLen - h.l)) 0

/-- lengthen (least frequent first) while over-subscribed -/
def lengthenPass (maxLen : Nat) : List HSym → Nat → List HSym × Nat
  | [], k => ([], k)
  | h :: r, k =>
    -- lengthen h as far as needed/possible
    let rec go (fuel : Nat) (l k : Nat) : Nat × Nat :=
      match fuel with
      | 0 => (l, k)
      | fuel+1 =>
        if k > 2 ^ maxLen ∧ l < maxLen then go fuel (l + 1) (k - 2 ^ (maxLen - l - 1)) else (l, k)
    let (l', k') := go maxLen h.l k
    let (r', k'') := lengthenPass maxLen r k'
    ({ h with l := l' } :: r', k'')

/-- shorten (most frequent first) while there is room; `d` = missing Kraft mass -/
def shortenPass (maxLen : Nat) : List HSym → Nat → List HSym × Nat
  | [], d => ([], d)
  | h :: r, d =>
    let rec go (fuel : Nat) (l d : Nat) : Nat × Nat :=
      match fuel with
      | 0 => (l, d)
      | fuel+1 =>
        if l > 1 ∧ 2 ^ (maxLen - l) ≤ d then go fuel (l - 1) (d - 2 ^ (maxLen - l)) else (l, d)
    let (l', d') := go maxLen h.l d
    let (r', d'') := shortenPass maxLen r d'
    ({ h with l := l' } :: r', d'')

def shortenLoop (maxLen : Nat) : Nat → List HSym → Nat → List HSym
  | 0, hs, _ => hs
  | fuel+1, hs, d =>
    if d = 0 then hs
    else
      let (hs', d') := shortenPass maxLen hs d
      if d' = d then hs' else shortenLoop maxLen fuel hs' d'

def huffLengths (maxLen : Nat) (freqs : List Nat) : List Nat :=
  let used := (freqs.zipIdx.filter fun (f, _) => f > 0)
  match used with
  | [] => freqs.map fun _ => 0
  | [(_, s)] => freqs.zipIdx.map fun (_, i) => if i = s then 1 else 0
  | _ =>
    let total := used.foldl (fun a p => a + p.1) 0
    let init : List HSym := used.map fun (f, s) =>
      ⟨s, f, max 1 (min maxLen (clog2 ((total + f - 1) / f)))⟩
    -- ascending frequency for lengthening
    let asc := init.mergeSort (fun a b => a.f ≤ b.f)
    let (asc', k) := lengthenPass maxLen asc (hKraft maxLen asc)
    let desc := asc'.reverse
    let fin := shortenLoop maxLen (maxLen * 2 + 4) desc (2 ^ maxLen - k)
    let arr : Array Nat := fin.foldl (fun a h => a.set! h.sym h.l) (Array.replicate freqs.length 0)
    arr.toList

/-- subtract `excess` from the entries, largest first, never below 1 -/
def takeFrom : List (Nat × Nat) → Nat → List (Nat × Nat)
  | [], _ => []
  | (d, i) :: r, ex =>
    let t := min ex (d - 1)
    (d - t, i) :: takeFrom r (ex - t)

def normalizeAns (freqs : List Nat) : List Nat :=
  let total := freqs.foldl (· + ·) 0
  if total = 0 then freqs.zipIdx.map fun (_, i) => if i = 0 then 4096 else 0
  else
    let d0 := freqs.map fun f => if f = 0 then 0 else max 1 (f * 4096 / total)
    let sum := d0.foldl (· + ·) 0
    let sorted := (d0.zipIdx.filter fun (d, _) => d > 0).mergeSort (fun a b => a.1 ≥ b.1)
    let fixed : List (Nat × Nat) :=
      if sum > 4096 then takeFrom sorted (sum - 4096)
      else match sorted with
        | [] => []
        | (d, i) :: r => (d + (4096 - sum), i) :: r
    let arr : Array Nat := fixed.foldl (fun a p => a.set! p.2 p.1) (Array.replicate freqs.length 0)
    arr.toList

/-- frequencies of values `< n` in a list -/
def histogram (n : Nat) (l : List Nat) : List Nat :=
  (l.foldl (fun (a : Array Nat) v => if v < a.size then a.set! v (a[v]! + 1) else a)
    (Array.replicate n 0)).toList

end Jxl.Enc
