import JxlModel.Model.Bundle
/-!
# Hand-written header parsers, as descriptions (C14)

The parsers below are *not* generated by `define_bundle!` in the Rust source; they are modelled
by hand in the same DSL (`Jxl.Bundle`). Each names the Rust function it mirrors. Field order =
read order, so the first error met is the same on both sides.

`tools/translate.py` extracts, for every function named here, the sequence of primitive reads
(`handPrims`, incl. every `U32(..)` distribution) and a hash of its source text (`handHashes`);
`Props/C14.lean` proves that every read sequence expected at the end of this file is among the
extracted ones, that the extracted `TryFrom` domains and float tables equal the ones here, and
that the extracted hashes equal the pinned ones, so a change of the Rust source breaks a theorem
instead of going unnoticed.
-/
namespace Jxl.Headers
open Jxl.Bundle

/-- primitive reads of a hand-written parser, in source order (what the translator extracts) -/
inductive Prim
  | u32 (d0 d1 d2 d3 : Dist)
  | bits (n : Nat)
  | bitsExpr (e : String)
  | bool
  | u64
  | f16
  | enum (name : String)
  | pad
  | skip
  | sub (name : String)
deriving Repr, DecidableEq

namespace Parts

/-! ### expression shorthands -/
def v (x : String) : Expr := .var x
def n (k : Nat) : Expr := .nat k
def tt : Expr := .bool true
def eqn (e : Expr) (k : Nat) : Expr := .bin .eq e (.nat k)
def nen (e : Expr) (k : Nat) : Expr := .bin .ne e (.nat k)
def and' (a b : Expr) : Expr := .bin .and a b
def or' (a b : Expr) : Expr := .bin .or a b
def noCtx : Expr := .record []
def f32s (l : List Nat) : Expr := .list (l.map .f32)
def always (name : String) (ty : FieldTy) : Field := .mk name ty tt none

/-! ### discriminants (the `valid*` domains are checked against the generated `tryFrom` table; the
single discriminants below them are compared with nothing) -/
def validExtraChannelType : List Nat := [0, 1, 2, 3, 4, 5, 6, 15, 16]
def validColourSpace : List Nat := [0, 1, 2, 3]
def validWhitePoint : List Nat := [1, 2, 10, 11]
def validPrimaries : List Nat := [1, 2, 9, 11]
def validRenderingIntent : List Nat := [0, 1, 2, 3]
def validTransferFunction : List Nat := [1, 2, 8, 13, 16, 17, 18]

def csGrey : Nat := 1
def csXyb : Nat := 2
def ectAlpha : Nat := 0
def ectSpotColour : Nat := 2
def ectCfa : Nat := 5
def encVarDct : Nat := 0
def encModular : Nat := 1

/-- `jxl-image/src/lib.rs`, `impl Bundle for BitDepth { fn parse }` (+ `Default`: integer, 8 bits).
`bits_per_sample` is the reported value (float or integer branch). -/
def bitDepthFields : Bundle := [
  .mk "float_sample" .bool tt (some (.bool false)),
  .mk "fbits" (.u32 (.const 32) (.const 16) (.const 24) (.bits 1 6)) (v "float_sample") (some (n 0)),
  .mk "exp_bits" (.cu 1 4) (v "float_sample") (some (n 0)),
  .mk "_exp_ok"
    (.assert (and' (.bin .ge (v "exp_bits") (n 2)) (.bin .le (v "exp_bits") (n 8))) "validation")
    (v "float_sample") none,
  -- mantissa_bits = bits_per_sample.wrapping_sub(exp_bits + 1) must be in 2..=23
  .mk "_mant_ok"
    (.assert (.letE "m" (.call "as_u32" [.bin .sub (.bin .sub (.call "as_i64" [v "fbits"])
                (.call "as_i64" [v "exp_bits"])) (.int 1)])
              (and' (.bin .ge (v "m") (n 2)) (.bin .le (v "m") (n 23)))) "validation")
    (v "float_sample") none,
  .mk "ibits" (.u32 (.const 8) (.const 10) (.const 12) (.bits 1 6)) (.not (v "float_sample")) (some (n 8)),
  .mk "_int_ok" (.assert (.bin .le (v "ibits") (n 31)) "validation") (.not (v "float_sample")) none,
  .mk "bits_per_sample" (.u 0) (.bool false) (some (.ite (v "float_sample") (v "fbits") (v "ibits")))]
def bitDepth : FieldTy := .bundle noCtx bitDepthFields

/-- `jxl-oxide-common/src/lib.rs`, `impl Bundle for Name { fn parse }`: length, bytes, then
`String::from_utf8` -/
def nameFields : Bundle := [
  always "len" (.u32 (.const 0) (.bits 0 4) (.bits 16 5) (.bits 48 10)),
  always "data" (.vec (.u 8) (v "len")),
  always "_utf8" (.assert (.call "utf8_valid" [v "data"]) "validation")]
def name : FieldTy := .bundle noCtx nameFields

/-- `jxl-image/src/lib.rs`, `impl Bundle for Extensions { fn parse }`: `extension_bits`, one `U64`
length per set bit, then every payload is skipped (`skip_bits`, sequentially — same as skipping
the sum; the payload is not reported) -/
def extensionsFields : Bundle := [
  always "extension_bits" .u64,
  always "lens" (.vec .u64 (.call "popcount" [v "extension_bits"])),
  always "_payload" (.skip (.call "sum" [v "lens"]))]
def extensions : FieldTy := .bundle noCtx extensionsFields

/-- `jxl-image/src/color.rs`, `define_bundle! { struct Customxy }` — needed by the hand-written
`WhitePoint`/`Primaries`; proved equal to the generated description. -/
def customxyFields : Bundle := [
  always "x" (.signed (.u32 (.bits 0 19) (.bits 524288 19) (.bits 1048576 20) (.bits 2097152 21))),
  always "y" (.signed (.u32 (.bits 0 19) (.bits 524288 19) (.bits 1048576 20) (.bits 2097152 21)))]
def customxy : FieldTy := .bundle noCtx customxyFields

/-- `color.rs`, `impl Bundle for WhitePoint` (default D65 = 1) -/
def whitePointFields : Bundle := [
  .mk "disc" (.enum validWhitePoint) tt (some (n 1)),
  .mk "custom" customxy (eqn (v "disc") 2) none]
/-- `color.rs`, `impl Bundle for Primaries` (default sRGB = 1) -/
def primariesFields : Bundle := [
  .mk "disc" (.enum validPrimaries) tt (some (n 1)),
  .mk "red" customxy (eqn (v "disc") 2) none,
  .mk "green" customxy (eqn (v "disc") 2) none,
  .mk "blue" customxy (eqn (v "disc") 2) none]
/-- `color.rs`, `impl Bundle for TransferFunction` (default sRGB = 13; a gamma is reported as
`Gamma { g, inverted: true }`) -/
def transferFunctionFields : Bundle := [
  .mk "has_gamma" .bool tt (some (.bool false)),
  .mk "gamma" (.u 24) (v "has_gamma") (some (n 0)),
  -- `gamma > 10_000_000 || gamma * 8192 < 10_000_000` is rejected
  .mk "_gamma_ok"
    (.assert (and' (.bin .le (v "gamma") (n 10000000))
                   (.bin .ge (.bin .mul (v "gamma") (n 8192)) (n 10000000))) "validation")
    (v "has_gamma") none,
  .mk "tf" (.enum validTransferFunction) (.not (v "has_gamma")) (some (n 13))]

/-- `color.rs`, `impl Bundle for ColourEncoding { fn parse }`. `all_default` and the branches that
are not read give `ColourEncoding::default()` / the constants the code fills in (XYB: D65 and sRGB
primaries; Grey: sRGB primaries). With `want_icc` only `colour_space` is reported. -/
def colourEncodingFields : Bundle :=
  let enumEnc := and' (.not (v "all_default")) (.not (v "want_icc"))
  [ .mk "all_default" .bool tt (some (.bool true)),
    .mk "want_icc" .bool (.not (v "all_default")) (some (.bool false)),
    .mk "colour_space" (.enum validColourSpace) (.not (v "all_default")) (some (n 0)),
    -- an enum encoding with colour space Unknown (3) is rejected
    .mk "_cs_known" (.assert (nen (v "colour_space") 3) "validation") enumEnc none,
    .mk "white_point" (.bundle noCtx whitePointFields)
      (and' enumEnc (nen (v "colour_space") csXyb)) none,
    .mk "primaries" (.bundle noCtx primariesFields)
      (and' enumEnc (and' (nen (v "colour_space") csXyb) (nen (v "colour_space") csGrey))) none,
    .mk "tf" (.bundle noCtx transferFunctionFields) enumEnc none,
    -- transfer function Unknown (2) without an ICC profile is rejected
    .mk "_tf_known"
      (.assert (.bin .or (.field (v "tf") "has_gamma") (nen (.field (v "tf") "tf") 2)) "validation")
      enumEnc none,
    .mk "rendering_intent" (.enum validRenderingIntent) enumEnc (some (n 1)) ]
def colourEncoding : FieldTy := .bundle noCtx colourEncodingFields

/-- `jxl-image/src/lib.rs`, `impl Bundle for ExtraChannelInfo { fn parse }`
(`default_alpha_channel` ⇒ `Self::default()`: alpha, not associated, 8-bit, shift 0, no name) -/
def extraChannelInfoFields : Bundle :=
  let full := .not (v "default_alpha_channel")
  [ .mk "default_alpha_channel" .bool tt (some (.bool true)),
    .mk "ty" (.enum validExtraChannelType) full (some (n 0)),
    .mk "bit_depth" bitDepth full none,
    .mk "dim_shift" (.u32 (.const 0) (.const 3) (.const 4) (.bits 1 3)) full (some (n 0)),
    .mk "name" name full none,
    .mk "alpha_associated" .bool (and' full (eqn (v "ty") ectAlpha)) (some (.bool false)),
    .mk "spot" (.arr .f16 4) (and' full (eqn (v "ty") ectSpotColour)) none,
    .mk "cfa_channel" (.u32 (.const 1) (.bits 0 2) (.bits 3 4) (.bits 19 8))
      (and' full (eqn (v "ty") ectCfa)) (some (n 1)) ]
def extraChannelInfo : FieldTy := .bundle noCtx extraChannelInfoFields

/-- `jxl-frame/src/header.rs`, `impl Bundle for FrameType` -/
def frameType : FieldTy := .u 2
/-- `header.rs`, `impl Bundle for Encoding` -/
def encoding : FieldTy := .u 1
/-- `header.rs`, `impl Bundle for FrameFlags` (a `u64` newtype) -/
def frameFlags : FieldTy := .u64
/-- `header.rs`, `impl Bundle for BlendMode`: `U32(0, 1, 2, 3 + u(2))`, values above 4 are
`InvalidEnum` -/
def blendMode : FieldTy := .enumOf (.u32 (.const 0) (.const 1) (.const 2) (.bits 3 2)) [0, 1, 2, 3, 4]

def gaborDefaultW : List Nat := [0x3debde00, 0x3d7adfce]
/-- `1.0 + (w0 + w1) * 4.0` is (exactly) zero; in f32 arithmetic the test
`abs(..) < f32::EPSILON` holds for F16 inputs exactly in this case (all sums near −1/4 of two
multiples of 2^-24 are exact in f32) -/
def gaborDegenerate (w : String) : Expr :=
  .bin .eq (.bin .add (.call "f16_scaled" [.idx (v w) 0]) (.call "f16_scaled" [.idx (v w) 1])) (.int (-4194304))
/-- `jxl-frame/src/filter.rs`, `impl Bundle for Gabor { fn parse }` + `Default`
(enabled, default weights). Per channel: two weights, then the degeneracy check. -/
def gaborFields : Bundle :=
  let c := and' (v "enabled") (v "custom")
  [ .mk "enabled" .bool tt (some (.bool true)),
    .mk "custom" .bool (v "enabled") (some (.bool false)),
    .mk "w0" (.arr .f16 2) c (some (f32s gaborDefaultW)),
    .mk "_ok0" (.assert (.not (gaborDegenerate "w0")) "validation") c none,
    .mk "w1" (.arr .f16 2) c (some (f32s gaborDefaultW)),
    .mk "_ok1" (.assert (.not (gaborDegenerate "w1")) "validation") c none,
    .mk "w2" (.arr .f16 2) c (some (f32s gaborDefaultW)),
    .mk "_ok2" (.assert (.not (gaborDegenerate "w2")) "validation") c none ]
def gabor : FieldTy := .bundle noCtx gaborFields

def epfSharpLutDefault : List Nat :=
  [0x00000000, 0x3e124925, 0x3e924925, 0x3edb6db7, 0x3f124925, 0x3f36db6e, 0x3f5b6db7, 0x3f800000]
def epfChannelScaleDefault : List Nat := [0x42200000, 0x40a00000, 0x40600000]
/-- `filter.rs`, `impl Bundle<Encoding> for EdgePreservingFilter { fn parse }`, `EpfSigma::parse`,
`EpfParams::default`, `EpfSigma::default` (0.46, 0.9, 6.5, 2/3; `sigma_for_modular` 1.0).
Needs `encoding` in scope. `iters == 0` ⇒ `Disabled`. -/
def epfFields : Bundle :=
  let on := nen (v "iters") 0
  [ .mk "iters" (.u 2) tt (some (n 2)),
    .mk "sharp_custom" .bool (and' on (eqn (v "encoding") encVarDct)) (some (.bool false)),
    .mk "sharp_lut" (.arr .f16 8) (v "sharp_custom") (some (f32s epfSharpLutDefault)),
    .mk "weight_custom" .bool on (some (.bool false)),
    .mk "channel_scale" (.arr .f16 3) (v "weight_custom") (some (f32s epfChannelScaleDefault)),
    .mk "_ignored" (.u 32) (v "weight_custom") (some (n 0)),
    .mk "sigma_custom" .bool on (some (.bool false)),
    .mk "quant_mul" .f16 (and' (v "sigma_custom") (eqn (v "encoding") encVarDct)) (some (.f32 0x3eeb851f)),
    .mk "pass0_sigma_scale" .f16 (v "sigma_custom") (some (.f32 0x3f666666)),
    .mk "pass2_sigma_scale" .f16 (v "sigma_custom") (some (.f32 0x40d00000)),
    .mk "border_sad_mul" .f16 (v "sigma_custom") (some (.f32 0x3f2aaaab)),
    .mk "sigma_for_modular" .f16 (and' on (eqn (v "encoding") encModular)) (some (.f32 0x3f800000)) ]
def edgePreservingFilter : FieldTy := .bundle (.record [("encoding", v "encoding")]) epfFields

/-! ### what the translator must find in the Rust source (compared in `Props/C14.lean`) -/

def u32 := Prim.u32

/-- expected `handPrims` of the generated file, for the parsers modelled in this file -/
def expectedPrims : List (String × List Prim) := [
  ("Extensions.parse", [.u64, .u64, .skip]),
  ("ExtraChannelInfo.parse",
    [.bool, .enum "ExtraChannelTypeRaw", .sub "BitDepth", .u32 (.const 0) (.const 3) (.const 4) (.bits 1 3),
     .sub "Name", .bool, .f16, .f16, .f16, .f16, .u32 (.const 1) (.bits 0 2) (.bits 3 4) (.bits 19 8)]),
  ("BitDepth.parse",
    [.bool, .u32 (.const 32) (.const 16) (.const 24) (.bits 1 6), .bits 4,
     .u32 (.const 8) (.const 10) (.const 12) (.bits 1 6)]),
  ("ColourEncoding.parse",
    [.bool, .bool, .enum "ColourSpace", .sub "WhitePoint", .sub "Primaries", .sub "TransferFunction",
     .enum "RenderingIntent"]),
  ("WhitePoint.parse", [.enum "WhitePointDiscriminator", .sub "Customxy"]),
  ("Primaries.parse", [.enum "PrimariesDiscriminator", .sub "Customxy", .sub "Customxy", .sub "Customxy"]),
  ("TransferFunction.parse", [.bool, .bits 24, .enum "TransferFunction"]),
  ("FrameType.parse", [.bits 2]),
  ("Encoding.parse", [.bits 1]),
  ("FrameFlags.parse", [.u64]),
  ("BlendMode.parse", [.u32 (.const 0) (.const 1) (.const 2) (.bits 3 2)]),
  ("Gabor.parse", [.bool, .bool, .f16]),
  ("EdgePreservingFilter.parse", [.bits 2, .bool, .f16, .bool, .f16, .bits 32, .bool, .sub "EpfSigma", .f16]),
  ("EpfSigma.parse", [.f16, .f16, .f16, .f16]),
  ("Name.parse", [.u32 (.const 0) (.bits 0 4) (.bits 16 5) (.bits 48 10), .bits 8]),
  ("Bitstream.read_u64", [.bits 2, .bits 4, .bits 8, .bits 12, .bits 1, .bits 4, .bits 8]),
  ("Bitstream.read_bool", [.bits 1]),
  ("Bitstream.read_f16_as_f32", [.bits 16]),
  ("Bitstream.read_enum", [.u32 (.const 0) (.const 1) (.bits 2 4) (.bits 18 6)])]

def expectedTryFrom : List (String × List Nat) := [
  ("ExtraChannelTypeRaw", validExtraChannelType),
  ("ColourSpace", validColourSpace),
  ("WhitePointDiscriminator", validWhitePoint),
  ("PrimariesDiscriminator", validPrimaries),
  ("RenderingIntent", validRenderingIntent),
  ("TransferFunction", validTransferFunction)]

def expectedFloatConsts : List (String × List Nat) := [
  ("EPF_SHARP_LUT_DEFAULT", epfSharpLutDefault),
  ("EPF_CHANNEL_SCALE_DEFAULT", epfChannelScaleDefault)]

end Parts
end Jxl.Headers
