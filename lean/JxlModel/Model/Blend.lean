/-!
# Frame composition (C05): blend kernels, the sequential compositor, reference bookkeeping,
# the lazy keyframe renderer

Mirrors `crates/jxl-render/src/blend.rs` (`blend`, `blend_single`, `BlendParams::from_blending_info`,
`from_patch_blending_info`), `crates/jxl-render/src/lib.rs` (`preserve_current_frame`,
`render_keyframe`, `render_by_index`, `do_render`), `crates/jxl-render/src/image.rs`
(`RenderedImage::blend`, `try_take_blended`, `composite_preprocess`), `crates/jxl-render/src/state.rs`
(`FrameRender`, `run_with_image`, `run`, `reset`) and `crates/jxl-frame/src/header.rs`
(`resets_canvas`, `is_keyframe`, `can_reference`, `save_before_ct`).

Three layers:
* **kernels** — the per-sample arithmetic of `blend_single`, written once over the `Scalar`
  class and instantiated at `Float32` (execution, same operations in the same order as the Rust,
  no fused multiply-add) and, in `Proofs/Blend.lean`, at any linearly ordered field;
* **Spec** — the compositor of the format: a fold over the frames in bitstream order carrying four
  reference slots; generic in the value type `V` of a composed canvas (`Cfg.compose`), instantiated
  at pixel canvases by `Px.blendFrame`;
* **Impl** — what the renderer does instead: index bookkeeping when a frame finishes loading
  (`Impl.preserve`), and a lazy, caching, buffer-stealing evaluation on request (`Impl.blendF`).

The rectangle arithmetic of `blend()` (`target_region`, `base_topleft`, `new_topleft`, clipped
intersection) is not here: it is `Model/Region.lean` / `Props/C05Region.lean`
(`C05_blend_region_sound`). This file works in image coordinates.

No imports: this file links into the `jxlmodel` executable.
-/
namespace Jxl.Blend

/-! ## 1. Scalars and sample kernels -/

/-- The operations `blend_single` performs on samples. `recip` is `f32::recip` (`1/x`), `isPos` is
`x > 0.0`, `clamp01` is `f32::clamp(0.0, 1.0)`, `ofSample bits v` is
`BitDepth::IntegerSample::parse_integer_sample` (`v as f32 / ((1 << bits) - 1) as f32`,
jxl-image/src/lib.rs). -/
class Scalar (α : Type) where
  zero : α
  one : α
  add : α → α → α
  sub : α → α → α
  mul : α → α → α
  recip : α → α
  isPos : α → Bool
  clamp01 : α → α
  ofSample : Nat → Int → α

namespace Scalar
variable {α : Type} [Scalar α]

/-- `if clamp { x.clamp(0.0, 1.0) } else { x }` -/
def clampIf (c : Bool) (x : α) : α := if c then clamp01 x else x

/-- `if mixed_alpha > 0.0 { mixed_alpha.recip() } else { 0.0 }` -/
def recipOrZero (x : α) : α := if isPos x then recip x else zero

end Scalar

instance : Scalar Float32 where
  zero := 0
  one := 1
  add a b := a + b
  sub a b := a - b
  mul a b := a * b
  recip x := 1 / x
  isPos x := decide (0 < x)
  clamp01 x := if x < 0 then 0 else if 1 < x then 1 else x
  ofSample bits v := Float32.ofInt v / Float32.ofNat (2 ^ bits - 1)

/-- `enum BlendMode` of blend.rs after the `new: None` cases of `blend_single` are resolved. -/
inductive Kernel where
  | replace
  | add
  | mul (clamp : Bool)
  | blend (clamp swapped premultiplied : Bool)
  | mulAdd (clamp swapped : Bool)
  | mixAlpha (clamp swapped : Bool)
  | skip
  deriving Repr, DecidableEq, Inhabited

/-- One sample of `blend_single`: `base` is the sample of the target (reference) buffer, `new` the
sample of the frame (or patch), `baseAlpha`/`newAlpha` the alpha samples at the same positions
(`0.0` when there is no base). Every arm is the expression of the Rust loop body, operation by
operation. -/
def Kernel.apply {α : Type} [Scalar α] (k : Kernel) (base new baseAlpha newAlpha : α) : α :=
  match k with
  | .replace => new
  | .add => Scalar.add base new
  | .mul c => Scalar.mul base (Scalar.clampIf c new)
  | .blend c swapped premul =>
    let baseSample := if swapped then new else base
    let newSample := if swapped then base else new
    let ba := if swapped then newAlpha else baseAlpha
    let na := Scalar.clampIf c (if swapped then baseAlpha else newAlpha)
    if premul then
      Scalar.add newSample (Scalar.mul baseSample (Scalar.sub Scalar.one na))
    else
      let baRev := Scalar.sub Scalar.one ba
      let naRev := Scalar.sub Scalar.one na
      let mixed := Scalar.sub Scalar.one (Scalar.mul naRev baRev)
      let r := Scalar.recipOrZero mixed
      Scalar.mul (Scalar.add (Scalar.mul na newSample) (Scalar.mul (Scalar.mul ba baseSample) naRev)) r
  | .mulAdd c swapped =>
    let baseSample := if swapped then new else base
    let newSample := if swapped then base else new
    let na := Scalar.clampIf c (if swapped then baseAlpha else newAlpha)
    Scalar.add baseSample (Scalar.mul na newSample)
  | .mixAlpha c swapped =>
    let b := if swapped then new else base
    let n := Scalar.clampIf c (if swapped then base else new)
    Scalar.add b (Scalar.mul n (Scalar.sub Scalar.one b))
  | .skip => base

/-! ## 2. Headers -/

/-- `jxl_frame::header::FrameType` -/
inductive FrameType where
  | regular | lfFrame | referenceOnly | skipProgressive
  deriving Repr, DecidableEq, Inhabited

/-- `jxl_frame::header::BlendMode` (coded 0 replace, 1 add, 2 blend, 3 mul-add, 4 mul) -/
inductive Mode where
  | replace | add | blend | mulAdd | mul
  deriving Repr, DecidableEq, Inhabited

def Mode.ofCode : Nat → Mode
  | 0 => .replace | 1 => .add | 2 => .blend | 3 => .mulAdd | _ => .mul

def FrameType.ofCode : Nat → FrameType
  | 0 => .regular | 1 => .lfFrame | 2 => .referenceOnly | _ => .skipProgressive

/-- `BlendingInfo` -/
structure BlendInfo where
  mode : Mode := .replace
  alpha : Nat := 0
  clamp : Bool := false
  source : Nat := 0
  deriving Repr, DecidableEq, Inhabited

/-- the fields of `FrameHeader` composition depends on -/
structure FrameHdr where
  ty : FrameType := .regular
  haveCrop : Bool := false
  x0 : Int := 0
  y0 : Int := 0
  w : Nat := 0
  h : Nat := 0
  blend : BlendInfo := {}
  ecBlend : List BlendInfo := []
  duration : Nat := 0
  isLast : Bool := true
  saveAsRef : Nat := 0
  saveBeforeCt : Bool := false
  lfLevel : Nat := 0
  deriving Repr, DecidableEq, Inhabited

/-- what composition needs from the image header -/
structure ImgInfo where
  w : Nat := 0
  h : Nat := 0
  /-- 1 (grey Modular image) or 3 -/
  colorChannels : Nat := 3
  /-- `ExtraChannelInfo::alpha_associated()` per extra channel: `none` = not an alpha channel -/
  ecAlphaAssoc : List (Option Bool) := []
  deriving Repr, Inhabited

namespace FrameHdr

/-- `FrameType::is_normal_frame` -/
def isNormal (f : FrameHdr) : Bool := f.ty == .regular || f.ty == .skipProgressive

/-- `FrameHeader::test_full_image` -/
def coversImage (img : ImgInfo) (f : FrameHdr) : Bool :=
  !(f.x0 > 0 || f.y0 > 0) && (f.x0 + f.w ≥ img.w && f.y0 + f.h ≥ img.h)

/-- `FrameHeader::resets_canvas` (decided by the *colour* blend mode) -/
def resetsCanvas (img : ImgInfo) (f : FrameHdr) : Bool :=
  f.blend.mode == .replace && (!f.haveCrop || f.coversImage img)

/-- `FrameHeader::is_keyframe` -/
def isKeyframe (f : FrameHdr) : Bool := f.isNormal && (f.isLast || f.duration != 0)

/-- `FrameHeader::can_reference` -/
def canReference (f : FrameHdr) : Bool :=
  !f.isLast && (f.duration == 0 || f.saveAsRef != 0) && f.ty != .lfFrame

/-- `composite_preprocess`: `skip_blending = !is_normal_frame || resets_canvas` -/
def skipBlending (img : ImgInfo) (f : FrameHdr) : Bool := !f.isNormal || f.resetsCanvas img

/-- blending info of channel `c` (`repeat_n(&blending_info, color_channels).chain(&ec_blending_info)`) -/
def infoFor (f : FrameHdr) (cc c : Nat) : BlendInfo :=
  if c < cc then f.blend else f.ecBlend.getD (c - cc) {}

/-- source slot per channel, in channel order; empty when the frame is not blended at all -/
def chanSources (img : ImgInfo) (f : FrameHdr) : List Nat :=
  if f.skipBlending img then []
  else (List.range (img.colorChannels + f.ecBlend.length)).map fun c => (f.infoFor img.colorChannels c).source % 4

/-- Colour transform placement (render.rs `render_frame` tail, `composite_preprocess`): the
recorded-colour transform runs on the frame *before* blending unless `save_before_ct`, or the
frame is an unblended last frame. Opaque in this model (identity on non-XYB images). -/
def ctBeforeBlend (img : ImgInfo) (f : FrameHdr) : Bool :=
  !f.saveBeforeCt && !(f.skipBlending img && f.isLast)

/-- What `FrameHeader::parse` yields for a header written with these intended values: fields whose
condition is false take their defaults (header.rs `define_bundle!`): no crop ⇒ origin 0 and image
size; reference-only ⇒ origin 0, no blending info, not last; `is_last` ⇒ slot 0; duration only with
animation; `alpha_channel` only for `Blend`/`MulAdd` with extra channels; `clamp` only then or for
`Mul`; `source` only when the colour mode does not reset the canvas. -/
def asParsed (img : ImgInfo) (hasAnim : Bool) (f : FrameHdr) : FrameHdr :=
  let f := if f.haveCrop then f else { f with x0 := 0, y0 := 0, w := img.w, h := img.h }
  let f := if f.ty == .referenceOnly || f.ty == .lfFrame then { f with x0 := 0, y0 := 0 } else f
  let hasExtra := !img.ecAlphaAssoc.isEmpty
  let resets := f.resetsCanvas img
  let fix (b : BlendInfo) : BlendInfo :=
    let usesAlpha := hasExtra && (b.mode == .blend || b.mode == .mulAdd)
    { mode := b.mode
      alpha := if usesAlpha then b.alpha else 0
      clamp := if usesAlpha || b.mode == .mul then b.clamp else false
      source := if resets then 0 else b.source % 4 }
  if f.isNormal then
    let isLast := f.isLast
    { f with
      blend := fix f.blend
      ecBlend := (List.range img.ecAlphaAssoc.length).map fun i => fix (f.ecBlend.getD i {})
      duration := if hasAnim then f.duration else 0
      saveAsRef := if isLast then 0 else f.saveAsRef % 4
      saveBeforeCt :=
        if resets && !isLast && ((if hasAnim then f.duration else 0) == 0 || f.saveAsRef % 4 != 0) then f.saveBeforeCt
        else false }
  else
    { f with
      blend := {}, ecBlend := [], duration := 0, isLast := false, saveAsRef := f.saveAsRef % 4
      saveBeforeCt := if f.ty == .referenceOnly then f.saveBeforeCt else true }

end FrameHdr

/-- `BlendParams::from_blending_info` followed by the `new: None` arms of `blend_single`:
with no extra channels there is no alpha, `Blend` degenerates to `Replace` and `MulAdd` to `Add`. -/
def kernelFor (hasExtra : Bool) (info : BlendInfo) (chanIdx cc : Nat) (premul : Option Bool) : Kernel :=
  match info.mode with
  | .replace => .replace
  | .add => .add
  | .blend =>
    if chanIdx == info.alpha + cc then .mixAlpha info.clamp false
    else if !hasExtra then .replace
    else .blend info.clamp false (premul.getD false)
  | .mulAdd =>
    if chanIdx == info.alpha + cc then .skip
    else if !hasExtra then .add
    else .mulAdd info.clamp false
  | .mul => .mul info.clamp

/-- `jxl_frame::data::PatchBlendMode` (coded 0..7) -/
inductive PatchMode where
  | none | replace | add | mul | blendAbove | blendBelow | mulAddAbove | mulAddBelow
  deriving Repr, DecidableEq, Inhabited

/-- `BlendParams::from_patch_blending_info`; `none` = the channel is left alone -/
def patchKernelFor (mode : PatchMode) (alpha : Nat) (clamp : Bool) (chanIdx cc : Nat)
    (premul : Option Bool) : Option Kernel :=
  match mode with
  | .none => none
  | .replace => some .replace
  | .add => some .add
  | .mul => some (.mul clamp)
  | .blendAbove | .blendBelow =>
    let swapped := mode == .blendBelow
    if chanIdx == alpha + cc then some (.mixAlpha clamp swapped)
    else some (.blend clamp swapped (premul.getD false))
  | .mulAddAbove | .mulAddBelow =>
    let swapped := mode == .mulAddBelow
    if chanIdx == alpha + cc then (if swapped then some .replace else some .skip)
    else some (.mulAdd clamp swapped)

def PatchMode.ofCode : Nat → PatchMode
  | 0 => .none | 1 => .replace | 2 => .add | 3 => .mul | 4 => .blendAbove | 5 => .blendBelow
  | 6 => .mulAddAbove | _ => .mulAddBelow

def PatchMode.usesAlpha : PatchMode → Bool
  | .blendAbove | .blendBelow | .mulAddAbove | .mulAddBelow => true
  | _ => false

/-- `blend::patch` at one pixel position of one target: `base` / `ref` are the samples of every
channel (colour first) of the canvas and of the reference frame there; `infos[0]` is the blending
of the colour channels, `infos[1 + e]` of extra channel `e` (mode, alpha channel, clamp). Channels
are processed in order, so a channel after the alpha channel reads the canvas alpha ALREADY
updated by the patch (the Rust loop mutates the canvas channel by channel). -/
def patchPixel {α : Type} [Scalar α] (cc : Nat) (ecAlphaAssoc : List (Option Bool))
    (infos : List (PatchMode × Nat × Bool)) (base ref : List α) : List α :=
  (List.range base.length).foldl (fun cur idx =>
    let info := if idx < cc then infos.getD 0 (.none, 0, false) else infos.getD (idx - cc + 1) (.none, 0, false)
    let mode := info.1
    let alpha := info.2.1
    let clamp := info.2.2
    match patchKernelFor mode alpha clamp idx cc (ecAlphaAssoc.getD alpha none) with
    | none => cur
    | some k =>
      let ba := if mode.usesAlpha then cur.getD (alpha + cc) Scalar.zero else Scalar.zero
      let na := if mode.usesAlpha then ref.getD (alpha + cc) Scalar.zero else Scalar.zero
      cur.set idx (k.apply (cur.getD idx Scalar.zero) (ref.getD idx Scalar.zero) ba na)) base

/-! ## 3. Spec: the sequential compositor (generic in the canvas value) -/

/-- A multi-frame image as the compositor sees it: the headers in bitstream order (already cut
after the first `is_last` frame) and `compose i bases`, the canvas frame `i` produces when channel
`c` reads the canvas `bases[c]` (`none` = empty slot = zeros). -/
structure Cfg (V : Type) where
  img : ImgInfo := {}
  hdrs : List FrameHdr := []
  compose : Nat → List (Option V) → V

namespace Cfg
variable {V : Type}

def hdr (C : Cfg V) (i : Nat) : FrameHdr := C.hdrs.getD i {}

/-- per-channel source slots of frame `i` -/
def sources (C : Cfg V) (i : Nat) : List Nat := (C.hdr i).chanSources C.img

end Cfg

/-- function update -/
def upd {β : Type} (f : Nat → β) (i : Nat) (v : β) : Nat → β := fun j => if j = i then v else f j

namespace Spec
variable {V : Type}

structure State (V : Type) where
  /-- frames composed so far -/
  count : Nat := 0
  /-- the four reference slots (only 0..3 are ever written) -/
  slots : Nat → Option V := fun _ => none
  /-- canvases of the keyframes met so far, in order -/
  keys : List V := []

/-- Compose one frame: every channel is blended onto the content of the slot it names, the result
is the new canvas; it is saved into `save_as_reference` when the frame can be referenced (not last,
and duration 0 or a non-zero slot) and shown when the frame is a keyframe. -/
def step (C : Cfg V) (st : State V) (f : FrameHdr) : State V :=
  let v := C.compose st.count ((f.chanSources C.img).map st.slots)
  { count := st.count + 1
    slots := if f.canReference then upd st.slots (f.saveAsRef % 4) (some v) else st.slots
    keys := if f.isKeyframe then st.keys ++ [v] else st.keys }

/-- the fold over a list of frames in bitstream order -/
def run (C : Cfg V) (fs : List FrameHdr) : State V := fs.foldl (step C) {}

/-- state after the first `n` frames of the image -/
def stateAfter (C : Cfg V) (n : Nat) : State V := run C (C.hdrs.take n)

/-- canvas frame `i` produces in the sequential composition -/
def valOf (C : Cfg V) (i : Nat) : V := C.compose i ((C.sources i).map (stateAfter C i).slots)

/-- The frame whose canvas slot `s` holds after the first `n` frames, in closed form: the most
recent frame before `n` that can be referenced and names `s` in `save_as_reference`. -/
def slotFrame (C : Cfg V) : Nat → Nat → Option Nat
  | 0, _ => none
  | n + 1, s =>
    if (C.hdr n).canReference && (C.hdr n).saveAsRef % 4 == s then some n else slotFrame C n s

/-- the `k`-th keyframe of the image -/
def canvasAt (C : Cfg V) (k : Nat) : Option V := (run C C.hdrs).keys[k]?

end Spec

/-! ## 4. Impl: bookkeeping of `preserve_current_frame` -/

namespace Impl
variable {V : Type}

/-- The part of `RenderContext` composition depends on. `usize::MAX` = `none`. -/
structure Ctx where
  /-- `frames.len()` -/
  nframes : Nat := 0
  /-- `reference: [usize; 4]` -/
  reference : Nat → Option Nat := fun _ => none
  /-- `lf_frame: [usize; 4]` -/
  lfFrame : Nat → Option Nat := fun _ => none
  keyframes : List Nat := []
  keyframeInProgress : Option Nat := none
  /-- `frame_deps[i].ref_slots` = the `refs` captured by handle `i` -/
  deps : List (Nat → Option Nat) := []

/-- `RenderContext::preserve_current_frame` (refcounts, which nothing reads, left out) -/
def preserve (c : Ctx) (f : FrameHdr) : Ctx :=
  let idx := c.nframes
  { nframes := idx + 1
    deps := c.deps ++ [c.reference]
    reference := if f.canReference then upd c.reference (f.saveAsRef % 4) (some idx) else c.reference
    lfFrame := if f.lfLevel != 0 then upd c.lfFrame ((f.lfLevel - 1) % 4) (some idx) else c.lfFrame
    keyframes := if f.isKeyframe then c.keyframes ++ [idx] else c.keyframes
    keyframeInProgress :=
      if f.isKeyframe then none else if f.isNormal then some idx else c.keyframeInProgress }

def ctxOf (fs : List FrameHdr) : Ctx := fs.foldl preserve {}

def ctxAfter (C : Cfg V) (n : Nat) : Ctx := ctxOf (C.hdrs.take n)

/-- the reference captured in slot `s` by the handle of frame `i` -/
def refOf (C : Cfg V) (i s : Nat) : Option Nat := (ctxAfter C i).reference s

/-! ### The lazy renderer -/

/-- `FrameRender` without the transient and error states: `Done` is "rendered, not composited" -/
inductive HState (V : Type) where
  | none
  | done
  | blended (v : V)

/-- the states of all handles, by frame index (a structure around the lookup function so that a
state is a value: a bare function-typed `let` would be re-evaluated at every lookup) -/
structure St (V : Type) where
  get : Nat → HState V

/-- store a new state for handle `i` -/
def St.set (st : St V) (i : Nat) (x : HState V) : St V := ⟨fun j => if j = i then x else st.get j⟩

/-- `FrameRenderHandle::run` through `do_render`: an unrendered frame is rendered after `run` was
spawned on each of its four captured references (and so on downwards). Nothing is composited. -/
def runF (C : Cfg V) : Nat → Nat → St V → St V
  | 0, _, st => st
  | n + 1, i, st =>
    match st.get i with
    | .none =>
      let st := (List.range 4).foldl (fun st s =>
        match refOf C i s with
        | some j => runF C n j st
        | none => st) st
      st.set i .done
    | _ => st

/-- `header.is_last || (header.can_reference() && ref_idx == header.save_as_reference)`, colour
channels only, and never from a keyframe: when this holds `blend()` tries `try_take_blended`.
(As the Rust stands, `try_take_blended` cannot succeed: it tests `Arc::into_inner` on a clone of an
`Arc` it still holds, and `blend()` holds a third one in `base_grid`. The model does not rely on
that: `steal` is an arbitrary oracle and the theorems hold for every choice.) -/
def canOverwrite (C : Cfg V) (i c s j : Nat) : Bool :=
  let f := C.hdr i
  c < C.img.colorChannels && (f.isLast || (f.canReference && s == f.saveAsRef % 4)) && !(C.hdr j).isKeyframe

/-- The per-channel loop of `blend()`: channel `c` (counting up) obtains the composed base from
the handle in its slot `s` (`run_with_image` + `RenderedImage::blend`, here `rec`), and may steal its
buffer (`try_take_blended`, leaving the handle empty) when `canOverwrite` and `steal i c` say so. -/
def chanLoop (C : Cfg V) (steal : Nat → Nat → Bool) (rec : Nat → St V → V × St V) (i : Nat) :
    Nat → List Nat → St V → List (Option V) × St V
  | _, [], st => ([], st)
  | c, s :: rest, st =>
    match refOf C i s with
    | none =>
      let r := chanLoop C steal rec i (c + 1) rest st
      (none :: r.1, r.2)
    | some j =>
      let r1 := rec j st
      let st2 := if canOverwrite C i c s j && steal i c then r1.2.set j .none else r1.2
      let r := chanLoop C steal rec i (c + 1) rest st2
      (some r1.1 :: r.1, r.2)

/-- `ref_list`: the frames sitting in the slots frame `i` names, each once, ascending by index
(`sort_by_key(|grid| grid.frame.idx)`; a captured reference always has a smaller index than `i`) -/
def usedRefs (C : Cfg V) (i : Nat) : List Nat :=
  (List.range i).filter fun j => (C.sources i).any fun s => refOf C i s == some j

/-- `RenderedImage::blend()` on a rendered, not yet composited handle `i`; `rec j` is
`run_with_image()` + `blend()` on the handle of an earlier frame `j`.
* an unblended frame (`skip_blending`) becomes `Blended` as it is;
* otherwise `blend()`: the used references are composited in index order, the per-channel loop
  reads (and maybe steals) them, and, if this frame will be saved into slot `r`, the previous
  non-keyframe occupant of `r` is `reset()`. -/
def blendBody (C : Cfg V) (steal : Nat → Nat → Bool) (rec : Nat → St V → V × St V) (i : Nat) (st : St V) :
    V × St V :=
  let f := C.hdr i
  if f.skipBlending C.img then
    let v := C.compose i []
    (v, st.set i (.blended v))
  else
    let st := (usedRefs C i).foldl (fun st j => (rec j st).2) st
    let r := chanLoop C steal rec i 0 (C.sources i) st
    let v := C.compose i r.1
    let st := r.2
    let st :=
      if f.canReference then
        match refOf C i (f.saveAsRef % 4) with
        | some j => if !(C.hdr j).isKeyframe then st.set j .none else st
        | none => st
      else st
    (v, st.set i (.blended v))

/-- `run_with_image()` + `RenderedImage::blend()` on the handle of frame `i`, with `n` units of
fuel (every captured reference has a smaller index, so `i + 1` suffices). Returns the composed
canvas and the new handle states. A `Blended` handle answers from the cache; otherwise the frame
is rendered (`runF`) and composited (`blendBody`). -/
def blendF (C : Cfg V) (steal : Nat → Nat → Bool) : Nat → Nat → St V → V × St V
  | 0, i, st => (C.compose i [], st)
  | n + 1, i, st =>
    match st.get i with
    | .blended v => (v, st)
    | _ => blendBody C steal (fun j st => blendF C steal n j st) i (runF C (n + 1) i st)

/-- `RenderContext::render_keyframe` (without the colour-management post-processing): `none` is
`Error::IncompleteFrame`. -/
def renderKeyframe (C : Cfg V) (steal : Nat → Nat → Bool) (k : Nat) (st : St V) : Option V × St V :=
  match (ctxOf C.hdrs).keyframes[k]? with
  | none => (none, st)
  | some idx =>
    let r := blendF C steal (idx + 1) idx st
    (some r.1, r.2)

/-- a sequence of keyframe requests on one context -/
def renderMany (C : Cfg V) (steal : Nat → Nat → Bool) : List Nat → St V → List (Option V) × St V
  | [], st => ([], st)
  | k :: ks, st =>
    let r := renderKeyframe C steal k st
    let rs := renderMany C steal ks r.2
    (r.1 :: rs.1, rs.2)

def St.init : St V := ⟨fun _ => .none⟩

end Impl

/-! ## 5. Pixel canvases -/

namespace Px
variable {α : Type}

/-- one channel, row major -/
structure Plane (α : Type) where
  w : Nat := 0
  h : Nat := 0
  data : Array α := #[]
  deriving Inhabited

def Plane.get [Scalar α] (p : Plane α) (x y : Nat) : α :=
  if x < p.w ∧ y < p.h then p.data.getD (y * p.w + x) Scalar.zero else Scalar.zero

def Plane.ofFn (w h : Nat) (f : Nat → Nat → α) : Plane α :=
  { w, h, data := Array.ofFn (n := w * h) fun i => f (i.val % w) (i.val / w) }

/-- sample at signed coordinates, zero outside -/
def Plane.getI [Scalar α] (p : Plane α) (x y : Int) : α :=
  if 0 ≤ x ∧ 0 ≤ y then p.get x.toNat y.toNat else Scalar.zero

/-- all channels (colour then extra), image sized -/
abbrev Canvas (α : Type) := List (Plane α)

/-- a decoded frame: its header and its own channels in frame coordinates (unblended) -/
structure Frame (α : Type) where
  hdr : FrameHdr := {}
  chans : List (Plane α) := []
  deriving Inhabited

def chanOf [Scalar α] (cv : Option (Canvas α)) (ch x y : Nat) : α :=
  match cv with
  | none => Scalar.zero
  | some planes => (planes.getD ch {}).get x y

/-- the frame channels the blender sees: the opaque recorded-colour transform `ct` has run on the
colour planes iff `ctBeforeBlend` -/
def inputChans (img : ImgInfo) (ct : List (Plane α) → List (Plane α)) (f : Frame α) : List (Plane α) :=
  if f.hdr.ctBeforeBlend img then ct (f.chans.take img.colorChannels) ++ f.chans.drop img.colorChannels else f.chans

/-- The blend rule of the format for one frame. Channel `c` of the result, at image position
`(x, y)`: inside the frame rectangle (signed origin `x0, y0`) the kernel of the channel's blending
info applied to the sample of the source canvas, the frame sample, and the two alpha samples (alpha
channel chosen by the blending info, read from the same source canvas and from the frame); outside
the rectangle the sample of the source canvas (zeros for an empty slot). A frame that is not
blended (`skip_blending`: not a normal frame, or a full-size `Replace`) is the canvas itself, its
samples placed at the origin, zeros where it does not cover the image.
`ct` is the opaque recorded-colour transform on the colour planes (identity unless XYB / YCbCr). -/
def blendFrame [Scalar α] (img : ImgInfo) (ct : List (Plane α) → List (Plane α)) (f : Frame α)
    (bases : List (Option (Canvas α))) : Canvas α :=
  let cc := img.colorChannels
  let nec := img.ecAlphaAssoc.length
  let hdr := f.hdr
  let chans := inputChans img ct f
  let skip := hdr.skipBlending img
  (List.range (cc + nec)).map fun c =>
    let newP := chans.getD c {}
    if skip then
      Plane.ofFn img.w img.h fun x y => newP.getI ((x : Int) - hdr.x0) ((y : Int) - hdr.y0)
    else
      let info := hdr.infoFor cc c
      let premul := (img.ecAlphaAssoc.getD info.alpha none)
      let k := kernelFor (nec != 0) info c cc premul
      let base := (bases.getD c none)
      let aIdx := cc + info.alpha
      let newA := chans.getD aIdx {}
      Plane.ofFn img.w img.h fun x y =>
        let fx := (x : Int) - hdr.x0
        let fy := (y : Int) - hdr.y0
        if 0 ≤ fx ∧ fx < hdr.w ∧ 0 ≤ fy ∧ fy < hdr.h then
          k.apply (chanOf base c x y) (newP.getI fx fy) (chanOf base aIdx x y) (newA.getI fx fy)
        else chanOf base c x y

/-- frames up to and including the first normal frame with `is_last` (the decoder stops there;
on parsed headers only normal frames carry `is_last`, see `asParsed`) -/
def cutAtLast : List (Frame α) → List (Frame α)
  | [] => []
  | f :: fs => if f.hdr.isNormal && f.hdr.isLast then [f] else f :: cutAtLast fs

/-- the compositor configuration of a decoded multi-frame image -/
def mkCfg [Scalar α] (img : ImgInfo) (ct : List (Plane α) → List (Plane α)) (frames : List (Frame α)) :
    Cfg (Canvas α) :=
  let fs := cutAtLast frames
  { img, hdrs := fs.map (·.hdr), compose := fun i bases => blendFrame img ct (fs.getD i {}) bases }

/-- every keyframe canvas of the image, by the sequential compositor -/
def keyframes [Scalar α] (img : ImgInfo) (frames : List (Frame α)) : List (Canvas α) :=
  let C := mkCfg img id frames
  (Spec.run C C.hdrs).keys

/-! ### Patches

A frame with a patch dictionary has rectangles of earlier reference frames blended into its own
samples before it is composed (`render_features` → `blend::patch`). Specified for what an encoder
produces: the source is a reference-only frame (stored as it is, frame sized), the rectangle lies
inside it. Targets may stick out of the frame; what is outside is dropped. -/

structure PatchTarget where
  x : Int := 0
  y : Int := 0
  /-- colour, then one per extra channel: mode, alpha channel (extra channel index), clamp -/
  infos : List (PatchMode × Nat × Bool) := []
  deriving Inhabited

structure PatchRef where
  ref : Nat := 0
  x0 : Nat := 0
  y0 : Nat := 0
  w : Nat := 1
  h : Nat := 1
  targets : List PatchTarget := []
  deriving Inhabited

/-- one target: every channel of the frame at once -/
def applyTarget [Scalar α] (img : ImgInfo) (src : List (Plane α)) (p : PatchRef) (t : PatchTarget)
    (chans : List (Plane α)) : List (Plane α) :=
  (List.range chans.length).map fun c =>
    let pl := chans.getD c {}
    Plane.ofFn pl.w pl.h fun x y =>
      let ix := (x : Int) - t.x
      let iy := (y : Int) - t.y
      if 0 ≤ ix ∧ ix < p.w ∧ 0 ≤ iy ∧ iy < p.h then
        let base := chans.map fun q => q.get x y
        let rv := src.map fun q => q.get (p.x0 + ix.toNat) (p.y0 + iy.toNat)
        (patchPixel img.colorChannels img.ecAlphaAssoc t.infos base rv).getD c Scalar.zero
      else pl.get x y

/-- the frame's samples after its patch dictionary; `srcOf s` = the stored image of reference slot `s` -/
def applyPatches [Scalar α] (img : ImgInfo) (srcOf : Nat → List (Plane α)) (ps : List PatchRef)
    (chans : List (Plane α)) : List (Plane α) :=
  ps.foldl (fun ch p => p.targets.foldl (fun ch t => applyTarget img (srcOf p.ref) p t ch) ch) chans

/-- a decoded frame with its patch dictionary -/
structure FrameP (α : Type) where
  frame : Frame α := {}
  patches : List PatchRef := []
  deriving Inhabited

structure PState (α : Type) where
  slots : Nat → Option (Canvas α) := fun _ => none
  /-- the own samples (frame sized, patches applied) of the frame in a slot when that frame is not blended -/
  raw : Nat → Option (List (Plane α)) := fun _ => none
  keys : List (Canvas α) := []

def stepP [Scalar α] (img : ImgInfo) (st : PState α) (f : FrameP α) : PState α :=
  let srcOf := fun s => match st.raw s with
    | some planes => planes
    | none => (st.slots s).getD []
  let chans := applyPatches img srcOf f.patches f.frame.chans
  let hdr := f.frame.hdr
  let v := blendFrame img id { f.frame with chans := chans } ((hdr.chanSources img).map st.slots)
  let s := hdr.saveAsRef % 4
  { slots := if hdr.canReference then upd st.slots s (some v) else st.slots
    raw := if hdr.canReference then upd st.raw s (if hdr.isNormal then none else some chans) else st.raw
    keys := if hdr.isKeyframe then st.keys ++ [v] else st.keys }

def cutAtLastP : List (FrameP α) → List (FrameP α)
  | [] => []
  | f :: fs => if f.frame.hdr.isNormal && f.frame.hdr.isLast then [f] else f :: cutAtLastP fs

/-- every keyframe canvas of an image whose frames may carry patches: the same sequential
composition as `keyframes` (to which it reduces when no frame has a patch: the driver uses
`keyframes` then, and the check runs patch-free images through both) -/
def keyframesP [Scalar α] (img : ImgInfo) (frames : List (FrameP α)) : List (Canvas α) :=
  ((cutAtLastP frames).foldl (stepP img) {}).keys

/-- integer samples of a decoded Modular channel to scalars, `parse_integer_sample` -/
def planeOfInts [Scalar α] (bits w h : Nat) (data : Array Int) : Plane α :=
  { w, h, data := data.map (Scalar.ofSample bits) }

end Px

end Jxl.Blend
