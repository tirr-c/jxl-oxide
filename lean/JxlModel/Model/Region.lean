/-!
# Region arithmetic of the renderer (`jxl-render/src/region.rs`, `util.rs`, `modular.rs`,
# `render.rs`, `blend.rs`, `image.rs::composite`; `jxl-frame/src/header.rs`)

The Rust `Region` is `{ left, top : i32, width, height : u32 }`. The model uses `Int` / `Nat` and
computes the *ideal* (unbounded) result of every formula. Next to every function `f` there is a
decidable predicate `fFits` saying that every intermediate value of the Rust computation is
inside its machine type, i.e. the Rust code computes exactly the ideal result: no panic
(`+ - *` overflow in checked builds, `unwrap` of a failed `checked_*`, shift amount >= 32), no
silent wrap (`<<`, `as`, `wrapping_*`) and no saturation (`saturating_*`). Where `fFits` is false
the doc comment says what the Rust code does instead. The driver prints `unfit` for such inputs.

All functions are total and executable (the `Prop`-valued specification vocabulary — `Mem`, `Subset`,
`Within`, `BlendWrite`, `PatchWrite`, `RefClosed` — aside); nothing is imported.
-/
namespace Jxl.Region

def I32_MIN : Int := -2147483648
def I32_MAX : Int := 2147483647
def U32_MAX : Nat := 4294967295

def inI32 (x : Int) : Bool := decide (I32_MIN ≤ x) && decide (x ≤ I32_MAX)
def inU32 (x : Nat) : Bool := decide (x ≤ U32_MAX)
def intInU32 (x : Int) : Bool := decide (0 ≤ x) && decide (x ≤ (U32_MAX : Int))

/-- `struct Region` (`region.rs:4`). -/
structure Region where
  left : Int
  top : Int
  width : Nat
  height : Nat
  deriving DecidableEq, Repr, Inhabited

namespace Region

/-- `Region::empty` = `Default` (`region.rs:14`). -/
def empty : Region := ⟨0, 0, 0, 0⟩

/-- `Region::with_size` (`region.rs:19`). -/
def withSize (w h : Nat) : Region := ⟨0, 0, w, h⟩

/-- `Region::is_empty` (`region.rs:29`). -/
def isEmpty (r : Region) : Bool := r.width == 0 || r.height == 0

/-- `Region::right` (`region.rs:34`): `left.saturating_add_unsigned(width)`; ideal value.
Rust saturates to `i32::MAX` when `left + width > i32::MAX`. -/
def right (r : Region) : Int := r.left + r.width

/-- `Region::bottom` (`region.rs:39`); saturates like `right`. -/
def bottom (r : Region) : Int := r.top + r.height

/-- both `right()` and `bottom()` are exact (no saturation) -/
def edgesFit (r : Region) : Bool := inI32 r.right && inI32 r.bottom

/-- the fields themselves are representable -/
def wf (r : Region) : Bool := inI32 r.left && inI32 r.top && inU32 r.width && inU32 r.height

/-- point membership (specification vocabulary, not in the Rust code) -/
def Mem (x y : Int) (r : Region) : Prop :=
  r.left ≤ x ∧ x < r.left + r.width ∧ r.top ≤ y ∧ y < r.top + r.height

instance (x y : Int) (r : Region) : Decidable (Mem x y r) := by unfold Mem; infer_instance

/-- set inclusion of the covered cells (specification vocabulary) -/
def Subset (a b : Region) : Prop := ∀ x y, Mem x y a → Mem x y b

/-- `Region::contains` (`region.rs:43`). -/
def contains (r t : Region) : Bool :=
  if t.isEmpty then true
  else decide (r.left ≤ t.left) && decide (r.top ≤ t.top) &&
       decide (r.right ≥ t.right) && decide (r.bottom ≥ t.bottom)

def containsFits (r t : Region) : Bool := t.isEmpty || (r.edgesFit && t.edgesFit)

/-- `Region::translate` (`region.rs:54`): plain `i32` additions, panic on overflow in checked
builds (wrap in release). -/
def translate (r : Region) (x y : Int) : Region := { r with left := r.left + x, top := r.top + y }

def translateFits (r : Region) (x y : Int) : Bool := inI32 (r.left + x) && inI32 (r.top + y)

/-- `Region::intersection` (`region.rs:62`), literally: order the two spans by their left end,
empty when the first ends before the second starts. -/
def intersection (a b : Region) : Region :=
  if a.width = 0 ∨ b.width = 0 ∨ a.height = 0 ∨ b.height = 0 then empty
  else
    let ax : Int × Int := (a.left, a.right)
    let ay : Int × Int := (a.top, a.bottom)
    let bx : Int × Int := (b.left, b.right)
    let by_ : Int × Int := (b.top, b.bottom)
    let (ax, bx) := if ax.1 > bx.1 then (bx, ax) else (ax, bx)
    let (ay, by_) := if ay.1 > by_.1 then (by_, ay) else (ay, by_)
    if ax.2 ≤ bx.1 ∨ ay.2 ≤ by_.1 then empty
    else ⟨bx.1, by_.1, (min ax.2 bx.2 - bx.1).toNat, (min ay.2 by_.2 - by_.1).toNat⟩

/-- exact unless `right()`/`bottom()` of a non-empty operand saturates -/
def intersectionFits (a b : Region) : Bool :=
  (a.width == 0 || b.width == 0 || a.height == 0 || b.height == 0) || (a.edgesFit && b.edgesFit)

/-- `Region::merge` (`region.rs:101`): bounding box; `wrapping_add_unsigned` for the far edges
(silent wrap when `left + width` leaves `i32`). -/
def merge (a b : Region) : Region :=
  if b.isEmpty then a
  else if a.isEmpty then b
  else
    let left := min a.left b.left
    let top := min a.top b.top
    let right := max (a.left + a.width) (b.left + b.width)
    let bottom := max (a.top + a.height) (b.top + b.height)
    ⟨left, top, (right - left).natAbs, (bottom - top).natAbs⟩

def mergeFits (a b : Region) : Bool := a.isEmpty || b.isEmpty || (a.edgesFit && b.edgesFit)

/-- `Region::pad` (`region.rs:131`): `left.saturating_sub_unsigned(size)` (saturates at
`i32::MIN`), `width + size * 2` (both operations panic on `u32` overflow in checked builds). -/
def pad (r : Region) (n : Nat) : Region :=
  ⟨r.left - n, r.top - n, r.width + n * 2, r.height + n * 2⟩

def padFits (r : Region) (n : Nat) : Bool :=
  inI32 (r.left - n) && inI32 (r.top - n) && inU32 (n * 2) &&
  inU32 (r.width + n * 2) && inU32 (r.height + n * 2)

/-- one axis of `Region::downsample` (`region.rs:141`) with divisor `d = 2^factor`:
`new_left = left >> factor` (floor), `adj = width + |left - (new_left << factor)|`,
`width' = (adj + (d-1)) >> factor`. -/
def downAx (l : Int) (w : Nat) (d : Nat) : Int × Nat :=
  let nl := l / (d : Int)
  let adj := w + (l - nl * (d : Int)).natAbs
  (nl, (adj + (d - 1)) / d)

def downAxFits (l : Int) (w : Nat) (d : Nat) : Bool :=
  let nl := l / (d : Int)
  inU32 (w + (l - nl * (d : Int)).natAbs + (d - 1))

/-- `Region::downsample` (`region.rs:141`); `factor` is a log2. Shift amounts >= 32 panic
(`1u32 << factor`); the two `u32` additions panic on overflow. -/
def downsample (r : Region) (k : Nat) : Region :=
  if k = 0 then r
  else
    let x := downAx r.left r.width (2 ^ k)
    let y := downAx r.top r.height (2 ^ k)
    ⟨x.1, y.1, x.2, y.2⟩

def downsampleFits (r : Region) (k : Nat) : Bool :=
  k == 0 || (decide (k < 32) && downAxFits r.left r.width (2 ^ k) && downAxFits r.top r.height (2 ^ k))

/-- `Region::downsample_separate` (`region.rs:160`). -/
def downsampleSeparate (r : Region) (kx ky : Nat) : Region :=
  if kx = 0 ∧ ky = 0 then r
  else
    let x := downAx r.left r.width (2 ^ kx)
    let y := downAx r.top r.height (2 ^ ky)
    ⟨x.1, y.1, x.2, y.2⟩

def downsampleSeparateFits (r : Region) (kx ky : Nat) : Bool :=
  (kx == 0 && ky == 0) ||
  (decide (kx < 32) && decide (ky < 32) &&
    downAxFits r.left r.width (2 ^ kx) && downAxFits r.top r.height (2 ^ ky))

/-- `Region::upsample` / `upsample_separate` (`region.rs:197`, `202`): four `<<`; bits shifted
out are lost silently, shift amounts >= 32 panic in checked builds. -/
def upsample (r : Region) (k : Nat) : Region :=
  ⟨r.left * 2 ^ k, r.top * 2 ^ k, r.width * 2 ^ k, r.height * 2 ^ k⟩

def upsampleFits (r : Region) (k : Nat) : Bool :=
  decide (k < 32) && inI32 (r.left * 2 ^ k) && inI32 (r.top * 2 ^ k) &&
  inU32 (r.width * 2 ^ k) && inU32 (r.height * 2 ^ k)

/-- one axis of `Region::container_aligned` (`region.rs:211`), `g` a power of two:
`new_left = left & !(g-1)` (two's complement: floor to a multiple of `g`),
`width' = (width + |left - new_left| + (g-1)) & !(g-1)`. -/
def alignAx (l : Int) (w : Nat) (g : Nat) : Int × Nat :=
  let nl := l / (g : Int) * (g : Int)
  let diff := (l - nl).natAbs
  (nl, (w + diff + (g - 1)) / g * g)

def alignAxFits (l : Int) (w : Nat) (g : Nat) : Bool :=
  inU32 (w + (l - l / (g : Int) * (g : Int)).natAbs + (g - 1))

/-- `Region::container_aligned` (`region.rs:211`). `grid_dim` must be a power of two
(`debug_assert!`), `grid_dim - 1` panics for 0; the `u32` additions panic on overflow. -/
def containerAligned (r : Region) (g : Nat) : Region :=
  let x := alignAx r.left r.width g
  let y := alignAx r.top r.height g
  ⟨x.1, y.1, x.2, y.2⟩

def isPow2 (g : Nat) : Bool := (List.range 32).any (fun k => g == 2 ^ k)

def containerAlignedFits (r : Region) (g : Nat) : Bool :=
  isPow2 g && alignAxFits r.left r.width g && alignAxFits r.top r.height g

/-- `ImageMetadata::apply_orientation(width, height, left, top, inverse = true)`
(`jxl-image/src/lib.rs:249`): where a pixel of the oriented image lies in the coded image.
`W`, `H` are the *oriented* image dimensions. -/
def orientPoint (o : Nat) (W H : Int) (l t : Int) : Int × Int :=
  match o with
  | 1 => (l, t)
  | 2 => (W - l - 1, t)
  | 3 => (W - l - 1, H - t - 1)
  | 4 => (l, H - t - 1)
  | 5 => (t, l)
  | 6 => (t, W - l - 1)
  | 7 => (H - t - 1, W - l - 1)
  | 8 => (H - t - 1, l)
  | _ => (l, t)

/-- oriented size: `ImageHeader::width_with_orientation` / `height_with_orientation`. -/
def orientedSize (o : Nat) (w h : Nat) : Nat × Nat := if 5 ≤ o ∧ o ≤ 8 then (h, w) else (w, h)

/-- `Region::apply_orientation` (`region.rs:227`): maps both corners, re-orders them.
`imgW`, `imgH` are the coded image dimensions (`image_header.size`). -/
def applyOrientation (r : Region) (imgW imgH : Nat) (o : Nat) : Region :=
  -- an empty request stays empty (sides swapped for orientations 5..8); repaired behaviour,
  -- before it the corner arithmetic below produced a 2x2 region
  if r.width = 0 ∨ r.height = 0 then
    (if o ≥ 5 then ⟨0, 0, r.height, r.width⟩ else ⟨0, 0, r.width, r.height⟩)
  else
  let (W, H) := orientedSize o imgW imgH
  let p := orientPoint o W H r.left r.top
  let q := orientPoint o W H (r.left + r.width - 1) (r.top + r.height - 1)
  let (left, right) := if p.1 > q.1 then (q.1, p.1) else (p.1, q.1)
  let (top, bottom) := if p.2 > q.2 then (q.2, p.2) else (p.2, q.2)
  ⟨left, top, (right - left).natAbs + 1, (bottom - top).natAbs + 1⟩

/-- every `i32` operation of `apply_orientation` is exact: `width as i32` does not wrap, the
corner sums and the mirrored coordinates stay in `i32`, and the final `+ 1` stays in `u32`. -/
def applyOrientationFits (r : Region) (imgW imgH : Nat) (o : Nat) : Bool :=
  let (W, H) := orientedSize o imgW imgH
  let x2 := r.left + r.width - 1
  let y2 := r.top + r.height - 1
  decide (1 ≤ o) && decide (o ≤ 8) &&
  inI32 (W : Int) && inI32 (H : Int) && inI32 (r.width : Int) && inI32 (r.height : Int) &&
  inI32 (r.left + r.width) && inI32 (r.top + r.height) && inI32 x2 && inI32 y2 &&
  inI32 ((W : Int) - r.left) && inI32 ((W : Int) - r.left - 1) &&
  inI32 ((H : Int) - r.top) && inI32 ((H : Int) - r.top - 1) &&
  inI32 ((W : Int) - x2) && inI32 ((W : Int) - x2 - 1) &&
  inI32 ((H : Int) - y2) && inI32 ((H : Int) - y2 - 1)

end Region

open Region

/-! ## Header-driven functions -/

/-- The header fields the region arithmetic reads (`FrameHeader`, `ImageHeader`).
`upsampling`, `ecUp` are log2 (`1,2,4,8` ↦ `0..3`). -/
structure Cfg where
  imgW : Nat
  imgH : Nat
  orientation : Nat
  /-- `frame_header.x0`, `y0` -/
  x0 : Int
  y0 : Int
  /-- `frame_header.width`, `height` -/
  fw : Nat
  fh : Nat
  /-- `frame_type == ReferenceOnly` -/
  refOnly : Bool
  /-- `frame_type.is_normal_frame()` (Regular or SkipProgressive) -/
  normal : Bool
  lfLevel : Nat
  /-- log2 of `frame_header.upsampling` -/
  upsampling : Nat
  /-- per extra channel: (log2 of `ec_upsampling[i]`, `ec_info[i].dim_shift`) -/
  ec : List (Nat × Nat)
  /-- `0` = EPF disabled, else `iters` (1..3) -/
  epfIters : Nat
  gab : Bool
  ycbcr : Bool
  groupSizeShift : Nat
  deriving Repr, Inhabited

namespace Cfg

/-- what `Frame::parse` (`jxl-frame/src/lib.rs:112..215`) and the header bundles accept -/
def valid (c : Cfg) : Bool :=
  decide (1 ≤ c.imgW) && decide (c.imgW ≤ 2 ^ 30) && decide (1 ≤ c.imgH) && decide (c.imgH ≤ 2 ^ 30) &&
  decide (1 ≤ c.orientation) && decide (c.orientation ≤ 8) &&
  decide (1 ≤ c.fw) && decide (c.fw ≤ 2 ^ 30) && decide (1 ≤ c.fh) && decide (c.fh ≤ 2 ^ 30) &&
  decide (c.fw * c.fh ≤ 2 ^ 40) &&
  decide (-(2 ^ 29 + 9344 : Int) ≤ c.x0) && decide (c.x0 ≤ 2 ^ 29 + 9343) &&
  decide (-(2 ^ 29 + 9344 : Int) ≤ c.y0) && decide (c.y0 ≤ 2 ^ 29 + 9343) &&
  decide (c.lfLevel ≤ 4) && decide (c.upsampling ≤ 3) &&
  c.ec.all (fun e => decide (e.1 ≤ 3) && decide (c.upsampling ≤ e.1 + e.2) && decide (e.1 + e.2 ≤ 6)) &&
  decide (c.epfIters ≤ 3) && decide (c.groupSizeShift ≤ 3) &&
  (c.lfLevel == 0 || (c.upsampling == 0 && c.ec.all (fun e => e.1 == 0)))

/-- `FrameHeader::sample_width(upsampling)` (`header.rs:227`); `up` is the factor itself. -/
def sampleDim (c : Cfg) (dim : Nat) (up : Nat) : Nat :=
  let w := if up > 1 then (dim + up - 1) / up else dim
  if c.lfLevel > 0 then (w + 2 ^ (3 * c.lfLevel) - 1) / 2 ^ (3 * c.lfLevel) else w

def sampleWidth (c : Cfg) (up : Nat) : Nat := c.sampleDim c.fw up
def sampleHeight (c : Cfg) (up : Nat) : Nat := c.sampleDim c.fh up
/-- `color_sample_width` (`header.rs:263`) -/
def colorSampleWidth (c : Cfg) : Nat := c.sampleWidth (2 ^ c.upsampling)
def colorSampleHeight (c : Cfg) : Nat := c.sampleHeight (2 ^ c.upsampling)
/-- `group_dim` (`header.rs:299`) -/
def groupDim (c : Cfg) : Nat := 128 * 2 ^ c.groupSizeShift
def lfGroupDim (c : Cfg) : Nat := c.groupDim * 8
def groupsPerRow (c : Cfg) : Nat := (c.colorSampleWidth + c.groupDim - 1) / c.groupDim
def groupsPerCol (c : Cfg) : Nat := (c.colorSampleHeight + c.groupDim - 1) / c.groupDim
def numGroups (c : Cfg) : Nat := c.groupsPerRow * c.groupsPerCol
def lfGroupsPerRow (c : Cfg) : Nat := (c.colorSampleWidth + c.lfGroupDim - 1) / c.lfGroupDim
def lfGroupsPerCol (c : Cfg) : Nat := (c.colorSampleHeight + c.lfGroupDim - 1) / c.lfGroupDim
def numLfGroups (c : Cfg) : Nat := c.lfGroupsPerRow * c.lfGroupsPerCol

/-- the `u32` arithmetic of `sample_width/height`, `group_dim`, `lf_group_dim`, `num_groups`
(`header.rs:227..315`) is exact: `1u32 << (3 * lf_level)` and `128 << group_size_shift` do not
overflow their shift/width, `width + div - 1` stays in `u32`, the group counts multiply in `u32`. -/
def dimsFit (c : Cfg) : Bool :=
  decide (3 * c.lfLevel < 32) && decide (c.groupSizeShift ≤ 21) && decide (c.upsampling < 32) &&
  inU32 c.fw && inU32 c.fh &&
  inU32 ((c.fw + 2 ^ c.upsampling - 1) / 2 ^ c.upsampling + 2 ^ (3 * c.lfLevel) - 1) &&
  inU32 ((c.fh + 2 ^ c.upsampling - 1) / 2 ^ c.upsampling + 2 ^ (3 * c.lfLevel) - 1) &&
  inU32 (c.fw + 2 ^ (3 * c.lfLevel) - 1) && inU32 (c.fh + 2 ^ (3 * c.lfLevel) - 1) &&
  inU32 c.numGroups && inU32 c.numLfGroups

/-- `max_upsample_factor` of `pad_upsampling` (`util.rs:65..72`): the maximum of
`ilog2(ec_upsampling) + dim_shift` over the extra channels, or the colour factor when there is
no extra channel. -/
def maxUpsampleFactor (c : Cfg) : Nat :=
  match c.ec with
  | [] => c.upsampling
  | e :: es => es.foldl (fun m e => max m (e.1 + e.2)) (e.1 + e.2)

end Cfg

/-- `is_aabb_collides` (`header.rs:522`) on `u32` tuples `(x, y, w, h)`. -/
def aabbCollides (a b : Nat × Nat × Nat × Nat) : Bool :=
  let (x0, y0, w0, h0) := a
  let (x1, y1, w1, h1) := b
  decide (x0 < x1 + w1) && decide (x0 + w0 > x1) && decide (y0 < y1 + h1) && decide (y0 + h0 > y1)

def aabbFits (a b : Nat × Nat × Nat × Nat) : Bool :=
  let (x0, y0, w0, h0) := a
  let (x1, y1, w1, h1) := b
  inU32 (x1 + w1) && inU32 (x0 + w0) && inU32 (y1 + h1) && inU32 (y0 + h0)

/-- `FrameHeader::is_group_collides_region` (`header.rs:369`). -/
def groupCollides (c : Cfg) (g : Nat) (r : Nat × Nat × Nat × Nat) : Bool :=
  aabbCollides r ((g % c.groupsPerRow) * c.groupDim, (g / c.groupsPerRow) * c.groupDim, c.groupDim, c.groupDim)

def groupCollidesFits (c : Cfg) (g : Nat) (r : Nat × Nat × Nat × Nat) : Bool :=
  c.dimsFit && decide (c.groupsPerRow > 0) &&
  inU32 ((g % c.groupsPerRow) * c.groupDim) && inU32 ((g / c.groupsPerRow) * c.groupDim) &&
  aabbFits r ((g % c.groupsPerRow) * c.groupDim, (g / c.groupsPerRow) * c.groupDim, c.groupDim, c.groupDim)

/-- `FrameHeader::is_lf_group_collides_region` (`header.rs:377`). -/
def lfGroupCollides (c : Cfg) (g : Nat) (r : Nat × Nat × Nat × Nat) : Bool :=
  aabbCollides r ((g % c.lfGroupsPerRow) * c.lfGroupDim, (g / c.lfGroupsPerRow) * c.lfGroupDim, c.lfGroupDim, c.lfGroupDim)

def lfGroupCollidesFits (c : Cfg) (g : Nat) (r : Nat × Nat × Nat × Nat) : Bool :=
  c.dimsFit && decide (c.lfGroupsPerRow > 0) &&
  inU32 ((g % c.lfGroupsPerRow) * c.lfGroupDim) && inU32 ((g / c.lfGroupsPerRow) * c.lfGroupDim) &&
  aabbFits r ((g % c.lfGroupsPerRow) * c.lfGroupDim, (g / c.lfGroupsPerRow) * c.lfGroupDim, c.lfGroupDim, c.lfGroupDim)

/-- the rectangle of pass group `g` as built in `render_modular` (`modular.rs:70..80`) -/
def groupRegion (c : Cfg) (g : Nat) : Region :=
  ⟨((g % c.groupsPerRow) * c.groupDim : Nat), ((g / c.groupsPerRow) * c.groupDim : Nat), c.groupDim, c.groupDim⟩

/-- the job filter of `render_modular` (`modular.rs:81`): the group is decoded iff its rectangle
meets `modular_region`. -/
def groupSelected (c : Cfg) (modularRegion : Region) (g : Nat) : Bool :=
  !((groupRegion c g).intersection modularRegion).isEmpty

/-- the rectangle of LF group `g` at 1/8 scale as built in `load_lf_groups` (`util.rs:199..208`);
note it uses `group_dim` (not `lf_group_dim`) because the coordinates are already divided by 8 -/
def lfGroupRegion (c : Cfg) (g : Nat) : Region :=
  ⟨((g % c.lfGroupsPerRow) * c.groupDim : Nat), ((g / c.lfGroupsPerRow) * c.groupDim : Nat), c.groupDim, c.groupDim⟩

/-- the job filter of `load_lf_groups` (`util.rs:209`), `lfRegion = modular_region.downsample(3)`. -/
def lfGroupSelected (c : Cfg) (lfRegion : Region) (g : Nat) : Bool :=
  !(lfRegion.intersection (lfGroupRegion c g)).isEmpty

/-- `util::image_region_to_frame` (`util.rs:19`). -/
def imageRegionToFrame (c : Cfg) (r : Region) (ignoreLf : Bool) : Region :=
  let full := Region.withSize c.fw c.fh
  let fr :=
    if c.refOnly then full
    else ((r.applyOrientation c.imgW c.imgH c.orientation).translate (-c.x0) (-c.y0)).intersection full
  if ignoreLf then fr else fr.downsample (c.lfLevel * 3)

def imageRegionToFrameFits (c : Cfg) (r : Region) (ignoreLf : Bool) : Bool :=
  let full := Region.withSize c.fw c.fh
  let o := r.applyOrientation c.imgW c.imgH c.orientation
  let t := o.translate (-c.x0) (-c.y0)
  let fr := if c.refOnly then full else t.intersection full
  (c.refOnly ||
    (r.applyOrientationFits c.imgW c.imgH c.orientation && inI32 (-c.x0) && inI32 (-c.y0) &&
     o.translateFits (-c.x0) (-c.y0) && t.intersectionFits full)) &&
  (ignoreLf || fr.downsampleFits (c.lfLevel * 3))

/-- `util::pad_lf_region` (`util.rs:51`). -/
def padLfRegion (c : Cfg) (r : Region) : Region :=
  if c.lfLevel ≠ 0 then r.pad (4 * c.lfLevel + 32) else r

def padLfRegionFits (c : Cfg) (r : Region) : Bool :=
  c.lfLevel == 0 || r.padFits (4 * c.lfLevel + 32)

/-- `util::pad_upsampling` (`util.rs:60`). -/
def padUpsampling (c : Cfg) (r : Region) : Region :=
  let m := c.maxUpsampleFactor
  if m > 0 then ((r.downsample m).pad (2 + (m - 1) / 3)).upsample m else r

def padUpsamplingFits (c : Cfg) (r : Region) : Bool :=
  let m := c.maxUpsampleFactor
  m == 0 ||
  (r.downsampleFits m && (r.downsample m).padFits (2 + (m - 1) / 3) &&
   ((r.downsample m).pad (2 + (m - 1) / 3)).upsampleFits m)

/-- the sequence of regions `pad_color_region` goes through (`util.rs:85..120`):
after upsampling padding + downsampling, after EPF padding, after Gabor padding, after chroma
padding/alignment, after 8-alignment -/
def padColorSteps (c : Cfg) (r : Region) : List Region :=
  let s0 := (padUpsampling c r).downsample c.upsampling
  let s1 := if c.epfIters = 0 then s0
            else if c.epfIters = 1 then s0.pad 2 else if c.epfIters = 2 then s0.pad 5 else s0.pad 6
  let s2 := if c.gab then s1.pad 1 else s1
  let s3 := if c.ycbcr then (((s2.pad 1).downsample 2).upsample 2) else s2
  let s4 := if c.epfIters ≠ 0 then s3.containerAligned 8 else s3
  [s0, s1, s2, s3, s4]

/-- `util::pad_color_region` (`util.rs:85`). -/
def padColorRegion (c : Cfg) (r : Region) : Region :=
  let s0 := (padUpsampling c r).downsample c.upsampling
  let s1 := if c.epfIters = 0 then s0
            else if c.epfIters = 1 then s0.pad 2 else if c.epfIters = 2 then s0.pad 5 else s0.pad 6
  let s2 := if c.gab then s1.pad 1 else s1
  let s3 := if c.ycbcr then (((s2.pad 1).downsample 2).upsample 2) else s2
  if c.epfIters ≠ 0 then s3.containerAligned 8 else s3

def padColorRegionFits (c : Cfg) (r : Region) : Bool :=
  let pu := padUpsampling c r
  let s0 := pu.downsample c.upsampling
  let e := if c.epfIters = 1 then 2 else if c.epfIters = 2 then 5 else 6
  let s1 := if c.epfIters = 0 then s0 else s0.pad e
  let s2 := if c.gab then s1.pad 1 else s1
  let s3 := if c.ycbcr then (((s2.pad 1).downsample 2).upsample 2) else s2
  padUpsamplingFits c r && pu.downsampleFits c.upsampling &&
  (c.epfIters == 0 || s0.padFits e) &&
  (!c.gab || s1.padFits 1) &&
  (!c.ycbcr || (s2.padFits 1 && (s2.pad 1).downsampleFits 2 && ((s2.pad 1).downsample 2).upsampleFits 2)) &&
  (c.epfIters == 0 || s3.containerAlignedFits 8)

/-- `modular::compute_modular_region` (`modular.rs:150`); `forceFull` is
`has_palette() || has_squeeze()`. `region.width.checked_add_signed(region.left).unwrap()` panics
(all builds) when `left + width` is negative or exceeds `u32`. -/
def computeModularRegion (c : Cfg) (forceFull : Bool) (r : Region) (isLf : Bool) : Region :=
  if forceFull then
    let w := if isLf then (c.colorSampleWidth + 7) / 8 else c.colorSampleWidth
    let h := if isLf then (c.colorSampleHeight + 7) / 8 else c.colorSampleHeight
    Region.withSize (max w (r.left + r.width).toNat) (max h (r.top + r.height).toNat)
  else r

def computeModularRegionFits (c : Cfg) (forceFull : Bool) (r : Region) (_isLf : Bool) : Bool :=
  !forceFull || (c.dimsFit && intInU32 (r.left + r.width) && intInU32 (r.top + r.height))

/-- The regions `render::render_frame` (`render.rs:22..44`) and `modular::render_modular`
(`modular.rs:27`, `44`) derive from the requested image region. -/
structure Plumb where
  /-- `image_region_to_frame(frame, image_region, false)` (`render.rs:22`) -/
  frameRegion : Region
  /-- after `pad_lf_region` (`render.rs:32`) -/
  lfPadded : Region
  /-- `upsampling_valid_region` (`render.rs:36`) -/
  upValid : Region
  /-- `color_padded_region` (`render.rs:43`) -/
  colorPadded : Region
  /-- `compute_modular_region(.., color_padded_region, false)` (`modular.rs:27`) -/
  modularRegion : Region
  /-- `modular_region.downsample(3)` handed to `load_lf_groups` (`modular.rs:44`) -/
  lfRegion : Region
  deriving Repr, DecidableEq

def plumb (c : Cfg) (forceFull : Bool) (imageRegion : Region) : Plumb :=
  let fr := imageRegionToFrame c imageRegion false
  let lp := padLfRegion c fr
  let upFull := Region.withSize (c.sampleWidth 1) (c.sampleHeight 1)
  let uv := (padUpsampling c lp).intersection upFull
  let full := Region.withSize c.colorSampleWidth c.colorSampleHeight
  let cp := (padColorRegion c lp).intersection full
  let mr := computeModularRegion c forceFull cp false
  ⟨fr, lp, uv, cp, mr, mr.downsample 3⟩

def plumbFits (c : Cfg) (forceFull : Bool) (imageRegion : Region) : Bool :=
  let fr := imageRegionToFrame c imageRegion false
  let lp := padLfRegion c fr
  let upFull := Region.withSize (c.sampleWidth 1) (c.sampleHeight 1)
  let full := Region.withSize c.colorSampleWidth c.colorSampleHeight
  let cp := (padColorRegion c lp).intersection full
  let mr := computeModularRegion c forceFull cp false
  c.dimsFit && imageRegionToFrameFits c imageRegion false && padLfRegionFits c fr &&
  padUpsamplingFits c lp && (padUpsampling c lp).intersectionFits upFull &&
  padColorRegionFits c lp && (padColorRegion c lp).intersectionFits full &&
  computeModularRegionFits c forceFull cp false && mr.downsampleFits 3

/-- `image::composite` (`composite_region`, `image.rs:844`): the frame-coordinate region handed to `blend()` as
`output_frame_region`. `oriented` is the already oriented image region. -/
def compositeRegion (c : Cfg) (oriented : Region) : Region :=
  let fr := (oriented.translate (-c.x0) (-c.y0)).downsample (c.lfLevel * 3)
  if c.normal then fr.intersection ((Region.withSize c.imgW c.imgH).translate (-c.x0) (-c.y0)) else fr

def compositeRegionFits (c : Cfg) (oriented : Region) : Bool :=
  let t := oriented.translate (-c.x0) (-c.y0)
  let d := t.downsample (c.lfLevel * 3)
  let img := (Region.withSize c.imgW c.imgH).translate (-c.x0) (-c.y0)
  inI32 (-c.x0) && inI32 (-c.y0) && oriented.translateFits (-c.x0) (-c.y0) &&
  t.downsampleFits (c.lfLevel * 3) &&
  (!c.normal || ((Region.withSize c.imgW c.imgH).translateFits (-c.x0) (-c.y0) && d.intersectionFits img))

/-! ## `blend()` / `patch()` region computation (`blend.rs:179..487`, `489..629`) -/

/-- Everything `blend()` derives from rectangles for one channel. -/
structure BlendGeom where
  /-- `original_frame_region` (`blend.rs:238`) -/
  original : Region
  /-- `clipped_original_frame_region` (`blend.rs:241`) -/
  clipped : Region
  /-- `blend_params.base_topleft` (`blend.rs:447`) -/
  baseX : Nat
  baseY : Nat
  /-- offset of `new_subgrid`, the part of the new frame's grid handed to `blend_single`
  (`blend.rs:465..466`; `blend_params.new_topleft` itself is `(0, 0)`) -/
  newX : Nat
  newY : Nat
  /-- `blend_params.width/height` (`blend.rs:457`) -/
  w : Nat
  h : Nat
  /-- the region attached to the produced channel (`blend.rs:266`, `310`, `360`) -/
  target : Region
  /-- position of `target_subgrid` inside the target grid (`blend.rs:310..337`); `(0,0)` with the
  whole grid on the fresh-canvas path -/
  subLeft : Int
  subTop : Int
  subW : Nat
  subH : Nat
  deriving Repr, DecidableEq

/-- inputs: frame header `x0,y0,width,height` of the new frame; region of the new frame's grid
(frame coordinates); `output_frame_region`; and, if the source slot holds a frame whose grid is
not empty, that frame's `x0,y0` and the region of its blended grid (its own frame coordinates). -/
def blendGeom (x0 y0 : Int) (fw fh : Nat) (newGrid output : Region)
    (base : Option (Int × Int × Region)) : BlendGeom :=
  let full := Region.withSize fw fh
  let outImg := output.translate x0 y0
  let original := newGrid.intersection full
  let clipped := original.intersection output
  let (target, sl, st, sw, sh) :=
    match base with
    | none => (output, (0 : Int), (0 : Int), output.width, output.height)
    | some (bx0, by0, grid) =>
      if grid.isEmpty then (output, (0 : Int), (0 : Int), output.width, output.height)
      else
        let baseFrameRegion := outImg.translate (-bx0) (-by0)
        let rel := baseFrameRegion.translate (-grid.left) (-grid.top)
        (grid.translate (bx0 - x0) (by0 - y0), rel.left, rel.top, rel.width, rel.height)
  { original, clipped,
    baseX := (clipped.left - output.left).natAbs, baseY := (clipped.top - output.top).natAbs,
    newX := (clipped.left - newGrid.left).natAbs, newY := (clipped.top - newGrid.top).natAbs,
    w := clipped.width, h := clipped.height,
    target, subLeft := sl, subTop := st, subW := sw, subH := sh }

/-- no `i32` overflow in the translations; the new frame's grid is not 0×0 (`as_subgrid()` of an
empty grid asserts, `shared_subgrid.rs:47`); the sub-grid lies inside the base grid (otherwise
`subgrid()` panics); the copy loops stay inside both buffers (otherwise a slice index panics) -/
def blendGeomFits (x0 y0 : Int) (fw fh : Nat) (newGrid output : Region)
    (base : Option (Int × Int × Region)) : Bool :=
  let g := blendGeom x0 y0 fw fh newGrid output base
  let full := Region.withSize fw fh
  !newGrid.isEmpty && output.translateFits x0 y0 && newGrid.intersectionFits full &&
  (newGrid.intersection full).intersectionFits output &&
  (match base with
   | none => true
   | some (bx0, by0, grid) =>
     grid.isEmpty ||
     (inI32 (-bx0) && inI32 (-by0) && (output.translate x0 y0).translateFits (-bx0) (-by0) &&
      inI32 (-grid.left) && inI32 (-grid.top) &&
      ((output.translate x0 y0).translate (-bx0) (-by0)).translateFits (-grid.left) (-grid.top) &&
      inI32 (bx0 - x0) && inI32 (by0 - y0) && grid.translateFits (bx0 - x0) (by0 - y0) &&
      decide (0 ≤ g.subLeft) && decide (0 ≤ g.subTop) &&
      decide (g.subLeft + g.subW ≤ grid.width) && decide (g.subTop + g.subH ≤ grid.height))) &&
  (g.w == 0 || g.h == 0 ||
    (decide (g.baseX + g.w ≤ g.subW) && decide (g.baseY + g.h ≤ g.subH) &&
     decide (g.newX + g.w ≤ newGrid.width) && decide (g.newY + g.h ≤ newGrid.height)))

/-- What one cell of the produced channel holds after a `Replace` blend, as observed by the
probe: `0` fresh canvas, `-(i+1)` cell `i` of the base grid kept, `i+1` cell `i` (row-major) of
the new frame's grid copied. `(cx, cy)` is the cell index inside the target grid. -/
def blendCell (newGrid : Region) (g : BlendGeom) (hasBase : Bool) (cx cy : Nat) : Int :=
  let sx : Int := (cx : Int) - g.subLeft
  let sy : Int := (cy : Int) - g.subTop
  if (g.baseX : Int) ≤ sx ∧ sx < g.baseX + g.w ∧ (g.baseY : Int) ≤ sy ∧ sy < g.baseY + g.h then
    let nx := g.newX + (sx - g.baseX).toNat
    let ny := g.newY + (sy - g.baseY).toNat
    ((ny * newGrid.width + nx + 1 : Nat) : Int)
  else if hasBase then -((cy * g.target.width + cx + 1 : Nat) : Int)
  else 0

def blendCells (newGrid : Region) (g : BlendGeom) (hasBase : Bool) : List Int :=
  (List.range g.target.height).flatMap fun cy =>
    (List.range g.target.width).map fun cx => blendCell newGrid g hasBase cx cy

/-- Everything `patch()` derives from rectangles for one channel and one target position. -/
structure PatchGeom where
  /-- `target_patch_region` (`blend.rs:510`) -/
  targetPatch : Region
  /-- `ref_patch_region` (`blend.rs:525`) -/
  refPatch : Region
  baseX : Nat
  baseY : Nat
  newX : Nat
  newY : Nat
  w : Nat
  h : Nat
  deriving Repr, DecidableEq

/-- `baseGrid`: region of the canvas channel in buffer coordinates (`base_region.downsample_with_shift`,
`blend.rs:507`); `refGrid`: region of the reference channel;
`(px0, py0, pw, ph)`: `PatchRef { x0, y0, width, height }`; `(tx, ty)`: `PatchTarget { x, y }`. -/
def patchGeom (baseGrid refGrid : Region) (px0 py0 pw ph : Nat) (tx ty : Int) : PatchGeom :=
  let tp := baseGrid.intersection ⟨tx, ty, pw, ph⟩
  let left := tp.left - tx
  let top := tp.top - ty
  let rp := refGrid.intersection ⟨(px0 : Int) + left, (py0 : Int) + top, tp.width, tp.height⟩
  { targetPatch := tp, refPatch := rp,
    baseX := (tp.left - baseGrid.left).natAbs, baseY := (tp.top - baseGrid.top).natAbs,
    newX := (rp.left - refGrid.left).natAbs, newY := (rp.top - refGrid.top).natAbs,
    w := rp.width, h := rp.height }

def patchGeomFits (baseGrid refGrid : Region) (px0 py0 pw ph : Nat) (tx ty : Int) : Bool :=
  let tp := baseGrid.intersection ⟨tx, ty, pw, ph⟩
  let left := tp.left - tx
  let top := tp.top - ty
  let pr : Region := ⟨(px0 : Int) + left, (py0 : Int) + top, tp.width, tp.height⟩
  baseGrid.intersectionFits ⟨tx, ty, pw, ph⟩ && inI32 left && inI32 top &&
  inI32 (px0 : Int) && inI32 (py0 : Int) && inI32 ((px0 : Int) + left) && inI32 ((py0 : Int) + top) &&
  refGrid.intersectionFits pr

def patchCell (baseGrid refGrid : Region) (g : PatchGeom) (cx cy : Nat) : Int :=
  if g.baseX ≤ cx ∧ cx < g.baseX + g.w ∧ g.baseY ≤ cy ∧ cy < g.baseY + g.h then
    (((g.newY + (cy - g.baseY)) * refGrid.width + (g.newX + (cx - g.baseX)) + 1 : Nat) : Int)
  else -((cy * baseGrid.width + cx + 1 : Nat) : Int)

def patchCells (baseGrid refGrid : Region) (g : PatchGeom) : List Int :=
  (List.range baseGrid.height).flatMap fun cy =>
    (List.range baseGrid.width).map fun cx => patchCell baseGrid refGrid g cx cy

/-! ## Reset decision of `request_image_region` (`lib.rs:243`, `reset_cache` `lib.rs:686..738`) -/

/-- A loaded frame as far as the reset logic is concerned: `frame_type == ReferenceOnly`, and
the frame indices in `FrameDependence { lf, ref_slots }` (all smaller than its own index). -/
structure FrameInfo where
  refOnly : Bool
  deps : List Nat
  deriving Repr, DecidableEq

/-- What a render handle can observe: for itself (first entry) and for every handle it captured
directly or indirectly (`FrameRenderHandle.refs`, the `render_op` closure: `Arc`s to the handles
that were current when it was created), the frame index and the image region that handle renders
with. `none` for a `ReferenceOnly` frame: `image_region_to_frame` ignores the region there
(`util.rs:28`). A keyframe's samples are a function of the frames' data and of this view. -/
structure Handle where
  view : List (Nat × Option Region)
  deriving Repr, DecidableEq

/-- a fresh handle for frame `idx` created while `acc` holds the current handles of the frames
before it (`preserve_current_frame`, `lib.rs:295..403`; `reset_cache`, `lib.rs:686..738`) -/
def freshHandle (f : FrameInfo) (idx : Nat) (region : Region) (acc : List Handle) : Handle :=
  { view := (idx, if f.refOnly then none else some region) ::
            f.deps.flatMap fun d => ((acc[d]?).map (·.view)).getD [] }

/-- handles right after loading all frames with requested region `r0`; `acc` = handles of the
frames already loaded -/
def loadFrom (r0 : Region) : List FrameInfo → List Handle → List Handle
  | [], _ => []
  | f :: fs, acc =>
    let h := freshHandle f acc.length r0 acc
    h :: loadFrom r0 fs (acc ++ [h])

def initial (frames : List FrameInfo) (r0 : Region) : List Handle := loadFrom r0 frames []

/-- `reset_cache`: frames are visited in index order; a `ReferenceOnly` frame keeps its handle
(`lib.rs:693`), any other frame gets a fresh handle for `region` that captures the *current*
handles of its dependency frames (`acc`: already replaced, since they have smaller indices). -/
def resetFrom (region : Region) : List FrameInfo → List Handle → List Handle → List Handle
  | f :: fs, h :: hs, acc =>
    let h' : Handle := if f.refOnly then h else freshHandle f acc.length region acc
    h' :: resetFrom region fs hs (acc ++ [h'])
  | _, _, _ => []

/-- `request_image_region(region)` (`lib.rs:243`). -/
def request (frames : List FrameInfo) (hs : List Handle) (region : Region) : List Handle :=
  resetFrom region frames hs []

/-- a history of requests -/
def requests (frames : List FrameInfo) (hs : List Handle) : List Region → List Handle
  | [] => hs
  | r :: rs => requests frames (request frames hs r) rs

/-- the handles a request does not touch: those of `ReferenceOnly` frames -/
def kept : List FrameInfo → List Handle → List (Option Handle)
  | f :: fs, h :: hs => (if f.refOnly then some h else none) :: kept fs hs
  | _, _ => []

/-- the state after a request as a function of the region and the kept handles alone -/
def rebuildFrom (region : Region) : List FrameInfo → List (Option Handle) → List Handle → List Handle
  | f :: fs, k :: ks, acc =>
    let h' : Handle := match k with
      | some h => h
      | none => freshHandle f acc.length region acc
    h' :: rebuildFrom region fs ks (acc ++ [h'])
  | _, _, _ => []

/-- `ReferenceOnly` frames depend only on earlier `ReferenceOnly` frames -/
def RefClosed (frames : List FrameInfo) : Prop :=
  ∀ (i : Nat) (f : FrameInfo), frames[i]? = some f → f.refOnly = true →
    ∀ d ∈ f.deps, d < i ∧ (frames[d]?).map FrameInfo.refOnly = some true

end Jxl.Region

namespace Jxl.Region
/-! ## Specification vocabulary used by the theorems (not in the Rust code) -/

/-- box ordering: `a` lies within `b` edge by edge (no special case for empty boxes) -/
def Region.Within (a b : Region) : Prop :=
  b.left ≤ a.left ∧ a.left + a.width ≤ b.left + b.width ∧
  b.top ≤ a.top ∧ a.top + a.height ≤ b.top + b.height

instance (a b : Region) : Decidable (Region.Within a b) := by unfold Region.Within; infer_instance

/-- the box `[x0, x1) × [y0, y1)` as a predicate on cells; `Region.Mem` for explicit bounds -/
def InBox (x y : Int) (x0 x1 y0 y1 : Int) : Prop := x0 ≤ x ∧ x < x1 ∧ y0 ≤ y ∧ y < y1

/-- the set of cells `blend()` must write: the new frame's grid ∩ the frame rectangle ∩ the
output rectangle (all in the new frame's coordinates) -/
def BlendSpec (fw fh : Nat) (newGrid output : Region) (x y : Int) : Prop :=
  Region.Mem x y newGrid ∧ Region.Mem x y (Region.withSize fw fh) ∧ Region.Mem x y output

/-- what `blend_single` does with the parameters: for `dx < w`, `dy < h` it copies cell
`(newX + dx, newY + dy)` of the new frame's grid to cell `(baseX + dx, baseY + dy)` of the target
sub-grid, which sits at `(subLeft, subTop)` inside the target grid. -/
structure BlendWrite (newGrid : Region) (g : BlendGeom) (fw fh : Nat) (output : Region) (dx dy : Nat) : Prop where
  same_x : g.target.left + (g.subLeft + ((g.baseX + dx : Nat) : Int)) = newGrid.left + ((g.newX + dx : Nat) : Int)
  same_y : g.target.top + (g.subTop + ((g.baseY + dy : Nat) : Int)) = newGrid.top + ((g.newY + dy : Nat) : Int)
  in_sub_x : g.baseX + dx < g.subW
  in_sub_y : g.baseY + dy < g.subH
  in_target_x : 0 ≤ g.subLeft ∧ g.subLeft + g.subW ≤ g.target.width
  in_target_y : 0 ≤ g.subTop ∧ g.subTop + g.subH ≤ g.target.height
  in_new_x : g.newX + dx < newGrid.width
  in_new_y : g.newY + dy < newGrid.height
  in_spec : BlendSpec fw fh newGrid output (newGrid.left + ((g.newX + dx : Nat) : Int)) (newGrid.top + ((g.newY + dy : Nat) : Int))

/-- what `blend_single` does with the parameters `patch()` computes -/
structure PatchWrite (baseGrid refGrid : Region) (px0 py0 pw ph : Nat) (tx ty : Int) (g : PatchGeom) (dx dy : Nat) : Prop where
  in_base_x : g.baseX + dx < baseGrid.width
  in_base_y : g.baseY + dy < baseGrid.height
  in_ref_x : g.newX + dx < refGrid.width
  in_ref_y : g.newY + dy < refGrid.height
  in_target_x : tx ≤ baseGrid.left + ((g.baseX + dx : Nat) : Int) ∧ baseGrid.left + ((g.baseX + dx : Nat) : Int) < tx + pw
  in_target_y : ty ≤ baseGrid.top + ((g.baseY + dy : Nat) : Int) ∧ baseGrid.top + ((g.baseY + dy : Nat) : Int) < ty + ph
  same_offset_x : refGrid.left + ((g.newX + dx : Nat) : Int) - px0 = baseGrid.left + ((g.baseX + dx : Nat) : Int) - tx
  same_offset_y : refGrid.top + ((g.newY + dy : Nat) : Int) - py0 = baseGrid.top + ((g.baseY + dy : Nat) : Int) - ty

/-! ## Locality radii of the render stages, read off the kernels (specification of "what a
stage needs"; the kernels themselves are not modelled)

* Gabor-like filter: 3×3 kernel, rows `y-1..y+1` (`filter/gabor.rs:93..98`) — radius 1.
* EPF (`filter/epf.rs:263..291`): step 0 uses kernel offsets of reach 2 (`EPF_KERNEL_2`) plus
  distance offsets of reach 1: radius 3; step 1: `EPF_KERNEL_1` (reach 1) + distance offsets of
  reach 1: radius 2; step 2: reach 1 + single offset `(0,0)`: radius 1. `iters = 1` runs step 1
  (radius 2), `iters = 2` steps 1, 2 (radius 3), `iters = 3` steps 0, 1, 2 (radius 6)
  (`epf.rs:44..87`; 7 input rows `y-3..y+3` per step, `epf.rs:206..211`). The code pads 2 / 5 / 6
  (`util.rs:99..105`) and needs the window origin to be a multiple of 8 for the sigma lookup
  (`epf.rs:145..147`, `188..199`).
* chroma upsampling (`filter/ycbcr.rs:12..53`): output `2i` reads subsampled `i-1, i`, output
  `2i+1` reads `i, i+1`: radius 1 at the subsampled scale, i.e. the full-resolution need is the
  target padded by 1 and aligned to 2. The code pads 1 and aligns to 4 (`util.rs:113`).
* non-separable upsampling (`features/upsampling.rs:18..40`, `56..58`): `k / 3` passes by 8 then one
  pass by `2^(k % 3)`, each with a 5×5 kernel: radius 2 at the input scale of each pass. The code pads
  `2 + (k-1)/3` at the coarsest scale (`util.rs:78`).
* patches, splines, noise, blending: radius 0 (per-cell). -/

def epfRadius : Nat → Nat
  | 0 => 0
  | 1 => 2
  | 2 => 3
  | _ => 6

def upNeedLoop : Nat → Region → Region
  | 0, r => r
  | n + 1, r => upNeedLoop n ((r.downsample 3).pad 2)

/-- the input cells (scale `2^k`) the non-separable upsampler reads to produce the full-resolution
cells of `r` -/
def upNeed (r : Region) (k : Nat) : Region :=
  upNeedLoop (k / 3) (if k % 3 = 0 then r else (r.downsample (k % 3)).pad 2)

/-- the cells (colour-sample scale) the chain chroma upsampling → Gabor → EPF → non-separable
upsampling reads from the decoded frame in order to produce the full-resolution cells of `F` -/
def stageNeed (c : Cfg) (F : Region) : Region :=
  let n0 := upNeed F c.upsampling
  let n1 := n0.pad (epfRadius c.epfIters)
  let n2 := if c.gab then n1.pad 1 else n1
  if c.ycbcr then ((n2.pad 1).downsample 1).upsample 1 else n2

end Jxl.Region
