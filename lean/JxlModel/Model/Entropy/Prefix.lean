import JxlModel.Model.Entropy.Reader
/-!
# Prefix codes (prefix.rs) — Spec layer

A code is given by its length vector (`lens[sym]`, 0 = unused, ≤ 15). The canonical code orders
the used symbols by (length, symbol) and gives symbol number `i` of that order the left-aligned
15-bit interval `[acc_i, acc_i + 2^(15-len_i))`, `acc_i = Σ_{j<i} 2^(15-len_j)`; its codeword is
the top `len_i` bits of `acc_i`, sent most significant bit first.

`PrefixCode.read` decodes by finding the interval that contains the 15-bit MSB-first look-ahead
(`peek_bits_const::<15>`, zero padded) — this is what indexing the bit-reversed two-level tables
of `with_code_lengths`/`read_symbol` computes. The tables themselves are not modelled here.
-/
namespace Jxl.Entropy

/-- Kraft sum scaled by 2^15: `Σ_{len>0} 2^(15-len)`. -/
def kraft : List Nat → Nat
  | [] => 0
  | l :: r => (if l = 0 then 0 else 2 ^ (15 - l)) + kraft r

/-- symbols with length exactly `l`, ascending, from a zipIdx'd vector -/
def symsOfLen (l : Nat) : List (Nat × Nat) → List (Nat × Nat)
  | [] => []
  | (len, sym) :: r => if len = l then (sym, l) :: symsOfLen l r else symsOfLen l r

/-- canonical order: `(sym, len)` sorted by `(len, sym)`, used symbols only -/
def sortedSyms (lens : List Nat) : List (Nat × Nat) :=
  let z := lens.zipIdx
  (List.range 15).flatMap fun l => symsOfLen (l + 1) z

/-- A decoder: either the zero-bit single-symbol code (`with_single_symbol`) or a canonical
table (`with_code_lengths`). -/
inductive PrefixCode
  | single (sym : Nat)
  | table (entries : List (Nat × Nat))
deriving Repr, DecidableEq, Inhabited

/-- find the interval containing `v`; `acc` = left end of the current entry -/
def walk (v : Nat) : Nat → List (Nat × Nat) → Option (Nat × Nat)
  | _, [] => none
  | acc, (sym, len) :: r =>
    if v < acc + 2 ^ (15 - len) then some (sym, len) else walk v (acc + 2 ^ (15 - len)) r

/-- `Histogram::read_symbol` (prefix.rs): peek 15 bits, look up, consume `len` bits. -/
def PrefixCode.read (c : PrefixCode) (s : Bits) : R Nat :=
  match c with
  | .single sym => .ok (sym, s)
  | .table es =>
    match walk (msbVal 15 s) 0 es with
    | none => .error .invalidPrefixHistogram   -- unreachable for complete codes
    | some (sym, len) =>
      match dropChk len s with
      | some r => .ok (sym, r)
      | none => .error .eof

def PrefixCode.singleSymbol : PrefixCode → Option Nat
  | .single s => some s
  | .table _ => none

/-- `Histogram::with_code_lengths`: succeeds exactly for complete codes (Kraft sum 1).
(The callers guarantee lengths ≤ 15 and Kraft sum ≤ 1, so the table construction can only fail by
being incomplete — `current_bits != 1 << toplevel_bits` or a dangling second-level chunk.) -/
def PrefixCode.ofLengths (lens : List Nat) : Except Err PrefixCode :=
  if kraft lens = 2 ^ 15 then .ok (.table (sortedSyms lens)) else .error .invalidPrefixHistogram

/-! ## Encoder side of the Spec: codewords -/

/-- codeword (MSB first) of `sym` in a canonical entry list; `none` if unused -/
def codeword (sym : Nat) : Nat → List (Nat × Nat) → Option Bits
  | _, [] => none
  | acc, (s, len) :: r =>
    if s = sym then some (toBitsMSB len (acc / 2 ^ (15 - len)))
    else codeword sym (acc + 2 ^ (15 - len)) r

def PrefixCode.encode (c : PrefixCode) (sym : Nat) : Bits :=
  match c with
  | .single _ => []
  | .table es => (codeword sym 0 es).getD []

/-! ## Header: `Histogram::parse(bitstream, alphabet_size)` -/

/-- apply `(sym, len)` writes in order; out of range → `InvalidPrefixHistogram` -/
def setLens (n : Nat) : List (Nat × Nat) → List Nat → Except Err (List Nat)
  | [], acc => .ok acc
  | (sym, len) :: r, acc =>
    if sym < n then setLens n r (acc.set sym len) else .error .invalidPrefixHistogram

def rsyms (bits : Nat) : Nat → Bits → R (List Nat)
  | 0, s => .ok ([], s)
  | k+1, s =>
    match rbits bits s with
    | .error e => .error e
    | .ok (v, s1) =>
      match rsyms bits k s1 with
      | .error e => .error e
      | .ok (vs, s2) => .ok (v :: vs, s2)

/-- `parse_simple` -/
def parseSimple (alphabetSize : Nat) (s : Bits) : R PrefixCode :=
  let ab := clog2 alphabetSize
  match rbits 2 s with
  | .error e => .error e
  | .ok (nm1, s1) =>
    let nsym := nm1 + 1
    match rsyms ab nsym s1 with
    | .error e => .error e
    | .ok (syms, s2) =>
      if nsym = 1 then
        let sym := syms.getD 0 0
        if sym ≥ alphabetSize then .error .invalidPrefixHistogram else .ok (.single sym, s2)
      else
        let fin (writes : List (Nat × Nat)) (s3 : Bits) : R PrefixCode :=
          match setLens alphabetSize writes (List.replicate alphabetSize 0) with
          | .error e => .error e
          | .ok lens =>
            match PrefixCode.ofLengths lens with
            | .error e => .error e
            | .ok c => .ok (c, s3)
        if nsym = 2 then fin ([(0, 0), (0, 0)] ++ syms.zip [1, 1]) s2
        else if nsym = 3 then fin ((0, 0) :: syms.zip [1, 2, 2]) s2
        else
          match rbool s2 with
          | .error e => .error e
          | .ok (sel, s3) =>
            if sel then fin (syms.zip [1, 2, 3, 3]) s3 else fin (syms.zip [2, 2, 2, 2]) s3

/-- `CODE_LENGTH_ORDER` (prefix.rs, parse_complex) -/
def codeLengthOrder : List Nat := [1, 2, 3, 4, 0, 5, 17, 6, 16, 7, 8, 9, 10, 11, 12, 13, 14, 15]

/-- one code-length-code length: `read_u32(0, 4, 3, 8)` then up to two more bits -/
def readClcLen (s : Bits) : R Nat :=
  match rbits 2 s with
  | .error e => .error e
  | .ok (k, s1) =>
    match k with
    | 0 => .ok (0, s1)
    | 1 => .ok (4, s1)
    | 2 => .ok (3, s1)
    | _ =>
      match rbool s1 with
      | .error e => .error e
      | .ok (b1, s2) =>
        if b1 then
          match rbool s2 with
          | .error e => .error e
          | .ok (b2, s3) => .ok (if b2 then 5 else 1, s3)
        else .ok (2, s2)

/-- result of reading the code-length code lengths -/
structure ClcState where
  lens : List Nat        -- 18 entries
  bitacc : Nat
  nonzeroCount : Nat
  nonzeroSym : Nat

/-- first loop of `parse_complex` over `CODE_LENGTH_ORDER.skip(hskip)` -/
def readClc : List Nat → ClcState → Bits → R ClcState
  | [], st, s => .ok (st, s)
  | idx :: r, st, s =>
    match readClcLen s with
    | .error e => .error e
    | .ok (len, s1) =>
      let lens := st.lens.set idx len
      if len ≠ 0 then
        let bitacc := st.bitacc + 32 / 2 ^ len
        let st' : ClcState := ⟨lens, bitacc, st.nonzeroCount + 1, idx⟩
        if bitacc < 32 then readClc r st' s1
        else if bitacc = 32 then .ok (st', s1)
        else .error .invalidPrefixHistogram
      else readClc r { st with lens := lens } s1

/-- loop state of the second loop of `parse_complex` -/
structure ClState where
  bitacc : Nat := 0
  prevSym : Nat := 8
  lastNonzero : Nat := 8
  lastRepeat : Nat := 0
  repeatCount : Nat := 0
  repeatSym : Nat := 0

/-- second loop of `parse_complex`: `k` code lengths still to fill, `acc` = lengths so far
(reversed). Returns the reversed lengths read before the loop ended or broke, and the state. -/
def readLens (clc : PrefixCode) : Nat → ClState → List Nat → Bits → R (List Nat × ClState)
  | 0, st, acc, s => .ok ((acc, st), s)
  | k+1, st, acc, s =>
    let finish (len : Nat) (st : ClState) (s : Bits) : R (List Nat × ClState) :=
      if len ≠ 0 then
        let bitacc := st.bitacc + 2 ^ (15 - len)
        let st := { st with bitacc := bitacc }
        if bitacc > 2 ^ 15 then .error .prefixSymbolTooLarge
        else if bitacc = 2 ^ 15 ∧ st.repeatCount = 0 then .ok ((len :: acc, st), s)
        else readLens clc k st (len :: acc) s
      else readLens clc k st (len :: acc) s
    if st.repeatCount > 0 then
      finish st.repeatSym { st with repeatCount := st.repeatCount - 1 } s
    else
      match clc.read s with
      | .error e => .error e
      | .ok (sym, s1) =>
        if sym = 0 then finish 0 { st with prevSym := 0 } s1
        else if sym ≤ 15 then finish sym { st with lastNonzero := sym, prevSym := sym } s1
        else if sym = 16 then
          match rbits 2 s1 with
          | .error e => .error e
          | .ok (x, s2) =>
            let rc0 := x + 3
            let (rc, lr) := if st.prevSym = 16 then
                let rc := rc0 + (st.lastRepeat * 3 - 8); (rc, st.lastRepeat + rc)
              else (rc0, rc0)
            finish st.lastNonzero
              { st with repeatCount := rc - 1, lastRepeat := lr, repeatSym := st.lastNonzero,
                        prevSym := 16 } s2
        else
          match rbits 3 s1 with
          | .error e => .error e
          | .ok (x, s2) =>
            let rc0 := x + 3
            let (rc, lr) := if st.prevSym = 17 then
                let rc := rc0 + (st.lastRepeat * 7 - 16); (rc, st.lastRepeat + rc)
              else (rc0, rc0)
            finish 0
              { st with repeatCount := rc - 1, lastRepeat := lr, repeatSym := 0,
                        prevSym := 17 } s2

/-- `parse_complex(bitstream, alphabet_size, hskip)` -/
def parseComplex (alphabetSize hskip : Nat) (s : Bits) : R PrefixCode :=
  match readClc (codeLengthOrder.drop hskip) ⟨List.replicate 18 0, 0, 0, 0⟩ s with
  | .error e => .error e
  | .ok (st, s1) =>
    let clc : Except Err PrefixCode :=
      if st.nonzeroCount = 1 then .ok (.single st.nonzeroSym)
      else if st.bitacc ≠ 32 then .error .invalidPrefixHistogram
      else
        -- lengths ≤ 5 here: `bitacc = 32` (units of 1/32) is Kraft sum `2 ^ 15` for `ofLengths`
        PrefixCode.ofLengths st.lens
    match clc with
    | .error e => .error e
    | .ok clc =>
      match readLens clc alphabetSize {} [] s1 with
      | .error e => .error e
      | .ok ((racc, fs), s2) =>
        if fs.bitacc ≠ 2 ^ 15 ∨ fs.repeatCount > 0 then .error .invalidPrefixHistogram
        else
          let lens := racc.reverse ++ List.replicate (alphabetSize - racc.length) 0
          match PrefixCode.ofLengths lens with
          | .error e => .error e
          | .ok c => .ok (c, s2)

/-- `Histogram::parse(bitstream, alphabet_size)` (prefix.rs) -/
def parsePrefix (alphabetSize : Nat) (s : Bits) : R PrefixCode :=
  if alphabetSize = 1 then .ok (.single 0, s)
  else if alphabetSize > 2 ^ 15 then .error .prefixSymbolTooLarge
  else
    match rbits 2 s with
    | .error e => .error e
    | .ok (hskip, s1) =>
      if hskip = 1 then parseSimple alphabetSize s1 else parseComplex alphabetSize hskip s1

end Jxl.Entropy
