import JxlModel.Model.Entropy.Reader
/-!
# Lehmer-coded permutations — pure part of `read_permutation` (permutation.rs)
-/
namespace Jxl.Entropy

/-- `get_context(x)` -/
def permContext (x : Nat) : Nat := min (addLog2Ceil x) 7

/-- `for idx in lehmer { permutation.push(temp.remove(idx)) }; permutation.extend(temp)` -/
def lehmerApply : List Nat → List Nat → List Nat
  | [], temp => temp
  | i :: r, temp => temp.getD i 0 :: lehmerApply r (temp.eraseIdx i)

/-- permutation of `[0,size)` from `skip` and the Lehmer code -/
def lehmerDecode (size skip : Nat) (lehmer : List Nat) : List Nat :=
  List.range skip ++ lehmerApply lehmer ((List.range (size - skip)).map (· + skip))

/-- Lehmer code of a sequence relative to the remaining pool -/
def lehmerCode : List Nat → List Nat → List Nat
  | [], _ => []
  | p :: r, temp => let i := temp.idxOf p; i :: lehmerCode r (temp.eraseIdx i)

def dropTrailingZeros (l : List Nat) : List Nat :=
  (l.reverse.dropWhile (· = 0)).reverse

/-- encoder: Lehmer code of `perm` (a permutation of `[0,size)` fixing `[0,skip)`), trailing
zeros trimmed as the format allows (`end` = number of coded entries) -/
def lehmerEncode (size skip : Nat) (perm : List Nat) : List Nat :=
  dropTrailingZeros (lehmerCode (perm.drop skip) ((List.range (size - skip)).map (· + skip)))

end Jxl.Entropy
