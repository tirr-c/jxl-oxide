/-!
# The "justified by construction" unchecked accesses

* `Bitstream::refill` (`jxl-bitstream/src/bitstream.rs`): `from_raw_parts(ptr.add(read_bytes), len - read_bytes)`
* `Histogram::read_symbol` (`jxl-coding/src/ans.rs`): `self.buckets.get_unchecked(i)`
* the x86-64 horizontal squeeze kernels (`jxl-modular/src/transform/squeeze.rs`,
  `inverse_h_i16_x86_64_avx2`, `inverse_h_i16_x86_64_sse41`): raw-pointer row loads/stores and a
  `MaybeUninit` scratch buffer.

Only the index arithmetic is modelled: which offsets are touched, not what is stored there.
`usize` is 64 bit. This file is import-free.
-/
namespace Jxl.Unchecked

def W : Nat := 2 ^ 64

/-! ## `Bitstream` geometry

The reader state that matters for memory safety is `(len, rem, nread)`: bytes left in the
borrowed slice, `remaining_buf_bits`, `num_read_bits`. The slice always ends at the end of the
original buffer, so with `N` = original length the slice is `[N - len, N)`. Byte *values* never
influence this state (they only decide `NonZeroPadding`), so the model needs none. -/

structure Bs where
  len : Nat
  rem : Nat
  nread : Nat
  deriving Repr, DecidableEq

/-- `(63 - self.remaining_buf_bits) >> 3` as an optimised build computes it (`usize`, wrapping) -/
def readBytes (rem : Nat) : Nat := ((63 + W - rem % W) % W) / 8

/-- one memory event of the fast path: 8 bytes read at slice offset 0 (pattern match), and the
new slice starts `adv` bytes further and has `len - adv` bytes -/
structure FastPath where
  /-- slice length when the pattern `[b0, …, b7, ..]` matched -/
  len : Nat
  /-- `read_bytes` -/
  adv : Nat
  deriving Repr, DecidableEq

/-- `refill_slow`: at most 8 iterations are ever needed (`rem` grows by 8 up to ≥ 56) -/
def refillSlow : Nat → Bs → Bs
  | 0, s => s
  | fuel + 1, s =>
    if s.rem < 56 ∧ s.len ≠ 0 then refillSlow fuel { s with len := s.len - 1, rem := s.rem + 8 }
    else s

/-- `refill`: new state and, if the fast path ran, its memory event -/
def refill (s : Bs) : Bs × Option FastPath :=
  if 8 ≤ s.len then
    ({ s with len := (s.len + W - readBytes s.rem) % W, rem := s.rem ||| 56 },
     some ⟨s.len, readBytes s.rem⟩)
  else (refillSlow 8 s, none)

inductive BsOp where
  | peek (n : Nat)
  | consume (n : Nat)
  | read (n : Nat)
  | skip (n : Nat)
  | pad
  deriving Repr, DecidableEq

/-- `consume_bits(n)`: `(state, eof?)` -/
def consume (s : Bs) (n : Nat) : Bs × Bool :=
  if n ≤ s.rem then ({ s with rem := s.rem - n, nread := s.nread + n }, false) else (s, true)

/-- tail of `skip_bits`: `self.refill()`, then `remaining_buf_bits.checked_sub(n % 8)` -/
def skipTail (s2 : Bs) (r : Nat) : Bs × Bool × Option FastPath :=
  if r ≤ (refill s2).1.rem then
    ({ (refill s2).1 with rem := (refill s2).1.rem - r }, false, (refill s2).2)
  else ((refill s2).1, true, (refill s2).2)

/-- `skip_bits(n)`: `(state, eof?, fast-path event of the inner refill)` -/
def skip (s : Bs) (n : Nat) : Bs × Bool × Option FastPath :=
  if n ≤ s.rem then ({ s with rem := s.rem - n, nread := s.nread + n }, false, none)
  else if n - s.rem > s.len * 8 then
    ({ s with nread := s.nread + s.rem + s.len * 8, rem := 0 }, true, none)
  else
    skipTail ⟨s.len - (n - s.rem) / 8, 0, s.nread + s.rem + (n - s.rem)⟩ ((n - s.rem) % 8)

/-- one public operation: `(state, eof?, fast-path events)` -/
def step (s : Bs) : BsOp → Bs × Bool × List FastPath
  | .peek _ => let (s', ev) := refill s; (s', false, ev.toList)
  | .consume n => let (s', e) := consume s n; (s', e, [])
  | .read n =>
    let (s1, ev) := refill s
    let (s2, e) := consume s1 n
    (s2, e, ev.toList)
  | .skip n => let (s', e, ev) := skip s n; (s', e, ev.toList)
  | .pad =>
    let n := (s.nread + 7) / 8 * 8 - s.nread
    let (s1, ev) := refill s
    let (s2, e) := consume s1 n
    (s2, e, ev.toList)

/-- run a history of operations from state `s` (from `Bitstream::new(bytes)`: `run (bsNew N)` with
`bytes.len() = N`); final state and all fast-path events -/
def run (s : Bs) : List BsOp → Bs × List FastPath
  | [] => (s, [])
  | op :: ops =>
    let (s1, _, ev) := step s op
    let (s2, evs) := run s1 ops
    (s2, ev ++ evs)

def bsNew (N : Nat) : Bs := ⟨N, 0, 0⟩

/-- The fast path is memory safe for this event: 8 bytes are there to read, and the new slice
`[adv, len)` lies inside the old one. -/
def FastPath.Safe (e : FastPath) : Prop := 8 ≤ e.len ∧ e.adv ≤ e.len ∧ e.adv < 8

/-! ## ANS bucket lookup (`ans.rs`) -/

/-- `let table_size = (1u16 << log_alphabet_size) as usize;` (for `log_alphabet_size < 16`) -/
def tableSize (las : Nat) : Nat := (1 <<< las) % 65536

/-- `let log_bucket_size = 12 - log_alphabet_size;` (`u32`, wrapping in an optimised build) -/
def logBucketSize (las : Nat) : Nat := (12 + 2 ^ 32 - las % 2 ^ 32) % 2 ^ 32

/-- The bucket vector of an accepted histogram: both return paths of `Histogram::parse` build it
by `enumerate().map(..).collect()` over `dist` (`vec![0u16; table_size]`, never resized; the
alias-table loop assigns to elements by checked index only). `mk` stands for the element function. -/
def buckets {β : Type} (mk : Nat → Nat → β) (dist : List Nat) : List β :=
  (List.range dist.length).zipWith mk dist

/-- `let idx = *state & 0xfff; let i = (idx >> self.log_bucket_size) as usize;` -/
def ansIndex (state lbs : Nat) : Nat := (state &&& 0xfff) >>> lbs

/-- `DecoderInner::parse`: `log_alphabet_size = read_bits(2) + 5` on the ANS path -/
def logAlphabetSize (u2 : Nat) : Nat := u2 + 5

/-! ## Access plans of the horizontal x86-64 squeeze kernels

One entry per raw-pointer access: the row (absolute, `y8*8 + dy`), the first element offset
inside the row and the number of consecutive `i16` lanes. Transcribed expression by expression;
`A = avg_width = width.div_ceil(2)`. Rows `h/8*8 .. h` are handled by the scalar kernel (safe
code) and do not appear. -/

structure Access where
  row : Nat
  offset : Nat
  lanes : Nat
  write : Bool
  deriving Repr, DecidableEq

inductive ScratchEv where
  | write (i : Nat)
  | read (i : Nat)
  deriving Repr, DecidableEq

def avgWidth (w : Nat) : Nat := (w + 1) / 2

/-- `let from = (!(width / 2) + 1) % 8;` — two's complement negation of `width / 2`, mod 8 -/
def tailFrom (w : Nat) : Nat := ((W - (w / 2) % W) % W) % 8

/-- accesses in one row of an 8-row block, AVX2 kernel, in program order (per row the order of
different rows is interleaved in the real code; bounds do not depend on it) -/
def rowPlanAvx2 (w : Nat) : List (Nat × Nat × Bool) :=
  let A := avgWidth w
  -- `*rows[i]`
  [(0, 1, false)] ++
  -- main loop: `rows[idx].add(x)`, `rows[idx].add(avg_width - 1 + x)`, 16 lanes each
  ((List.range ((A - 1) / 16)).flatMap fun x16 =>
    [(x16 * 16 + 1, 16, false), (A - 1 + (x16 * 16 + 1), 16, false)]) ++
  -- half block, 8 lanes
  (if (A - 1) % 16 ≥ 8 then
    [((A - 1) / 16 * 16 + 1, 8, false), (A - 1 + ((A - 1) / 16 * 16 + 1), 8, false)] else []) ++
  -- tail: `rows[idx].add(avg_width - 8)`, `rows[idx].add(width - 8)`
  (if (A - 1) % 8 ≠ 0 ∨ w % 2 = 0 then [(A - 8, 8, false), (w - 8, 8, false)] else []) ++
  -- write back: `row.add(x8 * 8)` 8 lanes, then `rows[i].add(width / 8 * 8 + dx)` single lanes
  ((List.range (w / 8)).map fun x8 => (x8 * 8, 8, true)) ++
  ((List.range (w % 8)).map fun dx => (w / 8 * 8 + dx, 1, true))

def rowPlanSse41 (w : Nat) : List (Nat × Nat × Bool) :=
  let A := avgWidth w
  [(0, 1, false)] ++
  ((List.range ((A - 1) / 8)).flatMap fun x8 =>
    [(x8 * 8 + 1, 8, false), (A - 1 + (x8 * 8 + 1), 8, false)]) ++
  (if (A - 1) % 8 ≠ 0 ∨ w % 2 = 0 then [(A - 8, 8, false), (w - 8, 8, false)] else []) ++
  ((List.range (w / 8)).map fun x8 => (x8 * 8, 8, true)) ++
  ((List.range (w % 8)).map fun dx => (w / 8 * 8 + dx, 1, true))

inductive Kernel where
  | avx2
  | sse41
  deriving Repr, DecidableEq

/-- up to and including this width (`if width <= 32`, `if width <= 16`) the kernel delegates
everything to the scalar kernel -/
def Kernel.minWidth : Kernel → Nat
  | .avx2 => 32
  | .sse41 => 16

def rowPlan : Kernel → Nat → List (Nat × Nat × Bool)
  | .avx2 => rowPlanAvx2
  | .sse41 => rowPlanSse41

/-- every raw-pointer access of `inverse_h_i16_x86_64_{avx2,sse41}` on a `w × h` grid -/
def plan (k : Kernel) (w h : Nat) : List Access :=
  if w ≤ k.minWidth then []
  else
    (List.range (h / 8)).flatMap fun y8 =>
      (List.range 8).flatMap fun dy =>
        (rowPlan k w).map fun a => ⟨y8 * 8 + dy, a.1, a.2.1, a.2.2⟩

/-- scratch indices written in the tail loop: `width / 2 * 2 - dx * 2 (+1)` for `dx = 8 - i`,
`i` from `from` to 7 -/
def tailWrites (w : Nat) : List Nat :=
  ((List.range 8).filter (fun i => tailFrom w ≤ i)).flatMap fun i =>
    [w / 2 * 2 - (8 - i) * 2, w / 2 * 2 - (8 - i) * 2 + 1]

/-- scratch indices written in one 8-row block, in program order (scratch = `vec![uninit; width]`) -/
def scratchWritesAvx2 (w : Nat) : List Nat :=
  let A := avgWidth w
  ((List.range ((A - 1) / 16)).flatMap fun x16 =>
    ((List.range 8).flatMap fun dx => [x16 * 32 + dx * 2, x16 * 32 + dx * 2 + 1]) ++
    ((List.range 8).flatMap fun dx => [x16 * 32 + 16 + dx * 2, x16 * 32 + 16 + dx * 2 + 1])) ++
  (if (A - 1) % 16 ≥ 8 then
    (List.range 8).flatMap fun dx =>
      [(A - 1) / 16 * 32 + dx * 2, (A - 1) / 16 * 32 + dx * 2 + 1] else []) ++
  (if (A - 1) % 8 ≠ 0 ∨ w % 2 = 0 then tailWrites w else []) ++
  (if w % 2 = 1 then [w - 1] else [])

def scratchWritesSse41 (w : Nat) : List Nat :=
  let A := avgWidth w
  ((List.range ((A - 1) / 8)).flatMap fun x8 =>
    (List.range 8).flatMap fun dx => [x8 * 16 + dx * 2, x8 * 16 + dx * 2 + 1]) ++
  (if (A - 1) % 8 ≠ 0 ∨ w % 2 = 0 then tailWrites w else []) ++
  (if w % 2 = 1 then [w - 1] else [])

def scratchWrites : Kernel → Nat → List Nat
  | .avx2 => scratchWritesAvx2
  | .sse41 => scratchWritesSse41

/-- scratch events of one 8-row block in program order: all writes, then `chunks_exact(8)` and its
remainder read every element of the scratch once (`assume_init_read`) -/
def scratchPlan (k : Kernel) (w : Nat) : List ScratchEv :=
  (scratchWrites k w).map .write ++ (List.range w).map .read

/-- every read of an index is preceded by a write of it, and every index is inside the scratch -/
def WrittenBeforeRead (w : Nat) (evs : List ScratchEv) : Prop :=
  (∀ i, (.write i ∈ evs ∨ .read i ∈ evs) → i < w) ∧
  ∀ pre post i, evs = pre ++ .read i :: post → .write i ∈ pre

/-- the same as an executable check (used by the driver): walking the events in order, every index is
inside the scratch (`< w`) and every read index has been written before -/
def scratchOk (w : Nat) : List ScratchEv → List Nat → Bool
  | [], _ => true
  | .write i :: es, written => i < w && scratchOk w es (i :: written)
  | .read i :: es, written => i < w && written.contains i && scratchOk w es written

end Jxl.Unchecked
