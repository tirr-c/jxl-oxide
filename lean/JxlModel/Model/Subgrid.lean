/-!
# Sub-grid geometry (`jxl-grid/src/mutable_subgrid.rs`, `shared_subgrid.rs`)

A `MutableSubgrid<'g, V>` is a raw pointer plus `(width, height, stride)` and an optional
`split_base` pointer.  The model replaces the pointer by its element offset `off` from the start of
the underlying allocation (buffer of length `L`), so a sub-grid is `(off, w, h, stride, base)` and
the set of elements it may touch is `cells`.  Every operation is transcribed with its assertions;
an assertion failure is the outcome `panic site`.

What this model can and cannot say: it is about *index arithmetic and ownership geometry* — which
element offsets an operation hands to which sub-grid.  Rust's aliasing model, pointer provenance,
lifetimes (`PhantomData<&'g mut [V]>`) are not represented.

`usize` is 64 bit (`W = 2^64`).  Two build flavours exist for arithmetic on *caller supplied,
unbounded* numbers (`from_buf`'s length computation, the `v + 1` of range bounds,
`into_groups_with_fixed_count`'s `gy * group_height`, `gx * group_width`, `num_cols * num_rows`):
`Mode.checked` (overflow-checks on: overflow is `panic arith`) and `Mode.wrapping` (optimised
build: the result is taken mod `W`).  Offsets derived from an existing sub-grid
(`y * stride + x` with `x ≤ w`, `y ≤ h`) are plain naturals: for a sub-grid living inside a real
allocation they are bounded by the address space.
This file is import-free (it links into the `jxlmodel` executable).
-/
namespace Jxl.Subgrid

def W : Nat := 2 ^ 64

inductive Mode where
  | checked
  | wrapping
  deriving DecidableEq, Repr

/-- assertion / panic sites of `mutable_subgrid.rs` -/
inductive Site where
  /-- `new`: `assert!(width == 0 || width <= stride)` -/
  | newWidthStride
  /-- `from_buf`: `assert!(width <= stride)` -/
  | fromBufWidthStride
  /-- `from_buf`: `assert_eq!(buf.len(), 0)` for an empty grid -/
  | fromBufEmptyLen
  /-- `from_buf`: `assert!(buf.len() >= stride * (height - 1) + width)` -/
  | fromBufLen
  /-- arithmetic overflow in a build with overflow checks -/
  | arith
  | subgridLeftRight
  | subgridTopBottom
  | subgridRight
  | subgridBottom
  /-- `split_horizontal(_in_place)`: `assert!(x <= self.width)` -/
  | splitX
  /-- `split_vertical(_in_place)`: `assert!(y <= self.height)` -/
  | splitY
  /-- `merge_*`: `assert!(self.split_base.is_some())` -/
  | mergeNoBase
  /-- `merge_*`: `assert_eq!(self.split_base, other.split_base)` -/
  | mergeBase
  | mergeStride
  /-- `merge_horizontal_in_place`: `assert_eq!(self.height, right.height)` -/
  | mergeHeight
  /-- `merge_vertical_in_place`: `assert_eq!(self.width, bottom.width)` -/
  | mergeWidth
  /-- `merge_horizontal_in_place`: `assert!(self.stride >= self.width + right.width)` -/
  | mergeStrideSum
  /-- `merge_*`: the `std::ptr::eq` adjacency assertion -/
  | mergeAdjacent
  /-- `into_groups`: group width or height is zero -/
  | groupsZero
  /-- `get/get_ref/get_mut/swap`: coordinate out of range -/
  | coord
  /-- `get_row(_mut)`: row index out of range -/
  | row
  deriving DecidableEq, Repr

inductive Outcome (α : Type) where
  | ok (a : α)
  | panic (s : Site)
  deriving Repr, DecidableEq

structure SubGrid where
  /-- `ptr` as an element offset from the start of the underlying allocation -/
  off : Nat
  w : Nat
  h : Nat
  stride : Nat
  /-- `split_base`, as an element offset -/
  base : Option Nat
  deriving Repr, DecidableEq, Inhabited

/-- `get_ptr_unchecked(x, y)`: `ptr.add(y * stride + x)` -/
def index (g : SubGrid) (x y : Nat) : Nat := g.off + y * g.stride + x

/-- every element offset reachable through `get*`/`get_row*` of the sub-grid, row by row -/
def cells (g : SubGrid) : List Nat :=
  (List.range g.h).flatMap fun y => (List.range g.w).map fun x => index g x y

/-- The invariant the `unsafe` code relies on: `new`'s assertion, and every reachable element lies
inside the allocation of length `L`. -/
def Valid (L : Nat) (g : SubGrid) : Prop :=
  (g.w = 0 ∨ g.w ≤ g.stride) ∧ ∀ i ∈ cells g, i < L

/-- two sub-grids can never touch the same element -/
def Disjoint (a b : SubGrid) : Prop := ∀ i, i ∈ cells a → i ∈ cells b → False

/-! ## arithmetic on caller-supplied numbers -/

def addM (m : Mode) (a b : Nat) : Option Nat :=
  if a + b < W then some (a + b) else
    match m with
    | .checked => none
    | .wrapping => some ((a + b) % W)

def mulM (m : Mode) (a b : Nat) : Option Nat :=
  if a * b < W then some (a * b) else
    match m with
    | .checked => none
    | .wrapping => some ((a * b) % W)

/-! ## constructors -/

/-- `MutableSubgrid::new` (unsafe fn; its only check) -/
def new (off w h stride : Nat) : Outcome SubGrid :=
  if w = 0 ∨ w ≤ stride then .ok ⟨off, w, h, stride, none⟩ else .panic .newWidthStride

/-- `MutableSubgrid::from_buf(buf, width, height, stride)` where `buf` is the slice
`[off, off + len)` of the underlying allocation. -/
def fromBuf (m : Mode) (off len w h stride : Nat) : Outcome SubGrid :=
  if ¬ w ≤ stride then .panic .fromBufWidthStride
  else if w = 0 ∨ h = 0 then
    (if len = 0 then new off w h stride else .panic .fromBufEmptyLen)
  else
    match mulM m stride (h - 1) with
    | none => .panic .arith
    | some p =>
      match addM m p w with
      | none => .panic .arith
      | some need => if len ≥ need then new off w h stride else .panic .fromBufLen

/-! ## element access -/

/-- `get`, `get_ref`, `get_mut`: the element offset, or the panic (`try_get_*` make the same test
and return `None` where these panic) -/
def get (g : SubGrid) (x y : Nat) : Outcome Nat :=
  if x ≥ g.w ∨ y ≥ g.h then .panic .coord else .ok (index g x y)

/-- `get_row(_mut)(row)`: `(start offset, length)` of the returned slice -/
def getRow (g : SubGrid) (y : Nat) : Outcome (Nat × Nat) :=
  if y ≥ g.h then .panic .row else .ok (g.off + y * g.stride, g.w)

/-- `borrow_mut`: same geometry, `split_base` reset by `new` -/
def borrowMut (g : SubGrid) : Outcome SubGrid := new g.off g.w g.h g.stride

/-- `as_shared`: `SharedSubgrid::new` has no assertion; same geometry -/
def asShared (g : SubGrid) : SubGrid := ⟨g.off, g.w, g.h, g.stride, none⟩

/-! ## `subgrid(range_x, range_y)` -/

inductive Bound where
  | incl (v : Nat)
  | excl (v : Nat)
  | unb
  deriving Repr, DecidableEq

def startOf (m : Mode) : Bound → Option Nat
  | .incl v => some v
  | .excl v => addM m v 1
  | .unb => some 0

def endOf (m : Mode) (dflt : Nat) : Bound → Option Nat
  | .incl v => addM m v 1
  | .excl v => some v
  | .unb => some dflt

/-- the part of `subgrid` after the four bounds are known -/
def subgridLRTB (g : SubGrid) (left right top bottom : Nat) : Outcome SubGrid :=
  if ¬ left ≤ right then .panic .subgridLeftRight
  else if ¬ top ≤ bottom then .panic .subgridTopBottom
  else if ¬ right ≤ g.w then .panic .subgridRight
  else if ¬ bottom ≤ g.h then .panic .subgridBottom
  else new (index g left top) (right - left) (bottom - top) g.stride

def subgrid (m : Mode) (g : SubGrid) (xs xe ys ye : Bound) : Outcome SubGrid :=
  match startOf m xs, endOf m g.w xe, startOf m ys, endOf m g.h ye with
  | some l, some r, some t, some b => subgridLRTB g l r t b
  | _, _, _, _ => .panic .arith

/-! ## splits -/

def splitBase (g : SubGrid) : Nat := g.base.getD g.off

/-- `split_horizontal(x)`: `(left, right)` -/
def splitH (g : SubGrid) (x : Nat) : Outcome (SubGrid × SubGrid) :=
  if ¬ x ≤ g.w then .panic .splitX
  else
    match new g.off x g.h g.stride, new (index g x 0) (g.w - x) g.h g.stride with
    | .ok l, .ok r =>
      .ok ({ l with base := some (splitBase g) }, { r with base := some (splitBase g) })
    | .panic s, _ => .panic s
    | _, .panic s => .panic s

/-- `split_horizontal_in_place(x)`: `(self afterwards, returned right part)`.
(`self` is updated without going through `new`.) -/
def splitHInPlace (g : SubGrid) (x : Nat) : Outcome (SubGrid × SubGrid) :=
  if ¬ x ≤ g.w then .panic .splitX
  else
    match new (index g x 0) (g.w - x) g.h g.stride with
    | .ok r =>
      .ok ({ g with w := x, base := some (splitBase g) }, { r with base := some (splitBase g) })
    | .panic s => .panic s

/-- `split_vertical(y)`: `(top, bottom)` -/
def splitV (g : SubGrid) (y : Nat) : Outcome (SubGrid × SubGrid) :=
  if ¬ y ≤ g.h then .panic .splitY
  else
    match new g.off g.w y g.stride, new (index g 0 y) g.w (g.h - y) g.stride with
    | .ok t, .ok b =>
      .ok ({ t with base := some (splitBase g) }, { b with base := some (splitBase g) })
    | .panic s, _ => .panic s
    | _, .panic s => .panic s

/-- `split_vertical_in_place(y)`: `(self afterwards, returned bottom part)` -/
def splitVInPlace (g : SubGrid) (y : Nat) : Outcome (SubGrid × SubGrid) :=
  if ¬ y ≤ g.h then .panic .splitY
  else
    match new (index g 0 y) g.w (g.h - y) g.stride with
    | .ok b =>
      .ok ({ g with h := y, base := some (splitBase g) }, { b with base := some (splitBase g) })
    | .panic s => .panic s

/-! ## merges -/

/-- `self.merge_horizontal_in_place(right)`: `self` afterwards -/
def mergeH (a b : SubGrid) : Outcome SubGrid :=
  if a.base.isNone then .panic .mergeNoBase
  else if a.base ≠ b.base then .panic .mergeBase
  else if a.stride ≠ b.stride then .panic .mergeStride
  else if a.h ≠ b.h then .panic .mergeHeight
  else if ¬ a.stride ≥ a.w + b.w then .panic .mergeStrideSum
  else if index a a.w 0 ≠ b.off then .panic .mergeAdjacent
  else .ok { a with w := a.w + b.w }

/-- `self.merge_vertical_in_place(bottom)`: `self` afterwards -/
def mergeV (a b : SubGrid) : Outcome SubGrid :=
  if a.base.isNone then .panic .mergeNoBase
  else if a.base ≠ b.base then .panic .mergeBase
  else if a.stride ≠ b.stride then .panic .mergeStride
  else if a.w ≠ b.w then .panic .mergeWidth
  else if index a 0 a.h ≠ b.off then .panic .mergeAdjacent
  else .ok { a with h := a.h + b.h }

/-! ## groups -/

/-- `k * size` as the build computes it when it does not panic -/
def mulW (m : Mode) (a b : Nat) : Nat :=
  match m with
  | .checked => a * b
  | .wrapping => (a * b) % W

/-- does `k * size` overflow for some `k < n` (the loop counter)? -/
def loopOverflows (n size : Nat) : Bool := n ≠ 0 ∧ (n - 1) * size ≥ W

/-- `(gy * group_height).min(height)` and `(height - y).min(group_height)`:
`(start, length)` of group number `k` along one axis -/
def axisCut (m : Mode) (size total k : Nat) : Nat × Nat :=
  (min (mulW m k size) total, min (total - min (mulW m k size) total) size)

/-- one group of `into_groups_with_fixed_count`, from its two axis cuts -/
def groupOf (g : SubGrid) (cy cx : Nat × Nat) : SubGrid :=
  ⟨g.off + cy.1 * g.stride + cx.1, cx.2, cy.2, g.stride, some (splitBase g)⟩

/-- the groups, row-first, when nothing panics -/
def groupsList (m : Mode) (g : SubGrid) (gw gh nc nr : Nat) : List SubGrid :=
  (List.range nr).flatMap fun gy => (List.range nc).map fun gx =>
    groupOf g (axisCut m gh g.h gy) (axisCut m gw g.w gx)

/-- `into_groups_with_fixed_count(group_width, group_height, num_cols, num_rows)`, row-first.
Panics: `num_cols * num_rows`, `gy * group_height`, `gx * group_width` overflowing in a checked
build; `new`'s assertion on a group (impossible when `g.w ≤ g.stride`). -/
def intoGroupsFixed (m : Mode) (g : SubGrid) (gw gh nc nr : Nat) : Outcome (List SubGrid) :=
  if m = .checked ∧ (nc * nr ≥ W ∨ loopOverflows nr gh ∨ (nr ≠ 0 ∧ loopOverflows nc gw)) then
    .panic .arith
  else if nr ≠ 0 ∧ (List.range nc).any (fun gx =>
      (axisCut m gw g.w gx).2 ≠ 0 ∧ g.stride < (axisCut m gw g.w gx).2) then
    .panic .newWidthStride
  else .ok (groupsList m g gw gh nc nr)

/-- no overflow of the loop products (what `Mode.checked` enforces by panicking) -/
def NoOverflow (m : Mode) (gw gh nc nr : Nat) : Prop :=
  m = .checked ∨ ((∀ k, k < nc → k * gw < W) ∧ (∀ k, k < nr → k * gh < W))

def ceilDiv (a b : Nat) : Nat := a / b + (if a % b = 0 then 0 else 1)

/-- `into_groups(group_width, group_height)` -/
def intoGroups (m : Mode) (g : SubGrid) (gw gh : Nat) : Outcome (List SubGrid) :=
  if gw = 0 ∨ gh = 0 then .panic .groupsZero
  else intoGroupsFixed m g gw gh (ceilDiv g.w gw) (ceilDiv g.h gh)

end Jxl.Subgrid
