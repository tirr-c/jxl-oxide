import JxlModel.Model.HeadersPinned
/-!
# Image header, frame header, table of contents (C14)

## Header WRITER API (for the stream encoder and other components)

Values are `Jxl.Bundle.Val` records whose fields are exactly the fields of the descriptions
(`imageHeaderDesc`, `Pinned.FrameHeader`, …) in declaration order; build them from a *partial*
("raw") record with the `mk…` functions, which fill every field that is absent, force fields whose
condition is false to their default and resize vectors (`Bundle.canon`).

Lean functions (all in `Jxl.Headers`):
* `mkImageHeader (raw : Env) : Option Env` — raw may give `size` (`{ height width }`, or `div8`,
  `ratio`, …) and `metadata` (`{ all_default F bit_depth {..} ec_info [..] … }`); the signature is
  added. `simpleImageRaw w h bits nExtraAlpha` is a ready-made raw value.
* `writeImageHeader (ch : Nat → Nat) (img : Env) : Option Bits` — bits of `ImageHeader` from
  stream position 0 (no padding; ICC/preview/`ZeroPadToByte` are the caller's business).
* `mkFrameHeader (img : Env) (raw : Env) : Option Env`, `writeFrameHeader ch img fh : Option Bits`
  — `FrameHeader` for the given image header (its context); frame headers start byte-aligned, so
  the bits do not depend on the position.
* `tocEntryCount fh`, `writeToc ch pos sizes permPrelude : Option Bits` — `permuted` flag,
  (optional) entropy-coded permutation given as ready-made bits (that layer is C04's), padding,
  sizes, padding; `pos` = bit position at which the TOC starts (right after the frame header).
* `parseImageHeader`, `parseFrameHeader`, `parseToc` — the model parsers (inverse; see
  `Props/C14.lean`), `dumpImage`, `dumpFrame`, `dumpToc` — the canonical report lines.
* `ch` picks `U32` selectors / `U64` forms (`fun _ => 0` = shortest-first rotation).

Line protocol `jxlmodel hdrenc` (one request per line, value syntax of `Val.toText`):
* `img <seed> <raw image value>` → `ok <nbits> <hex> | <dump>`
* `frame <seed> <raw image value> | <raw frame value>` → `ok <nbits> <hex> | <dump>` (frame header only)
* `toc <seed> <startbit> <permhex>:<permbits> <size> <size> …` → `ok <nbits> <hex>`
  (`-:0` = not permuted); `unwritable <why>` when the value has no encoding.
`<seed>` seeds the selector choice (`choiceOf`).
-/
namespace Jxl.Bundle

/-! ## small accessors -/

def Val.get (v : Val) (k : String) : Val :=
  match v with
  | .record fs => (Env.get? fs k).getD .none
  | _ => .none

def Val.path (v : Val) (ks : List String) : Val := ks.foldl Val.get v

def Val.nat! : Val → Nat | .nat n => n | _ => 0
def Val.int! : Val → Int | .int i => i | .nat n => Int.ofNat n | _ => 0
def Val.bool! : Val → Bool | .bool b => b | _ => false
def Val.list! : Val → List Val | .list l => l | _ => []
def Val.isNone : Val → Bool | .none => true | _ => false

end Jxl.Bundle

namespace Jxl.Headers
open Jxl Jxl.Bundle

/-- selector choice derived from a seed: a cheap position hash (any function is allowed) -/
def choiceOf (seed : Nat) (pos : Nat) : Nat := ((pos + 1) * 2654435761 + seed * 40503 + (pos * pos) % 8191) / 7 % 1000003

/-! ## ImageHeader (hand-written top level) -/

open Parts in
/-- `jxl-image/src/lib.rs`, `impl Bundle for ImageHeader { fn parse }`: signature, `SizeHeader`,
`ImageMetadata`, then the validations in source order. -/
def imageHeaderDesc : Bundle :=
  let tm (f : String) : Expr := .call "fkey" [.field (.field (v "metadata") "tone_mapping") f]
  let zero : Expr := .int 0
  [ always "signature" (.u 16),
    always "_sig" (.assert (eqn (v "signature") 0xaff) "validation"),
    always "size" (.bundle noCtx Pinned.SizeHeader),
    always "metadata" (.bundle noCtx Pinned.ImageMetadata),
    always "_num_extra" (.assert (.bin .le (.call "len" [.field (v "metadata") "ec_info"]) (n 256)) "profile"),
    always "_intensity" (.assert (.not (.bin .le (tm "intensity_target") zero)) "validation"),
    always "_min_nits" (.assert (.not (or' (.bin .lt (tm "min_nits") zero)
        (.bin .gt (tm "min_nits") (tm "intensity_target")))) "validation"),
    always "_linear_below" (.assert (.not (or' (.bin .lt (tm "linear_below") zero)
        (and' (.field (.field (v "metadata") "tone_mapping") "relative_to_max_display")
              (.bin .gt (tm "linear_below") (.call "fkey" [.f32 0x3f800000]))))) "validation") ]

def parseImageHeader (s : Bits) : Except Err (Env × Bits) := parse imageHeaderDesc [] s

/-! ### PreviewHeader as the format defines it

ISO/IEC 18181-1 (and libjxl `PreviewHeader::VisitFields`) give the preview size the same shape as
`SizeHeader`: `w_div8` is present iff `div8 && ratio == 0`, `width` iff `!div8 && ratio == 0`.
`jxl-image/src/lib.rs` (`struct PreviewHeader`) omitted `&& ratio == 0` in both conditions
(finding `c14:preview-ratio`: for `ratio != 0` it read a field the writer never wrote) and has
them since its repair. `Spec.previewHeader` is the format's description; `imageHeaderSpecDesc` is
the image header built on it (used to write format-conformant previews for the differential run;
see `C14_preview_header_matches_format`). -/

def Spec.previewHeader : Bundle :=
  Pinned.PreviewHeader.map fun f =>
    match f with
    | .mk "w_div8" ty _ d => .mk "w_div8" ty (.bin .and (.var "div8") (.bin .eq (.var "ratio") (.nat 0))) d
    | .mk "width" ty _ d => .mk "width" ty (.bin .and (.not (.var "div8")) (.bin .eq (.var "ratio") (.nat 0))) d
    | f => f

def Spec.imageMetadata : Bundle :=
  Pinned.ImageMetadata.map fun f =>
    match f with
    | .mk "preview" _ c d => .mk "preview" (.bundle (.record []) Spec.previewHeader) c d
    | f => f

def imageHeaderSpecDesc : Bundle :=
  imageHeaderDesc.map fun f =>
    match f with
    | .mk "metadata" _ c d => .mk "metadata" (.bundle (.record []) Spec.imageMetadata) c d
    | f => f

def writeImageHeader (ch : Nat → Nat) (img : Env) : Option Bits := write imageHeaderDesc ch [] img

def mkImageHeader (raw : Env) : Option Env :=
  canon imageHeaderDesc [] (("signature", .nat 0xaff) :: raw)

/-- a plain image: explicit size, integer samples, `nAlpha` default alpha channels, not XYB,
sRGB -/
def simpleImageRaw (w h bits nAlpha : Nat) : Env :=
  [("size", .record [("div8", .bool false), ("height", .nat h), ("ratio", .nat 0), ("width", .nat w)]),
   ("metadata", .record [
      ("all_default", .bool false), ("extra_fields", .bool false),
      ("bit_depth", .record [("float_sample", .bool false), ("ibits", .nat bits)]),
      ("modular_16bit_buffers", .bool (bits ≤ 12)),
      ("num_extra", .nat nAlpha),
      ("ec_info", .list [.record [("default_alpha_channel", .bool true)]]),
      ("xyb_encoded", .bool false),
      ("colour_encoding", .record [("all_default", .bool true)]),
      ("extensions", .record [("extension_bits", .nat 0)]),
      ("default_m", .bool true)])]

/-! ## FrameHeader -/

/-- the context of `FrameHeader::parse`: `headers: &ImageHeader` -/
def frameCtx (img : Env) : Env := [("headers", .record img)]

def parseFrameHeader (img : Env) (s : Bits) : Except Err (Env × Bits) :=
  parse Pinned.FrameHeader (frameCtx img) s

def writeFrameHeader (ch : Nat → Nat) (img fh : Env) : Option Bits :=
  write Pinned.FrameHeader ch (frameCtx img) fh

def mkFrameHeader (img raw : Env) : Option Env := canon Pinned.FrameHeader (frameCtx img) raw

/-! ## derived values -/

/-- `ImageMetadata::apply_orientation` (second `match`): orientations 5..8 swap the sides -/
def orientedDims (orientation w h : Nat) : Nat × Nat :=
  if orientation ≥ 5 then (h, w) else (w, h)

/-- `apply_orientation(width, height, 0, 0, false)` also evaluates the first `match`
(`width - left - 1`, `height - top - 1`); since the repair of `c14:panic:width_with_orientation`
that arithmetic is done in 64 bits and cannot overflow for any header (sides < 2^32), so
`width()/height()` never panic. (Before: `width as i32 - left - 1` panicked in checked builds for a
side of 2^31.) -/
def orientationPanics (_orientation _w _h : Nat) : Bool := false

/-- `FrameHeader::sample_width` / `sample_height` -/
def sampleDim (dim upsampling lfLevel : Nat) : Nat :=
  let d := if upsampling > 1 then (dim + upsampling - 1) / upsampling else dim
  if lfLevel > 0 then (d + 2 ^ (3 * lfLevel) - 1) / 2 ^ (3 * lfLevel) else d

/-- `FrameHeader::group_dim` -/
def groupDim (groupSizeShift : Nat) : Nat := 128 * 2 ^ groupSizeShift

def ceilDiv (a b : Nat) : Nat := (a + b - 1) / b

/-- `FrameHeader::num_groups` (`u32` product: `none` = the checked build panics) -/
def numGroupsOf (w h dim : Nat) : Option Nat :=
  let p := ceilDiv w dim * ceilDiv h dim
  if p < 2 ^ 32 then some p else none

structure FrameDerived where
  sampleW : Nat
  sampleH : Nat
  numGroups : Option Nat
  numLfGroups : Option Nat
  isKeyframe : Bool
  canReference : Bool
deriving Repr

def isNormalFrame (ft : Nat) : Bool := ft == 0 || ft == 3

/-- `FrameHeader::{color_sample_width, color_sample_height, num_groups, num_lf_groups,
is_keyframe, can_reference}` from a frame-header value -/
def frameDerived (fh : Val) : FrameDerived :=
  let up := (fh.get "upsampling").nat!
  let lf := (fh.get "lf_level").nat!
  let sw := sampleDim (fh.get "width").nat! up lf
  let sh := sampleDim (fh.get "height").nat! up lf
  let gd := groupDim (fh.get "group_size_shift").nat!
  let ft := (fh.get "frame_type").nat!
  let isLast := (fh.get "is_last").bool!
  let dur := (fh.get "duration").nat!
  { sampleW := sw, sampleH := sh,
    numGroups := numGroupsOf sw sh gd,
    numLfGroups := numGroupsOf sw sh (gd * 8),
    isKeyframe := isNormalFrame ft && (isLast || dur != 0),
    canReference := !isLast && (dur == 0 || (fh.get "save_as_reference").nat! != 0) && ft != 1 }

/-! ## Table of contents -/

/-- `Toc::parse`: number of entries (`u32` arithmetic: `none` = checked build panics) -/
def tocEntryCountOf (numGroups numLfGroups numPasses : Nat) : Option Nat :=
  if numGroups == 1 && numPasses == 1 then some 1
  else if numGroups * numPasses < 2 ^ 32 && 1 + numLfGroups + 1 + numGroups * numPasses < 2 ^ 32 then
    some (1 + numLfGroups + 1 + numGroups * numPasses)
  else none

def tocEntryCount (fh : Val) : Option Nat :=
  let d := frameDerived fh
  match d.numGroups, d.numLfGroups with
  | some g, some l => tocEntryCountOf g l ((fh.get "passes").get "num_passes").nat!
  | _, _ => none

def tocSizeTy : FieldTy := .u32 (.bits 0 10) (.bits 1024 14) (.bits 17408 22) (.bits 4211712 30)

open Parts in
/-- `Toc::parse` up to the permutation: entry-count check, `permuted` flag -/
def tocHead : Bundle := [
  always "_count_ok" (.assert (.bin .le (v "entry_count") (n 65536)) "validation"),
  always "permuted" .bool ]

open Parts in
/-- `Toc::parse` after the permutation: padding, sizes, padding -/
def tocTail : Bundle := [
  always "_pad0" .zeroPad,
  always "sizes" (.vec tocSizeTy (v "entry_count")),
  always "_pad1" .zeroPad ]

open Parts in
/-- a table of contents without permutation, as one description (context: `entry_count`) -/
def tocPlain : Bundle :=
  tocHead ++ [always "_plain" (.assert (.not (v "permuted")) "stuck")] ++ tocTail

/-- `jxl_coding::read_permutation` (after the entropy decoder): `end` and the Lehmer code are
validated (`lehmerValid`: the `i`-th entry is below the number of positions still free), then
turned into the permutation (`lehmerGo` / `lehmerToPerm`: `temp.remove(idx)`) -/
def lehmerValid : Nat → List Nat → Bool
  | _, [] => true
  | n, i :: r => decide (i < n) && lehmerValid (n - 1) r

def lehmerGo : List Nat → List Nat → List Nat
  | temp, [] => temp
  | temp, i :: r => temp.getD i 0 :: lehmerGo (temp.eraseIdx i) r

def lehmerToPerm (size : Nat) (lehmer : List Nat) : List Nat := lehmerGo (List.range size) lehmer

/-- inverse of a permutation given as a list, built as the code does
(`bitstream_to_original[perm[idx]] = idx`, starting from zeros) -/
def invPerm (perm : List Nat) : List Nat :=
  (perm.zipIdx.foldl (fun (a : Array Nat) (pj : Nat × Nat) => a.setIfInBounds pj.1 pj.2)
    (Array.replicate perm.length 0)).toList

/-- prefix sums starting at `base` -/
def prefixSums : Nat → List Nat → List Nat
  | _, [] => []
  | base, s :: r => base :: prefixSums (base + s) r

structure TocGroup where
  kind : Nat          -- index in original (kind) order
  offset : Nat
  size : Nat
deriving Repr, DecidableEq, Inhabited

structure TocVal where
  entryCount : Nat
  numLfGroups : Nat
  numGroups : Nat
  permuted : Bool
  perm : List Nat           -- original → bitstream (`original_to_bitstream`), [] if not permuted
  sizes : List Nat          -- as read: bitstream order
  base : Nat                -- byte offset of the first section (= bytes read by `Toc::parse`)
deriving Repr

/-- offsets in bitstream order: prefix sums -/
def TocVal.offsets (t : TocVal) : List Nat := prefixSums t.base t.sizes

/-- `Toc::group_index_bitstream_order` for the entry with original index `j` -/
def TocVal.indexInBitstream (t : TocVal) (j : Nat) : Nat :=
  if t.permuted then t.perm.getD j 0 else j

/-- `groups` of `Toc` (original order): entry `j` takes the slot `perm[j]` of the bitstream -/
def TocVal.groups (t : TocVal) : List TocGroup :=
  let offs := t.offsets.toArray
  let szs := t.sizes.toArray
  let perm := t.perm.toArray
  (List.range t.entryCount).map fun j =>
    let slot := if t.permuted then perm.getD j 0 else j
    { kind := j, offset := offs.getD slot 0, size := szs.getD slot 0 }

/-- `bitstream_to_original` -/
def TocVal.bitstreamToOriginal (t : TocVal) : List Nat :=
  if t.permuted then invPerm t.perm else List.range t.entryCount

/-- `Toc::iter_bitstream_order` -/
def TocVal.bitstreamOrder (t : TocVal) : List TocGroup :=
  let gs := t.groups.toArray
  t.bitstreamToOriginal.map fun j => gs.getD j default

def TocVal.totalSize (t : TocVal) : Nat := t.sizes.sum

/-- The entropy-coded Lehmer code belongs to C04. `PermDecoder size s` returns the Lehmer code
(already checked by `lehmerValid`) and the remaining bits, or an error. -/
abbrev PermDecoder := Nat → Bits → Except Err (List Nat × Bits)

/-- no entropy layer available: permuted TOCs are outside the model -/
def noPermDecoder : PermDecoder := fun _ _ => .error (.stuck "permutation: entropy layer is C04")

/-- `Toc::parse`; `total` as in `parseFields`, `numGroups`/… from the frame header -/
def parseToc (dec : PermDecoder) (total : Nat) (numGroups numLfGroups : Nat) (entryCount : Nat)
    (s : Bits) : Except Err (TocVal × Bits) :=
  let ctx : Env := [("entry_count", .nat entryCount)]
  match parseFields total ctx tocHead [] s with
  | .error e => .error e
  | .ok (h, r) =>
    let permuted := (Val.record h).get "permuted" |>.bool!
    let permRes : Except Err (List Nat × Bits) :=
      if permuted then
        match dec entryCount r with
        | .ok (lehmer, r') => .ok (lehmerToPerm entryCount lehmer, r')
        | .error e => .error e
      else .ok ([], r)
    match permRes with
    | .error e => .error e
    | .ok (perm, r') =>
      match parseFields total ctx tocTail [] r' with
      | .error e => .error e
      | .ok (t, r'') =>
        let sizes := ((Val.record t).get "sizes").list!.map Val.nat!
        .ok ({ entryCount, numLfGroups, numGroups, permuted, perm, sizes,
               base := (total - r''.length) / 8 }, r'')

/-- writer: `permPrelude = none` ⇒ not permuted; `some bits` ⇒ the entropy-coded permutation -/
def writeToc (ch : Nat → Nat) (pos : Nat) (sizes : List Nat) (permPrelude : Option Bits) : Option Bits :=
  let ctx : Env := [("entry_count", .nat sizes.length)]
  let head : Env := [("_count_ok", .unit), ("permuted", .bool permPrelude.isSome)]
  match writeFields ch ctx tocHead [] pos head with
  | none => none
  | some hb =>
    let pb := permPrelude.getD []
    let pos' := pos + hb.length + pb.length
    match writeFields ch ctx tocTail [] pos' [("_pad0", .unit), ("sizes", .list (sizes.map .nat)), ("_pad1", .unit)] with
    | none => none
    | some tb => some (hb ++ pb ++ tb)

/-! ### a hand-made entropy-coded permutation (the "trivial code")

`Decoder::parse(bitstream, 8)` with: LZ77 off, simple clustering with 0 bits (one cluster),
prefix codes, `split_exponent = 15` (every token is its value), alphabet size `count`, a *simple*
prefix code with 1, 2 or 4 (all of length 2) symbols. Enough to write TOC permutations whose
Lehmer digits come from a set of ≤ 4 values. This is a recogniser for streams made by
`trivialPermWrite`, not a model of the entropy decoder (C04). -/

def log2Ceil (x : Nat) : Nat := if x ≤ 1 then 0 else Nat.log2 (x - 1) + 1

/-- insertion sort that drops duplicates (the symbols of the trivial code, sorted and distinct:
their canonical codes are their ranks) -/
def sortNat (l : List Nat) : List Nat := l.foldl (fun acc x => (acc.filter (· < x)) ++ [x] ++ (acc.filter (· > x))) []

structure TrivialCode where
  count : Nat
  syms : List Nat        -- as written (1, 2 or 4 symbols)
deriving Repr

def trivialReadSymbol (sorted : List Nat) (s : Bits) : Except Err (Nat × Bits) :=
  let nb := if sorted.length == 4 then 2 else if sorted.length == 2 then 1 else 0
  if nb ≤ s.length then
    -- prefix-code bits: first stream bit is the most significant bit of the code
    let code := (s.take nb).foldl (fun acc b => acc * 2 + (if b then 1 else 0)) 0
    .ok (sorted.getD code 0, s.drop nb)
  else .error .eof

def trivialPermDecoder : PermDecoder := fun size s =>
  let stuck : Except Err (List Nat × Bits) := .error (.stuck "permutation: not the trivial code (C04)")
  match rd 9 s with
  | .error e => .error e
  | .ok (hdr, r) =>
    -- lz77=0, simple=1, nbits=00, prefix=1, split_exponent=1111 : bits LSB first
    if hdr != 0b111110010 then stuck else
    match rd 1 r with
    | .error e => .error e
    | .ok (big, r) =>
      let cnt : Except Err (Nat × Bits) :=
        if big == 0 then .ok (1, r) else
        match rd 4 r with
        | .error e => .error e
        | .ok (nb, r) => match rd nb r with
          | .error e => .error e
          | .ok (x, r) => .ok (1 + 2 ^ nb + x, r)
      match cnt with
      | .error e => .error e
      | .ok (count, r) =>
        if count > 2 ^ 15 then .error (.invalid "decoder") else
        let symsRes : Except Err (List Nat × Bits) :=
          if count == 1 then .ok ([0], r) else
          match rd 2 r with
          | .error e => .error e
          | .ok (hskip, r) =>
            if hskip != 1 then stuck else
            let ab := log2Ceil count
            match rd 2 r with
            | .error e => .error e
            | .ok (nsymM1, r) =>
              let nsym := nsymM1 + 1
              if nsym == 3 then stuck else
              match parseN (fun s => match rd ab s with | .ok (x, r) => .ok (.nat x, r) | .error e => .error e) nsym r with
              | .error e => .error e
              | .ok (vs, r) =>
                let syms := vs.map Val.nat!
                if nsym == 4 then
                  match rd 1 r with
                  | .error e => .error e
                  | .ok (ts, r) => if ts != 0 then stuck else .ok (syms, r)
                else .ok (syms, r)
        match symsRes with
        | .error e => .error e
        | .ok (syms, r) =>
          let sorted := sortNat syms
          if sorted.length != syms.length || syms.any (· ≥ count) then .error (.invalid "decoder") else
          match trivialReadSymbol sorted r with
          | .error e => .error e
          | .ok (endV, r) =>
            if endV > size then .error (.invalid "decoder") else
            let rec go : Nat → Nat → Bits → List Nat → Except Err (List Nat × Bits)
              | 0, _, r, acc => .ok (acc.reverse, r)
              | k+1, idx, r, acc =>
                match trivialReadSymbol sorted r with
                | .error e => .error e
                | .ok (x, r) =>
                  if x ≥ size - idx then .error (.invalid "decoder") else go k (idx + 1) r (x :: acc)
            go endV 0 r []

/-- writer of the trivial code: `syms` (1, 2 or 4 distinct values < `count`), `count` = 1 or
`1 + 2^nb + x`; the Lehmer code (with its length first) must use only `syms` -/
def trivialPermWrite (count : Nat) (syms : List Nat) (lehmer : List Nat) : Option Bits :=
  let sorted := sortNat syms
  let nb := if sorted.length == 4 then 2 else if sorted.length == 2 then 1 else 0
  let enc (x : Nat) : Option Bits :=
    if sorted.contains x then
      let code := sorted.idxOf x
      some ((List.range nb).map fun i => (code / 2 ^ (nb - 1 - i)) % 2 == 1)
    else none
  let countBits : Option Bits :=
    if count == 1 then some [false]
    else if count < 2 then none
    else
      let nbC := Nat.log2 (count - 1)
      some ([true] ++ toBits 4 nbC ++ toBits nbC (count - 1 - 2 ^ nbC))
  let ab := log2Ceil count
  let symBits : Option Bits :=
    if count == 1 then (if syms == [0] then some [] else none)
    else if syms.length == 1 || syms.length == 2 || syms.length == 4 then
      some (toBits 2 1 ++ toBits 2 (syms.length - 1) ++ syms.flatMap (toBits ab) ++
            (if syms.length == 4 then [false] else []))
    else none
  match countBits, symBits, (lehmer.length :: lehmer).mapM enc with
  | some cb, some sb, some body => some (toBits 9 0b111110010 ++ cb ++ sb ++ body.flatten)
  | _, _, _ => none

/-! ## canonical report lines (the harness prints the same from the real structs) -/

def hex8 (n : Nat) : String := hexNat 8 n

/-- f32 bits of a float-valued field (`f16` pattern read from the stream, or an `f32` default) -/
def fbits : Val → String
  | .f16 b => hex8 (f16ToF32Bits b)
  | .f32 b => hex8 b
  | _ => "?"

def b01 (b : Bool) : String := if b then "1" else "0"
def joinWith (sep : String) (l : List String) : String := sep.intercalate l

def dumpBitDepth (v : Val) : String :=
  if (v.get "float_sample").bool! then s!"f{(v.get "bits_per_sample").nat!}e{(v.get "exp_bits").nat!}"
  else s!"i{(v.get "bits_per_sample").nat!}"

def dumpName (v : Val) : String := hexOrDash ((v.get "data").list!.map Val.nat!)

def dumpXy (v : Val) : String := s!"{(v.get "x").int!},{(v.get "y").int!}"

def dumpColourEncoding (v : Val) : String :=
  let cs := (v.get "colour_space").nat!
  if (v.get "want_icc").bool! then s!"icc:{cs}" else
  let wp := v.get "white_point"
  let wps := if (wp.get "disc").nat! == 2 then s!"2({dumpXy (wp.get "custom")})" else toString (wp.get "disc").nat!
  let pr := v.get "primaries"
  let prs := if (pr.get "disc").nat! == 2 then
      s!"2({dumpXy (pr.get "red")},{dumpXy (pr.get "green")},{dumpXy (pr.get "blue")})"
    else toString (pr.get "disc").nat!
  let tf := v.get "tf"
  let tfs := if (tf.get "has_gamma").bool! then s!"g{(tf.get "gamma").nat!}" else toString (tf.get "tf").nat!
  s!"enum:{cs}:{wps}:{prs}:{tfs}:{(v.get "rendering_intent").nat!}"

def dumpEc (v : Val) : String :=
  let ty := (v.get "ty").nat!
  let spec :=
    if ty == 0 then "a" ++ b01 (v.get "alpha_associated").bool!
    else if ty == 2 then joinWith "," ((v.get "spot").list!.map fbits)
    else if ty == 5 then s!"c{(v.get "cfa_channel").nat!}"
    else "-"
  s!"({ty};{dumpBitDepth (v.get "bit_depth")};{(v.get "dim_shift").nat!};{dumpName (v.get "name")};{spec})"

def dumpFloats (v : Val) : String := joinWith "," (v.list!.map fbits)

def dumpExtensions (v : Val) : String := toString (v.get "extension_bits").nat!

/-- report of an `ImageHeader` value (public fields and `width()/height()` with orientation) -/
def dumpImage (img : Env) : String :=
  let i := Val.record img
  let m := i.get "metadata"
  let w := (i.path ["size", "width"]).nat!
  let h := (i.path ["size", "height"]).nat!
  let o := (m.get "orientation").nat!
  let (ow, oh) := orientedDims o w h
  let wh (v : Val) : String := if v.isNone then "none" else s!"{(v.get "width").nat!}x{(v.get "height").nat!}"
  let anim := m.get "animation"
  let anims := if anim.isNone then "none" else
    s!"{(anim.get "tps_numerator").nat!}/{(anim.get "tps_denominator").nat!}/{(anim.get "num_loops").nat!}/{b01 (anim.get "have_timecodes").bool!}"
  let tm := m.get "tone_mapping"
  let op := m.get "opsin_inverse_matrix"
  joinWith " " [
    s!"w={w}", s!"h={h}",
    (if orientationPanics o w h then "ow=panic oh=panic" else s!"ow={ow} oh={oh}"), s!"orient={o}",
    s!"intr={wh (m.get "intrinsic_size")}", s!"preview={wh (m.get "preview")}", s!"anim={anims}",
    s!"bd={dumpBitDepth (m.get "bit_depth")}", s!"m16={b01 (m.get "modular_16bit_buffers").bool!}",
    s!"ec=[{joinWith "" ((m.get "ec_info").list!.map dumpEc)}]",
    s!"xyb={b01 (m.get "xyb_encoded").bool!}", s!"ce={dumpColourEncoding (m.get "colour_encoding")}",
    s!"tm={fbits (tm.get "intensity_target")},{fbits (tm.get "min_nits")},{b01 (tm.get "relative_to_max_display").bool!},{fbits (tm.get "linear_below")}",
    s!"ext={dumpExtensions (m.get "extensions")}",
    s!"opsin={joinWith "," ((op.get "inv_mat").list!.map dumpFloats)};{dumpFloats (op.get "opsin_bias")};{dumpFloats (op.get "quant_bias")};{fbits (op.get "quant_bias_numerator")}",
    s!"up2={dumpFloats (m.get "up2_weight")}", s!"up4={dumpFloats (m.get "up4_weight")}",
    s!"up8={dumpFloats (m.get "up8_weight")}" ]

def dumpNats (v : Val) : String := joinWith "," (v.list!.map fun x => toString x.nat!)

def dumpBlend (v : Val) : String :=
  s!"{(v.get "mode").nat!};{(v.get "alpha_channel").nat!};{b01 (v.get "clamp").bool!};{(v.get "source").nat!}"

def dumpGabor (v : Val) : String :=
  if !(v.get "enabled").bool! then "off"
  else joinWith "," [dumpFloats (v.get "w0"), dumpFloats (v.get "w1"), dumpFloats (v.get "w2")]

def dumpEpf (v : Val) : String :=
  if (v.get "iters").nat! == 0 then "off" else
  joinWith ";" [toString (v.get "iters").nat!, dumpFloats (v.get "sharp_lut"), dumpFloats (v.get "channel_scale"),
    joinWith "," [fbits (v.get "quant_mul"), fbits (v.get "pass0_sigma_scale"), fbits (v.get "pass2_sigma_scale"),
      fbits (v.get "border_sad_mul")], fbits (v.get "sigma_for_modular")]

def optNat : Option Nat → String | some n => toString n | none => "panic"

/-- report of a `FrameHeader` value (fields, accessors and derived quantities) -/
def dumpFrame (fhE : Env) : String :=
  let f := Val.record fhE
  let p := f.get "passes"
  let rf := f.get "restoration_filter"
  let d := frameDerived f
  joinWith " " [
    s!"type={(f.get "frame_type").nat!}", s!"enc={(f.get "encoding").nat!}", s!"flags={(f.get "flags").nat!}",
    s!"ycbcr={b01 (f.get "do_ycbcr").bool!}", s!"ecc={(f.get "encoded_color_channels").nat!}",
    s!"jpegup={dumpNats (f.get "jpeg_upsampling")}", s!"up={(f.get "upsampling").nat!}",
    s!"ecup={dumpNats (f.get "ec_upsampling")}", s!"gss={(f.get "group_size_shift").nat!}",
    s!"xqm={(f.get "x_qm_scale").nat!}", s!"bqm={(f.get "b_qm_scale").nat!}",
    s!"passes={(p.get "num_passes").nat!};{(p.get "num_ds").nat!};{dumpNats (p.get "shift")};{dumpNats (p.get "downsample")};{dumpNats (p.get "last_pass")}",
    s!"lf={(f.get "lf_level").nat!}", s!"crop={b01 (f.get "have_crop").bool!}",
    s!"x0={(f.get "x0").int!}", s!"y0={(f.get "y0").int!}", s!"w={(f.get "width").nat!}", s!"h={(f.get "height").nat!}",
    s!"blend={dumpBlend (f.get "blending_info")}",
    s!"ecblend=[{joinWith "|" ((f.get "ec_blending_info").list!.map dumpBlend)}]",
    s!"dur={(f.get "duration").nat!}", s!"tc={(f.get "timecode").nat!}", s!"last={b01 (f.get "is_last").bool!}",
    s!"sar={(f.get "save_as_reference").nat!}", s!"reset={b01 (f.get "resets_canvas").bool!}",
    s!"sbct={b01 (f.get "save_before_ct").bool!}", s!"name={dumpName (f.get "name")}",
    s!"gab={dumpGabor (rf.get "gab")}", s!"epf={dumpEpf (rf.get "epf")}", s!"rfext={dumpExtensions (rf.get "extensions")}",
    s!"ext={dumpExtensions (f.get "extensions")}", s!"bd={dumpBitDepth (f.get "bit_depth")}",
    s!"kf={b01 d.isKeyframe}", s!"canref={b01 d.canReference}", s!"sw={d.sampleW}", s!"sh={d.sampleH}",
    s!"ng={optNat d.numGroups}", s!"nlg={optNat d.numLfGroups}" ]

/-- name of the `TocGroupKind` with original index `j` -/
def tocKindName (t : TocVal) (j : Nat) : String :=
  if t.entryCount == 1 then "all"
  else if j == 0 then "lfg"
  else if j ≤ t.numLfGroups then s!"lf{j - 1}"
  else if j == t.numLfGroups + 1 then "hfg"
  else
    let k := j - t.numLfGroups - 2
    s!"p{k / t.numGroups}g{k % t.numGroups}"

/-- report of a `Toc`: total size, bookmark, sections in bitstream order, and
`group_index_bitstream_order` of every kind -/
def dumpToc (t : TocVal) : String :=
  let bs := t.bitstreamOrder
  let bookmark := match bs with | g :: _ => g.offset | [] => 0
  let perm := t.perm.toArray
  joinWith " " [
    s!"n={t.entryCount}", s!"total={t.totalSize}", s!"bookmark={bookmark}",
    s!"bs={joinWith "," (bs.map fun g => s!"{tocKindName t g.kind}:{g.offset}:{g.size}")}",
    s!"order={joinWith "," ((List.range t.entryCount).map fun j =>
      toString (if t.permuted then perm.getD j 0 else j))}" ]

/-! ## sub-bundles that can be parsed on their own (small-scope enumeration) -/

open Parts in
def standalone : List (String × Bundle × Env) := [
  ("SizeHeader", Pinned.SizeHeader, []),
  ("PreviewHeader", Pinned.PreviewHeader, []),
  ("AnimationHeader", Pinned.AnimationHeader, []),
  ("BitDepth", bitDepthFields, []),
  ("ExtraChannelInfo", extraChannelInfoFields, []),
  ("ColourEncoding", colourEncodingFields, []),
  ("ToneMapping", Pinned.ToneMapping, []),
  ("OpsinInverseMatrix", Pinned.OpsinInverseMatrix, []),
  ("Customxy", Pinned.Customxy, []),
  ("Passes", Pinned.Passes, []),
  ("Name", nameFields, []),
  ("Extensions", extensionsFields, []),
  ("RestorationFilterVarDct", Pinned.RestorationFilter, [("encoding", .nat 0)]),
  ("RestorationFilterModular", Pinned.RestorationFilter, [("encoding", .nat 1)]) ]

end Jxl.Headers
