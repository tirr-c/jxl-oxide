/-!
# JPEG bit writer, Huffman table builder and reconstruction status (`jxl-jbr`, `jxl-oxide`)

Mirrors `crates/jxl-jbr/src/bit_writer.rs`, `crates/jxl-jbr/src/huffman.rs`
(`HuffmanCode::build`, `BuiltHuffmanTable::lookup`), the `expected_*_len` accessors of
`crates/jxl-jbr/src/lib.rs` and the decision logic of
`JxlImage::jpeg_reconstruction_status` / `AuxBoxList::jbrd` in `crates/jxl-oxide`.

Checked-build semantics: a shift by `>= 64`, a `u8`/`usize` subtraction below zero or an
out-of-range index is a panic and is modelled as `none`.
-/
namespace Jxl.JpegBits

abbrev Byte := BitVec 8

/-! ## `bit_writer.rs` -/

/-- `fn has_ff_byte(val: u64) -> bool`:
`((!val).wrapping_sub(0x0101..01) & val & 0x8080..80) != 0`. -/
def hasFFByte (v : BitVec 64) : Bool :=
  ((~~~v - 0x0101010101010101#64) &&& v &&& 0x8080808080808080#64) != 0#64

/-- `struct BitWriter { output, buf, valid_buf_bits }` -/
structure BW where
  output : List Byte
  buf : BitVec 64
  valid : Nat
  deriving Repr, DecidableEq

/-- `BitWriter::new` -/
def BW.new : BW := { output := [], buf := 0#64, valid := 0 }

/-- `fn emit_byte`: push the byte, then a zero after `0xff`. -/
def emitByte (out : List Byte) (b : Byte) : List Byte :=
  if b = 0xFF#8 then out ++ [b, 0#8] else out ++ [b]

/-- `(out >> ((7 - idx) * 8)) as u8` -/
def byteOf (v : BitVec 64) (idx : Nat) : Byte := (v >>> ((7 - idx) * 8)).setWidth 8

/-- `out.to_be_bytes()` -/
def beBytes (v : BitVec 64) : List Byte := (List.range 8).map (byteOf v)

/-- `fn flush_buf(&mut self, next_buf)`; the caller has already added to `valid_buf_bits`. -/
def flushBuf (s : BW) (next : BitVec 64) : BW :=
  let out := s.buf
  { output :=
      if !hasFFByte out then s.output ++ beBytes out
      else (beBytes out).foldl emitByte s.output
    buf := next
    valid := s.valid - 64 }

/-- `fn write_huffman(&mut self, bits: u64, len: u8)`; `bits` is left-aligned.
`none` = panic of a checked build: `bits >> valid_buf_bits` with `valid_buf_bits >= 64`
(never, by the invariant), `bits << (len - extra)` with `len - extra = 64`
(exactly when `len ≥ 64` is written into an empty accumulator). -/
def writeHuffman (s : BW) (bits : BitVec 64) (len : Nat) : Option BW :=
  if s.valid ≥ 64 then none
  else
    let buf := s.buf ||| (bits >>> s.valid)
    let valid := s.valid + len
    if valid ≥ 64 then
      let extra := valid - 64
      if extra > len then none
      else
        let sh := len - extra
        if sh ≥ 64 then none
        else some (flushBuf { s with buf := buf, valid := valid } (bits <<< sh))
    else some { s with buf := buf, valid := valid }

/-- `fn write_raw(&mut self, bits: u64, len: u8)`; `bits` is right-aligned. `64 - len` on `u8`
panics for `len > 64`. -/
def writeRaw (s : BW) (bits : BitVec 64) (len : Nat) : Option BW :=
  if len = 0 then some s
  else if len > 64 then none
  else writeHuffman s (bits <<< (64 - len)) len

/-- `fn padding_bits(&self)` -/
def paddingBits (s : BW) : Nat := (8 - s.valid % 8) % 8

/-- `fn finalize(self) -> Vec<u8>` -/
def finalize (s : BW) : List Byte :=
  let validBytes := (s.valid + 7) / 8
  if validBytes = 0 then s.output
  else if !hasFFByte s.buf then s.output ++ (beBytes s.buf).take validBytes
  else ((List.range validBytes).map (byteOf s.buf)).foldl emitByte s.output

/-- One call on the writer. -/
inductive Op where
  /-- `write_huffman(bits, len)` -/
  | huff (bits : BitVec 64) (len : Nat)
  /-- `write_raw(bits, len)` -/
  | raw (bits : BitVec 64) (len : Nat)
  deriving Repr, DecidableEq

def Op.len : Op → Nat
  | .huff _ l => l
  | .raw _ l => l

def step (s : BW) : Op → Option BW
  | .huff bits len => writeHuffman s bits len
  | .raw bits len => writeRaw s bits len

/-- A sequence of calls starting from a given writer; `none` as soon as one call panics. -/
def runFrom (s : BW) : List Op → Option BW
  | [] => some s
  | op :: ops =>
    match step s op with
    | none => none
    | some s' => runFrom s' ops

def run (ops : List Op) : Option BW := runFrom BW.new ops

/-! ### Spec: what the writer is for

The bit string of a call is the code word MSB first; the file content is the concatenation of
the bit strings, padded with zero bits to a whole byte, packed big-endian into bytes, with a
`0x00` stuffed after every `0xFF` (ITU-T T.81 F.1.2.3). -/

/-- Bits contributed by one call, first-written first. -/
def opBits : Op → List Bool
  | .huff bits len => (List.range len).map (fun i => bits.getMsbD i)
  | .raw bits len => (List.range len).map (fun i => bits.getLsbD (len - 1 - i))

def specBits (ops : List Op) : List Bool := ops.flatMap opBits

def padZero (l : List Bool) : List Bool := l ++ List.replicate ((8 - l.length % 8) % 8) false

/-- The byte whose bit `j` (counted from the most significant) is `f j`. -/
def bitsToByte (f : Nat → Bool) : Byte :=
  BitVec.ofNat 8 ((List.range 8).foldl (fun acc j => 2 * acc + (f j).toNat) 0)

/-- Big-endian packing of whole bytes (a trailing partial byte is dropped; `padZero` first). -/
def packBE (l : List Bool) : List Byte :=
  (List.range (l.length / 8)).map (fun k => bitsToByte (fun j => l.getD (8 * k + j) false))

def stuff (bs : List Byte) : List Byte := bs.flatMap (fun b => if b = 0xFF#8 then [b, 0#8] else [b])

def spec (ops : List Op) : List Byte := stuff (packBE (padZero (specBits ops)))

/-- Precondition of `write_huffman` that its callers maintain (`HuffmanCode::build` shifts every
code to the top): nothing below the top `len` bits. `write_raw` needs nothing. -/
def Op.WF : Op → Prop
  | .huff bits len => len ≤ 64 ∧ ∀ i, len ≤ i → bits.getMsbD i = false
  | .raw _ _ => True

/-! ## `huffman.rs` -/

/-- The `lengths` vector after the fill loop: `counts[len]` entries of value `len` for
`len = 0..16` in order, the rest of the `values.len()` slots stay `0`.
`split_at_mut(count)` panics when the counts exceed the slots. -/
def fillLengths (counts : List Nat) (n : Nat) : Option (List Nat) :=
  let filled := (List.range counts.length).flatMap (fun len => List.replicate (counts.getD len 0) len)
  if filled.length > n then none else some (filled ++ List.replicate (n - filled.length) 0)

/-- The code-assignment loop: `(left-aligned bits)` per entry; `none` = panic
(`64 - len` is a shift by 64 for `len = 0`; `len - prev_len` underflows on `u8`). -/
def assignCodes : (lengths : List Nat) → (nextCode prevLen : Nat) → Option (List (BitVec 64))
  | [], _, _ => some []
  | len :: rest, nextCode, prevLen =>
    if len = 0 ∨ len > 64 then none
    else if len < prevLen then none
    else
      let nextCode := if len ≠ prevLen then nextCode <<< (len - prevLen) else nextCode
      match assignCodes rest (nextCode + 1) len with
      | none => none
      | some bits => some (BitVec.ofNat 64 nextCode <<< (64 - len) :: bits)

structure Table where
  /-- `reordered_lengths`, 256 entries -/
  lengths : List Nat
  /-- `reordered_bits`, 256 entries -/
  bits : List (BitVec 64)
  deriving Repr, DecidableEq

/-- the scatter loop `reordered_*[value] = ..` over `zip(values, zip(lengths, bits))` -/
def scatter : List Nat → List Nat → List (BitVec 64) → Table → Table
  | v :: vs, l :: ls, b :: bs, t =>
    scatter vs ls bs { lengths := t.lengths.set v l, bits := t.bits.set v b }
  | _, _, _, t => t

/-- `HuffmanCode::build` on `(counts[0..17], values)`; `none` = panic. (`HuffmanCode::parse` rejects
`counts[0] ≠ 0` and an empty value list since /repo cbf2128; `build` itself is reached with anything
only through hook H6.) -/
def build (counts values : List Nat) : Option Table :=
  match fillLengths counts values.length with
  | none => none
  | some lengths =>
    let lengths := lengths.dropLast          -- `lengths.pop()`
    match lengths with
    | [] =>                                   -- no code besides the end marker: an empty table
      some { lengths := List.replicate 256 0, bits := List.replicate 256 0#64 }
    | l0 :: _ =>
      match assignCodes lengths 0 l0 with
      | none => none
      | some bits =>
        some (scatter values lengths bits
          { lengths := List.replicate 256 0, bits := List.replicate 256 0#64 })

/-- `BuiltHuffmanTable::lookup` (`none` = `Err(HuffmanLookup)`) -/
def lookup (t : Table) (sym : Nat) : Option (Nat × BitVec 64) :=
  let len := t.lengths.getD sym 0
  if len = 0 then none else some (len, t.bits.getD sym 0#64)

/-! ### Spec: canonical JPEG code (ITU-T T.81 Annex C)

With code lengths `ls` in non-decreasing order, entry `k` gets the `ls[k]`-bit code whose value is
`Σ_{j<k} 2^(ls[k] - ls[j])`: the smallest value not having an earlier code as a prefix. -/

def canonCode (ls : List Nat) (k : Nat) : Nat :=
  ((ls.take k).map (fun lj => 2 ^ (ls.getD k 0 - lj))).sum

/-- sorted code lengths of a `counts` table (entry `len` of `counts` = number of codes of that
length, `len = 0..16`), without the final sentinel entry -/
def codeLengths (counts : List Nat) : List Nat :=
  ((List.range counts.length).flatMap (fun len => List.replicate (counts.getD len 0) len)).dropLast

/-- `2^16 · Σ 2^(-len)` over all entries including the sentinel -/
def kraftSum (counts : List Nat) : Nat :=
  ((List.range counts.length).map (fun len => counts.getD len 0 * 2 ^ (16 - len))).sum

/-- A table the jbrd format means to describe: 17 counts, none of length 0, as many values as
counts say (the last one being the sentinel), at least one real symbol, Kraft's inequality
(the sentinel included, so the all-ones code stays free), byte-sized distinct symbols. -/
structure ValidTable (counts values : List Nat) : Prop where
  len17 : counts.length = 17
  zero0 : counts.getD 0 0 = 0
  total : ((List.range 17).map (fun l => counts.getD l 0)).sum = values.length
  two : 2 ≤ values.length
  kraft : kraftSum counts ≤ 2 ^ 16
  bytes : ∀ v ∈ values, v < 256
  nodup : values.dropLast.Nodup

/-! ## `expected_*_len` and the status decision -/

/-- `AppMarker { ty, length }` -/
structure AppMarker where
  ty : Nat
  length : Nat
  deriving Repr, DecidableEq

def headerIccLen : Nat := 12   -- b"ICC_PROFILE\0"
def headerExifLen : Nat := 6   -- b"Exif\0\0"
def headerXmpLen : Nat := 29   -- b"http://ns.adobe.com/xap/1.0/\0"

/-- `usize` subtraction of a checked build -/
def subChk (a b : Nat) : Option Nat := if b ≤ a then some (a - b) else none

/-- `expected_icc_len`: sum of `length - 5 - 12` over markers of type 1 (`none` = underflow panic) -/
def expectedIccLen : List AppMarker → Option Nat
  | [] => some 0
  | am :: rest =>
    if am.ty = 1 then
      match subChk am.length (5 + headerIccLen), expectedIccLen rest with
      | some a, some b => some (a + b)
      | _, _ => none
    else expectedIccLen rest

/-- `expected_exif_len` / `expected_xmp_len`: first marker of the type, `length - 3 - header` -/
def expectedFirstLen (ty hdr : Nat) (ams : List AppMarker) : Option Nat :=
  match ams.find? (fun am => am.ty = ty) with
  | none => some 0
  | some am => subChk am.length (3 + hdr)

def expectedExifLen := expectedFirstLen 2 headerExifLen
def expectedXmpLen := expectedFirstLen 3 headerXmpLen

/-- The check `AppMarker::parse` makes after repair F4: a typed marker is at least as long as the
fixed part that is re-inserted for it; otherwise the header is rejected (`ValidationFailed`). -/
def appMarkerOk (am : AppMarker) : Bool :=
  match am.ty with
  | 1 => decide (5 + headerIccLen ≤ am.length)
  | 2 => decide (3 + headerExifLen ≤ am.length)
  | 3 => decide (3 + headerXmpLen ≤ am.length)
  | _ => true

/-- `AuxBoxData<_>` with the payload abstracted away -/
inductive Aux where
  | data | decoding | notFound
  deriving Repr, DecidableEq

/-- `JpegReconstructionStatus` -/
inductive Status where
  | available | invalid | unavailable | needMoreData
  /-- the status query itself panicked (`expected_*_len` underflow, F4) -/
  | panic
  deriving Repr, DecidableEq

/-- What `AuxBoxList::jbrd()` looks at (after repair: `Data` only once the box has ended and
`Jbrd::finalize` accepted the decompressed length). -/
structure JbrdArrival where
  headerParsed : Bool
  finalizedOk : Bool
  lastBox : Bool
  currentIsJbrd : Bool
  deriving Repr, DecidableEq

/-- `AuxBoxList::jbrd()` as repaired -/
def jbrdState (a : JbrdArrival) : Aux :=
  if a.headerParsed && a.finalizedOk then .data
  else if a.lastBox && !a.currentIsJbrd then .notFound
  else .decoding

/-- `AuxBoxList::jbrd()` as found: `Data` as soon as the header has been parsed -/
def jbrdStateOrig (a : JbrdArrival) : Aux :=
  if a.headerParsed then .data
  else if a.lastBox && !a.currentIsJbrd then .notFound
  else .decoding

/-- Everything `jpeg_reconstruction_status` inspects. -/
structure Facts where
  jbrd : Aux
  /-- APP markers of the parsed jbrd header (meaningful when `jbrd = data`) -/
  app : List AppMarker
  /-- `first_exif()` returned `Err` (Exif box shorter than its 4-byte offset field) -/
  exifErr : Bool
  exif : Aux
  xml : Aux
  /-- `colour_encoding.want_icc()` -/
  wantIcc : Bool
  /-- `original_icc().is_some()` -/
  hasIcc : Bool
  /-- `num_loaded_frames()` -/
  loadedFrames : Nat
  /-- `frame(0)`: `(encoding == VarDct, frame_type.is_normal_frame())` -/
  frame0 : Option (Bool × Bool)
  deriving Repr, DecidableEq

/-- `JxlImage::jpeg_reconstruction_frame_status` (the frame checks, shared by both branches after
repair; `available` = nothing wrong with the first frame as far as it is known) -/
def frameStatus (f : Facts) : Status :=
  if f.loadedFrames ≥ 2 then .invalid
  else
    match f.frame0 with
    | none => .needMoreData
    | some (isVarDct, isNormal) =>
      if !isVarDct then .invalid
      else if !isNormal then .invalid
      else .available

/-- `JxlImage::jpeg_reconstruction_status` -/
def status (f : Facts) : Status :=
  match f.jbrd with
  | .data =>
    if f.exifErr then .invalid
    else
      match expectedIccLen f.app with
      | none => .panic
      | some icc =>
        if icc > 0 && !f.wantIcc then .invalid
        else if icc > 0 && !f.hasIcc then .needMoreData
        else
          match expectedExifLen f.app with
          | none => .panic
          | some exif =>
            if exif > 0 && f.exif = .decoding then .needMoreData
            else if exif > 0 && f.exif = .notFound then .invalid
            else
              match expectedXmpLen f.app with
              | none => .panic
              | some xmp =>
                if xmp > 0 && f.xml = .decoding then .needMoreData
                else if xmp > 0 && f.xml = .notFound then .invalid
                else
                  match frameStatus f with
                  | .available => if f.loadedFrames = 0 then .needMoreData else .available
                  | s => s
  | .decoding =>
    match frameStatus f with
    | .available => .needMoreData
    | s => s
  | .notFound => .unavailable

end Jxl.JpegBits
