/-!
# Block transforms of the VarDCT path (`jxl-render/src/vardct/generic/{dct,transform}.rs`,
# `transform_common.rs`, `dct_common.rs`)

Everything is written **once**, polymorphic in the scalar type through the class `Scalar`
(add/sub/mul/div and the constants the code uses), so that the same definitions are
* executed at `Float` (IEEE binary64) by the driver (`Driver/C16.lean`), and
* reasoned about at `ℝ` in `Proofs/Dct*.lean` (the instance lives in `Proofs/Dct.lean`; this file is
  import-free).

Constants.  The Rust code uses literal tables (`SEC_HALF_SMALL`, `SCALE_F`, `0.5411961`, …) and,
for n ≥ 64, values computed at run time in `f32`.  The model does not contain the literals: it
*defines* `secHalf n i = 1 / (2 cos((2i+1)π/(2n)))` and
`scaleF c N = cos(cπ/(2N)) · cos(cπ/N) · cos(2cπ/N)` from the one transcendental primitive
`cosPi a b = cos(aπ/b)`.  That the literals are these numbers is checked numerically by the
correspondence run (ops `sec`, `scalef`), not proved (except the two entries of `sec_half(4)`,
`C16_sec_table_n4_correct_partial`).

Vectors are `Array α`; reading outside the array gives `zero` (`rd`), building is `tab n f`.

Normalisation (what the code really computes, cf. the unit tests at the end of `dct.rs`):
* inverse:  `x j = c 0 + √2 Σ_{n=1}^{N-1} c n · cos(n(2j+1)π/(2N))`
* forward:  `c n = (1/N) · (n = 0 ? 1 : √2) · Σ_j x j · cos(n(2j+1)π/(2N))`
so `forward ∘ inverse = id` without further factors, and the DC coefficient is the mean.
-/
namespace Jxl.Dct

class Scalar (α : Type) where
  zero : α
  one : α
  add : α → α → α
  sub : α → α → α
  mul : α → α → α
  div : α → α → α
  /-- `0.5` (the code divides by `2.0` / `4.0`; both are exact scalings) -/
  half : α
  /-- `std::f32::consts::SQRT_2` -/
  sqrt2 : α
  /-- `cosPi a b = cos(a·π/b)` -/
  cosPi : Nat → Nat → α

open Scalar

variable {α : Type} [Scalar α]

local infixl:65 " +. " => Scalar.add
local infixl:65 " -. " => Scalar.sub
local infixl:70 " *. " => Scalar.mul
local infixl:70 " /. " => Scalar.div

/-- `dct_common::sec_half(n)[i]`, by its defining formula `1 / (2 cos((2i+1)π/(2n)))`. -/
def secHalf (n i : Nat) : α := one /. ((one +. one) *. cosPi (2 * i + 1) (2 * n))

/-- `dct_common::scale_f`: the table `SCALE_F[c << logb]` is `scaleF c' 256` with `c' = c << logb`;
written for a block side of `N` samples: `cos(cπ/(2N)) · cos(cπ/N) · cos(2cπ/N)`. -/
def scaleF (c N : Nat) : α := cosPi c (2 * N) *. cosPi c N *. cosPi (2 * c) N

def quarter : α := half *. half

/-- read with default (never out of range in the code; total here) -/
def rd (v : Array α) (i : Nat) : α := v.getD i zero

/-- the vector `f 0, …, f (n-1)` -/
def tab (n : Nat) (f : Nat → α) : Array α := Array.ofFn (n := n) fun i => f i.val

/-- `Σ_{i<n} f i`, summed in increasing `i` -/
def sumRange : Nat → (Nat → α) → α
  | 0, _ => zero
  | n + 1, f => sumRange n f +. f n

/-! ## The definition -/

/-- Inverse DCT of length `N` by its definition:
`c 0 + √2 · Σ_{n=1}^{N-1} c n · cos(n(2j+1)π/(2N))`. -/
def idctDef (N : Nat) (c : Nat → α) (j : Nat) : α :=
  c 0 +. sqrt2 *. sumRange (N - 1) fun n => c (n + 1) *. cosPi ((n + 1) * (2 * j + 1)) (2 * N)

/-- `N` as a scalar -/
def ofNatS : Nat → α
  | 0 => zero
  | n + 1 => ofNatS n +. one

/-- Forward DCT of length `N` by its definition:
`(1/N) · (n = 0 ? 1 : √2) · Σ_j x j · cos(n(2j+1)π/(2N))`. -/
def fdctDef (N : Nat) (x : Nat → α) (n : Nat) : α :=
  let s := sumRange N fun j => x j *. cosPi (n * (2 * j + 1)) (2 * N)
  (if n = 0 then s else sqrt2 *. s) /. ofNatS N

/-! ## 1-D recursion (`generic/dct.rs`, `fn dct` and `fn dct4`) -/

/-- `n == 2`, inverse -/
def idct2 (c : Array α) : Array α :=
  #[rd c 0 +. rd c 1, rd c 0 -. rd c 1]

/-- `dct4(.., Inverse)`; `sec0 = 0.5411961 = sec_half(4)[0]`, `sec1 = 1.306563 = sec_half(4)[1]` -/
def idct4 (c : Array α) : Array α :=
  let tmp0 := rd c 1 *. sqrt2
  let tmp1 := rd c 1 +. rd c 3
  let out0 := (tmp0 +. tmp1) *. secHalf 4 0
  let out1 := (tmp0 -. tmp1) *. secHalf 4 1
  let sum02 := rd c 0 +. rd c 2
  let sub02 := rd c 0 -. rd c 2
  #[sum02 +. out0, sub02 +. out1, sub02 -. out1, sum02 -. out0]

/-- One inverse recursion level for length `n = 2m` (the `n == 8` block with `dct4` and the general
`else` branch of `fn dct` are this same computation): de-interleave, running sum on the odd half,
`√2` on its first entry, recurse on both halves, scale by `sec_half`, butterfly. -/
def istep (n : Nat) (rec : Array α → Array α) (c : Array α) : Array α :=
  let m := n / 2
  let input0 := tab m fun i => rd c (2 * i)
  let input1 := tab m fun i =>
    if i = 0 then rd c 1 *. sqrt2 else rd c (2 * i + 1) +. rd c (2 * i - 1)
  let output0 := rec input0
  let output1 := rec input1
  tab n fun i =>
    if i < m then rd output0 i +. rd output1 i *. secHalf n i
    else rd output0 (n - 1 - i) -. rd output1 (n - 1 - i) *. secHalf n (n - 1 - i)

/-- inverse DCT of length `2^k` as the code computes it -/
def idct : Nat → Array α → Array α
  | 0, c => tab 1 (rd c)
  | 1, c => idct2 c
  | 2, c => idct4 c
  | k + 3, c => istep (2 ^ (k + 3)) (idct (k + 2)) c

/-- `n == 2`, forward -/
def fdct2 (x : Array α) : Array α :=
  #[(rd x 0 +. rd x 1) *. half, (rd x 0 -. rd x 1) *. half]

/-- `dct4(.., Forward)` -/
def fdct4 (x : Array α) : Array α :=
  let sum03 := rd x 0 +. rd x 3
  let sum12 := rd x 1 +. rd x 2
  let tmp0 := (rd x 0 -. rd x 3) *. secHalf 4 0
  let tmp1 := (rd x 1 -. rd x 2) *. secHalf 4 1
  let out0 := (tmp0 +. tmp1) *. quarter
  let out1 := (tmp0 -. tmp1) *. quarter
  #[(sum03 +. sum12) *. quarter, out0 *. sqrt2 +. out1, (sum03 -. sum12) *. quarter, out1]

/-- One forward recursion level for length `n = 2m`. -/
def fstep (n : Nat) (rec : Array α → Array α) (x : Array α) : Array α :=
  let m := n / 2
  let input0 := tab m fun i => (rd x i +. rd x (n - 1 - i)) *. half
  let input1 := tab m fun i => (rd x i -. rd x (n - 1 - i)) *. half *. secHalf n i
  let output0 := rec input0
  let output1 := rec input1
  let odd := tab m fun i =>
    let v := if i = 0 then rd output1 0 *. sqrt2 else rd output1 i
    if i + 1 < m then v +. rd output1 (i + 1) else v
  tab n fun i => if i % 2 = 0 then rd output0 (i / 2) else rd odd (i / 2)

/-- forward DCT of length `2^k` as the code computes it -/
def fdct : Nat → Array α → Array α
  | 0, x => tab 1 (rd x)
  | 1, x => fdct2 x
  | 2, x => fdct4 x
  | k + 3, x => fstep (2 ^ (k + 3)) (fdct (k + 2)) x

inductive Dir where
  | forward
  | inverse
  deriving DecidableEq, Repr

/-- `fn dct(input_output, scratch, direction)` on a vector of length `n` (a power of two) -/
def dct1 (dir : Dir) (n : Nat) (v : Array α) : Array α :=
  match dir with
  | .inverse => idct (Nat.log2 n) v
  | .forward => fdct (Nat.log2 n) v

/-! ## 2-D driver (`generic/dct.rs`, `fn dct_2d`) -/

/-- row-major `w × h` samples; `g.rd x y` is column `x`, row `y` (the `MutableSubgrid::get(x, y)`
convention) -/
structure Grid (α : Type) where
  w : Nat
  h : Nat
  d : Array α

def Grid.rd (g : Grid α) (x y : Nat) : α := Dct.rd g.d (y * g.w + x)

def Grid.tab (w h : Nat) (f : Nat → Nat → α) : Grid α :=
  ⟨w, h, Dct.tab (w * h) fun i => f (i % w) (i / w)⟩

def Grid.row (g : Grid α) (y : Nat) : Array α := Dct.tab g.w fun x => g.rd x y
def Grid.col (g : Grid α) (x : Nat) : Array α := Dct.tab g.h fun y => g.rd x y

/-- 1-D transform of every row (first loop of the general path) -/
def rowPass (dir : Dir) (g : Grid α) : Grid α :=
  let rows : Array (Array α) := Array.ofFn (n := g.h) fun y => dct1 dir g.w (g.row y.val)
  Grid.tab g.w g.h fun x y => Dct.rd (rows.getD y #[]) x

/-- 1-D transform of every column (what the transposes + second loop amount to) -/
def colPass (dir : Dir) (g : Grid α) : Grid α :=
  let cols : Array (Array α) := Array.ofFn (n := g.w) fun x => dct1 dir g.h (g.col x.val)
  Grid.tab g.w g.h fun x y => Dct.rd (cols.getD x #[]) y

/-- in-place transpose of every `bs × bs` block (the two `io.swap` loop nests) -/
def blockTranspose (bs : Nat) (g : Grid α) : Grid α :=
  Grid.tab g.w g.h fun x y => g.rd (x / bs * bs + y % bs) (y / bs * bs + x % bs)

/-- second loop, `block_size == height`: every row is cut into chunks of `h` samples and each
chunk is transformed -/
def chunkPass (dir : Dir) (g : Grid α) : Grid α :=
  let h := g.h
  let res : Array (Array (Array α)) := Array.ofFn (n := g.h) fun y =>
    Array.ofFn (n := g.w / h) fun q => dct1 dir h (Dct.tab h fun d => g.rd (q.val * h + d) y.val)
  Grid.tab g.w g.h fun x y => Dct.rd ((res.getD y #[]).getD (x / h) #[]) (x % h)

/-- second loop, `block_size == width < height`: for `y < w` the rows `y, y+w, y+2w, …` are
concatenated, transformed as one vector of `h` samples and written back -/
def gatherPass (dir : Dir) (g : Grid α) : Grid α :=
  let w := g.w
  let res : Array (Array α) := Array.ofFn (n := g.w) fun y =>
    dct1 dir g.h (Dct.tab g.h fun i => g.rd (i % w) (y.val + i / w * w))
  Grid.tab g.w g.h fun x y => Dct.rd (res.getD (y % w) #[]) (y / w * w + x)

/-- the general path of `dct_2d` literally: rows, block transpose, second loop, block transpose -/
def dct2dGeneral (dir : Dir) (g : Grid α) : Grid α :=
  let bs := min g.w g.h
  let t := blockTranspose bs (rowPass dir g)
  let u := if bs = g.h then chunkPass dir t else gatherPass dir t
  blockTranspose bs u

/-- the `mul` of `dct_2d`: `0.5` forward, `1.0` inverse -/
def dirMul : Dir → α
  | .forward => half
  | .inverse => one

/-- `dct_2d(io, direction)` with all its special cases -/
def dct2d (dir : Dir) (g : Grid α) : Grid α :=
  let w := g.w
  let h := g.h
  if w * h ≤ 1 then g
  else
    let mul : α := dirMul dir
    if w = 2 ∧ h = 1 then
      Grid.tab 2 1 fun x _ =>
        if x = 0 then (g.rd 0 0 +. g.rd 1 0) *. mul else (g.rd 0 0 -. g.rd 1 0) *. mul
    else if w = 1 ∧ h = 2 then
      Grid.tab 1 2 fun _ y =>
        if y = 0 then (g.rd 0 0 +. g.rd 0 1) *. mul else (g.rd 0 0 -. g.rd 0 1) *. mul
    else if w = 2 ∧ h = 2 then
      let v00 := g.rd 0 0
      let v01 := g.rd 1 0
      let v10 := g.rd 0 1
      let v11 := g.rd 1 1
      Grid.tab 2 2 fun x y =>
        if x = 0 ∧ y = 0 then (v00 +. v01 +. v10 +. v11) *. mul *. mul
        else if y = 0 then (v00 -. v01 +. v10 -. v11) *. mul *. mul
        else if x = 0 then (v00 +. v01 -. v10 -. v11) *. mul *. mul
        else (v00 -. v01 -. v10 +. v11) *. mul *. mul
    else if h = 1 then rowPass dir g
    else if w = 1 then colPass dir g
    else if h = 2 then
      let b := Grid.tab w 2 fun x y =>
        if y = 0 then (g.rd x 0 +. g.rd x 1) *. mul else (g.rd x 0 -. g.rd x 1) *. mul
      rowPass dir b
    else if w = 2 then
      let b := Grid.tab 2 h fun x y =>
        if x = 0 then (g.rd 0 y +. g.rd 1 y) *. mul else (g.rd 0 y -. g.rd 1 y) *. mul
      colPass dir b
    else dct2dGeneral dir g

/-- the separable reference: transform every row, then every column -/
def dct2dSep (dir : Dir) (g : Grid α) : Grid α := colPass dir (rowPass dir g)

/-! ## LF injection (`transform_common.rs`, `transform_varblocks_inner`) -/

/-- For a varblock of `bw × bh` 8×8 blocks: forward 2-D DCT of the `bw × bh` LF samples, each
coefficient divided by `scale_f(y, 5 - log bh) * scale_f(x, 5 - log bw)`. For `bw = bh = 1` the
code copies the sample (the forward DCT of one sample is the sample and the scale is 1). -/
def llfFromLf (lf : Grid α) : Grid α :=
  if lf.w * lf.h = 1 then lf
  else
    let f := dct2d .forward lf
    Grid.tab lf.w lf.h fun x y => f.rd x y /. (scaleF y (8 * lf.h) *. scaleF x (8 * lf.w))

/-- coefficient block with its top-left `lf.w × lf.h` corner replaced by the injected LF -/
def injectLf (lf coeff : Grid α) : Grid α :=
  let llf := llfFromLf lf
  Grid.tab coeff.w coeff.h fun x y =>
    if x < lf.w ∧ y < lf.h then llf.rd x y else coeff.rd x y

/-- a whole DCT-family varblock: LF injection, then `transform_dct` = inverse `dct_2d` -/
def varblockDct (lf coeff : Grid α) : Grid α := dct2d .inverse (injectLf lf coeff)

/-! ## Definitions in 2-D -/

/-- 2-D inverse DCT by definition: `idctDef` along every row, then along every column. -/
def idct2dDef (g : Grid α) : Grid α :=
  let r := Grid.tab g.w g.h fun x y => idctDef g.w (fun u => g.rd u y) x
  Grid.tab g.w g.h fun x y => idctDef g.h (fun v => r.rd x v) y

/-- 2-D forward DCT by definition -/
def fdct2dDef (g : Grid α) : Grid α :=
  let r := Grid.tab g.w g.h fun x y => fdctDef g.w (fun u => g.rd u y) x
  Grid.tab g.w g.h fun x y => fdctDef g.h (fun v => r.rd x v) y

/-- LLF coefficients by definition -/
def llfDef (lf : Grid α) : Grid α :=
  let f := fdct2dDef lf
  Grid.tab lf.w lf.h fun x y => f.rd x y /. (scaleF y (8 * lf.h) *. scaleF x (8 * lf.w))

/-- coefficient block with the LLF coefficients *by definition* in its top-left corner -/
def injectDef (lf coeff : Grid α) : Grid α :=
  let llf := llfDef lf
  Grid.tab coeff.w coeff.h fun x y =>
    if x < lf.w ∧ y < lf.h then llf.rd x y else coeff.rd x y

/-- a whole DCT-family varblock by definition: LLF by definition overlaid on the coefficients,
then the 2-D inverse by definition -/
def varblockDef (lf coeff : Grid α) : Grid α := idct2dDef (injectDef lf coeff)

/-! ## `Float` instance (binary64) -/

def piF : Float := 3.14159265358979323846

instance : Scalar Float where
  zero := 0.0
  one := 1.0
  add := (· + ·)
  sub := (· - ·)
  mul := (· * ·)
  div := (· / ·)
  half := 0.5
  sqrt2 := Float.sqrt 2.0
  cosPi a b := Float.cos (a.toFloat * piF / b.toFloat)

end Jxl.Dct
