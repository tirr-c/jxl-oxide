import JxlModel.Model.Modular.Image
/-!
# Narrow (i16) versus wide (i32) Modular buffers: what "16-bit buffers suffice" means

`jxl-render/src/lib.rs` (`narrow_modular`) instantiates the whole Modular pipeline at `S = i16`
when the header says `modular_16bit_buffers` and the caller did not force wide buffers, at
`S = i32` otherwise. Every sample operation of the model is parameterised by the sample width
`sb`; this file defines, for the **wide** run (`sb = 32`), the list of intermediate values whose
membership in the `i16` range makes the narrow run agree with it (`…Trace`). A stream
*truthfully declares that 16-bit buffers suffice* when every value in these lists is an `i16`
(`I16`). The lists are executable (driver `c12`, ops `sq`, `rct`, `range`) and are the hypotheses of the
theorems in `Props/C12.lean`.

Only the values that matter are listed: operations that are ring operations modulo `2^16`
(add, mul-add, RCT types without a shift of a computed value) need no hypothesis on their
intermediates — truncation commutes with them — so only their *results* appear.
-/
namespace Jxl.Modular

/-- representable as `i16` -/
def I16 (x : Int) : Prop := -32768 ≤ x ∧ x ≤ 32767

instance (x : Int) : Decidable (I16 x) := by unfold I16; infer_instance

/-- representable as `i32` -/
def I32 (x : Int) : Prop := -2147483648 ≤ x ∧ x ≤ 2147483647

instance (x : Int) : Decidable (I32 x) := by unfold I32; infer_instance

def allI16 (l : List Int) : Bool := l.all fun v => decide (I16 v)

/-! ## squeeze -/

/-- `tendency_i32` / `tendency_i16` with the wrapping function as a parameter
(`tendency sb = tendencyG (wrap sb)` by `rfl`) -/
def tendencyG (wr : Int → Int) (a b c : Int) : Int :=
  if a ≥ b ∧ b ≥ c then
    let x := tdiv (wr (wr (wr (wr (4 * a) - wr (3 * c)) - b) + 6)) 12
    let x := if wr (x - (x % 2)) > wr (2 * wr (a - b)) then wr (wr (2 * wr (a - b)) + 1) else x
    let x := if wr (x + (x % 2)) > wr (2 * wr (b - c)) then wr (2 * wr (b - c)) else x
    x
  else if a ≤ b ∧ b ≤ c then
    let x := tdiv (wr (wr (wr (wr (4 * a) - wr (3 * c)) - b) - 6)) 12
    let x := if wr (x + (x % 2)) < wr (2 * wr (a - b)) then wr (wr (2 * wr (a - b)) - 1) else x
    let x := if wr (x - (x % 2)) < wr (2 * wr (b - c)) then wr (2 * wr (b - c)) else x
    x
  else 0

/-- the one intermediate of `tendency` that must fit: the numerator `4a - 3c - b ± 6` of the
division by 12 (exact integer; `0` when the three values are not monotone). Every other
intermediate (`2(a-b)`, `2(b-c)`, `x ± (x&1)`) is bounded by it in absolute value. The partial
products `4a`, `3c` need **not** fit: the narrow code computes the numerator modulo `2^16`. -/
def tendencyNum (a b c : Int) : Int :=
  if a ≥ b ∧ b ≥ c then 4 * a - 3 * c - b + 6
  else if a ≤ b ∧ b ≤ c then 4 * a - 3 * c - b - 6
  else 0

/-- values of one wide inverse-squeeze step that must be `i16`: the numerator of `tendency`,
`diff`, the two reconstructed samples, and the two operand differences `left - a`, `a - next`
(the scalar `i16` code does not need the last two; the vector kernels compute the differences
first, in 16-bit lanes, also when the three values are not monotone) -/
def unsqueezeStepTrace (left a nextAvg r : Int) : List Int :=
  let diff := wrap 32 (r + tendency 32 left a nextAvg)
  let first := wrap 32 (a + tdiv diff 2)
  let second := wrap 32 (first - diff)
  [tendencyNum left a nextAvg, diff, first, second, left - a, a - nextAvg]

/-- all such values of the wide run of `unsqueezeGo` -/
def unsqueezeTrace : List Int → List Int → Int → List Int
  | a :: as, r :: rs, left =>
    let nextAvg := as.headD a
    let diff := wrap 32 (r + tendency 32 left a nextAvg)
    let first := wrap 32 (a + tdiv diff 2)
    let second := wrap 32 (first - diff)
    unsqueezeStepTrace left a nextAvg r ++ unsqueezeTrace as rs second
  | _ :: _, [], _ => []
  | [], _, _ => []

/-! ### lane semantics of the x86-64 vector kernels

`tendency_i16_x86_64_avx2` and `tendency_i16_x86_64_sse41` are the same sequence of 16-bit lane
operations; one lane is transcribed here. The data movement around it (8/16-row transposes, head
and tail handling per width class) is **not** modelled: that part is pinned to the scalar kernels
by the exhaustive-width runs of `tools/props/c12.py`. -/

/-- the magnitude part of one lane of the vector `tendency`, from the lane values
`|a-b|`, `|a-c|`, `|b-c|`: every lane operation wraps at 16 bits, `mulhi` is the high half of the
signed 32-bit product with `0x5556`, `srai::<2>` the arithmetic shift, `blendv` the selections -/
def tendencyVecCore (absAB absAC absBC : Int) : Int :=
  let wr := wrap 16
  let x := wr ((absAB * 21846) / 65536 + wr (absAC + 2))
  let x := x / 4
  let x := if x > wr (wr (2 * absAB) + x % 2) then wr (wr (2 * absAB) + 1) else x
  let x := if wr (x + x % 2) > wr (2 * absBC) then wr (2 * absBC) else x
  x

/-- one lane of the vector `tendency`: differences and absolute values in 16-bit lanes, the
monotonicity test on sign bits (`0 > (a_b ^ b_c)`, not skipped when a difference is zero), the
magnitude, and `sign_epi16` with the mask `skip ? 0 : (c > a ? -1 : 1)` -/
def tendencyVec (a b c : Int) : Int :=
  let wr := wrap 16
  let abs16 := fun (x : Int) => wr (if x < 0 then -x else x)
  let a_b := wr (a - b)
  let b_c := wr (b - c)
  let a_c := wr (a - c)
  let nonMonotonic : Bool := decide (a_b < 0) != decide (b_c < 0)
  let skip : Bool := nonMonotonic && decide (a_b ≠ 0) && decide (b_c ≠ 0)
  let x := tendencyVecCore (abs16 a_b) (abs16 a_c) (abs16 b_c)
  let needNeg : Bool := decide (c > a)
  if skip then 0 else if needNeg then wr (-x) else x

/-- `srai::<1>(diff + srli::<15>(diff))`: the vector kernels' `diff / 2` -/
def halveVec (diff : Int) : Int := wrap 16 (diff + (if diff < 0 then 1 else 0)) / 2

/-- one line through the lane operations of the vector kernels (same recursion as `unsqueezeGo`) -/
def unsqueezeGoVec : List Int → List Int → Int → List Int
  | a :: as, r :: rs, left =>
    let nextAvg := as.headD a
    let diff := wrap 16 (r + tendencyVec left a nextAvg)
    let first := wrap 16 (a + halveVec diff)
    let second := wrap 16 (first - diff)
    first :: second :: unsqueezeGoVec as rs second
  | a :: _, [], _ => [a]
  | [], _, _ => []

def unsqueezeLineVec (avg res : List Int) : List Int := unsqueezeGoVec avg res (avg.headD 0)

def unsqueezeLineTrace (avg res : List Int) : List Int :=
  unsqueezeTrace avg res (avg.headD 0)

def unsqueezeChanTrace (horizontal : Bool) (avg res : Chan) : List Int :=
  if horizontal then
    (List.range avg.h).flatMap fun y => unsqueezeLineTrace (avg.row y) (res.row y)
  else
    (List.range avg.w).flatMap fun x => unsqueezeLineTrace (avg.col x) (res.col x)

/-! ## RCT -/

/-- values of the wide inverse RCT of one triple that must be `i16`: for the types with a halving
of a *computed* value (4, 5: `(a + f) >> 1`) that value; and the three results. Types 0–3 and 6
are ring operations on the inputs (type 6 halves inputs only). -/
def rctTrace (ty : Nat) (a b c : Int) : List Int :=
  let (d, e, f) := rctInvSample 32 ty a b c
  (if ty != 6 ∧ ty / 2 == 2 then [wrap 32 (a + f)] else []) ++ [d, e, f]

def rctChanTrace (rctType : Nat) (a b c : Chan) : List Int :=
  (List.range a.data.size).flatMap fun i =>
    rctTrace (rctType % 7) (a.data.getD i 0) (b.data.getD i 0) (c.data.getD i 0)

/-! ## token level -/

/-- the samples the wide decoder produces (also when it later runs out of tokens) -/
def wideSamples (leafOf : LeafOf) (prev : List Chan) : Nat → PState → List Nat → List Int
  | 0, _, _ => []
  | n + 1, ps, toks =>
    let scp := ps.scPredict
    match leafOf (propsFn (ps.props scp) prev ps.x ps.y), toks with
    | some leaf, tok :: rest =>
      let v := sampleOf 32 leaf (predictImpl leaf.pred ps scp) tok
      v :: wideSamples leafOf prev n (ps.record scp v) rest
    | _, _ => []

/-- every value of the wide decode of one sample: unpacked token, scaled residual, prediction
as a sample, result (reported by the driver; only the result matters for agreement) -/
def sampleTrace (leaf : Leaf) (pred : Int) (tok : Nat) : List Int :=
  let u := sUnpack 32 tok
  let m := sMulAdd 32 u leaf.mul leaf.offset
  [u, m, sFromI32 32 pred, sAdd 32 m (sFromI32 32 pred)]

/-- all values (token, residual, prediction, sample) of the wide decode of `n` samples -/
def decodeTrace (leafOf : LeafOf) (prev : List Chan) : Nat → PState → List Nat → List Int
  | 0, _, _ => []
  | n + 1, ps, toks =>
    let scp := ps.scPredict
    match leafOf (propsFn (ps.props scp) prev ps.x ps.y), toks with
    | some leaf, tok :: rest =>
      let pred := predictImpl leaf.pred ps scp
      let v := sampleOf 32 leaf pred tok
      sampleTrace leaf pred tok ++ decodeTrace leafOf prev n (ps.record scp v) rest
    | _, _ => []

/-- the samples the wide decoder produces for one channel (mirrors `decodeChannel 32`) -/
def decodeChannelWide (tree : Tree) (wp : Wp) (chanIdx stream : Nat)
    (info : ChanInfo) (prevSame : List Chan) (tokens : List Nat) : List Int :=
  let flat := flatten chanIdx stream prevSame.length tree
  let wpo := if flatUsesSC flat then some wp else none
  let prev := prevSame.take (flatMaxPrev flat)
  wideSamples (fun props => getLeaf flat props) prev (info.w * info.h) (PState.reset info.w wpo) tokens

/-- the samples the wide decoder produces for all channels of a sub-image (mirrors
`decodeChannels 32`; stops where that stops) -/
def decodeChannelsWide (tree : Tree) (wp : Wp) (stream : Nat) :
    List ChanInfo → Nat → List (ChanInfo × Chan) → List Nat → List Int
  | [], _, _, _ => []
  | info :: rest, idx, done, tokens =>
    if info.w == 0 ∨ info.h == 0 then
      decodeChannelsWide tree wp stream rest (idx + 1) (done ++ [(info, Chan.zero info.w info.h)]) tokens
    else
      let prevSame := (done.filter fun d => d.1 == info ∧ d.1.w != 0 ∧ d.1.h != 0).reverse.map (·.2)
      decodeChannelWide tree wp idx stream info prevSame tokens ++
        match decodeChannel 32 tree wp idx stream info prevSame tokens with
        | none => []
        | some (c, tokens') =>
          decodeChannelsWide tree wp stream rest (idx + 1) (done ++ [(info, c)]) tokens'

/-! ## folds -/

/-- trace of a left fold: the values `tr s x` of every step, with the state advanced by `g` -/
def foldTrace {σ α : Type} (g : σ → α → σ) (tr : σ → α → List Int) : List α → σ → List Int
  | [], _ => []
  | x :: xs, s => tr s x ++ foldTrace g tr xs (g s x)

/-! ## palette -/

/-- wide values of the palette expansion (before delta prediction) of an index channel -/
def paletteBaseTrace (pal : Chan) (nbColours bitDepth n : Nat) (idx : Chan) : List Int :=
  (List.range n).flatMap fun c =>
    (List.range (idx.w * idx.h)).map fun i =>
      paletteValue 32 pal nbColours bitDepth (idx.get (i % idx.w) (i / idx.w)) c

/-- one step of `paletteDeltaPass` (the body of its fold) -/
def paletteDeltaStep (sb : SBits) (dPred : Nat) (isDelta : Nat → Nat → Bool) (w : Nat)
    (st : PState × Chan) (i : Nat) : PState × Chan :=
  let (ps, ch) := st
  let x := i % w
  let y := i / w
  let scp := ps.scPredict
  let v := ch.get x y
  -- Rust records the i32 value and stores its truncation to the sample type
  let v32 := if isDelta x y then wrap32 (v + predictImpl dPred ps scp) else v
  let v' := if isDelta x y then sFromI32 sb v32 else v
  (ps.record scp v32, ch.set x y v')

/-- the `i32` value the wide delta pass computes at pixel `i` (truncated to the sample type
when stored) -/
def paletteDeltaStepTrace (dPred : Nat) (isDelta : Nat → Nat → Bool) (w : Nat)
    (st : PState × Chan) (i : Nat) : List Int :=
  let x := i % w
  let y := i / w
  if isDelta x y then [wrap32 (st.2.get x y + predictImpl dPred st.1 st.1.scPredict)] else []

def paletteDeltaTrace (dPred : Nat) (wp : Wp) (isDelta : Nat → Nat → Bool) (c : Chan) : List Int :=
  let wpo := if dPred == 6 then some wp else none
  foldTrace (paletteDeltaStep 32 dPred isDelta c.w) (paletteDeltaStepTrace dPred isDelta c.w)
    (List.range (c.w * c.h)) (PState.reset c.w wpo, c)

/-! ## whole transform chain (wide run) -/

/-- one inverse squeeze step on the channel list (the body of the fold in `inverseOne`) -/
def squeezeInvStep (sb : SBits) (chans : List Chan) (sp : SqueezeParam) : List Chan :=
  let b := sp.beginC
  let n := sp.numC
  let e := b + n
  let (residu, chans) :=
    if sp.inPlace then ((chans.drop e).take n, chans.take e ++ chans.drop (e + n))
    else (chans.drop (chans.length - n), chans.take (chans.length - n))
  let merged := (List.range n).map fun i =>
    unsqueezeChan sb sp.horizontal (chans.getD (b + i) default) (residu.getD i default)
  chans.take b ++ merged ++ chans.drop e

def squeezeInvStepTrace (chans : List Chan) (sp : SqueezeParam) : List Int :=
  let b := sp.beginC
  let n := sp.numC
  let e := b + n
  let (residu, chans) :=
    if sp.inPlace then ((chans.drop e).take n, chans.take e ++ chans.drop (e + n))
    else (chans.drop (chans.length - n), chans.take (chans.length - n))
  (List.range n).flatMap fun i =>
    unsqueezeChanTrace sp.horizontal (chans.getD (b + i) default) (residu.getD i default)

/-- values that must be `i16` in the wide inverse of one transform; mirrors `inverseOne 32` -/
def inverseOneTrace (bitDepth : Nat) (wp : Wp) (chans : List Chan) : Transform → List Int
  | .rct b t =>
    match chans[b]?, chans[b + 1]?, chans[b + 2]? with
    | some a, some bb, some c => rctChanTrace t a bb c
    | _, _, _ => []
  | .palette b n nbc nbd dp =>
    match chans with
    | [] => []
    | pal :: rest =>
      match rest[b]? with
      | none => []
      | some idx =>
        let isDelta : Nat → Nat → Bool := fun x y => decide (idx.get x y < (nbd : Int))
        let anyDelta := (List.range (idx.w * idx.h)).any fun i => isDelta (i % idx.w) (i / idx.w)
        paletteBaseTrace pal nbc bitDepth n idx ++
          (if anyDelta then
            (List.range n).flatMap fun c =>
              paletteDeltaTrace dp wp isDelta
                (Chan.ofFn idx.w idx.h fun x y => paletteValue 32 pal nbc bitDepth (idx.get x y) c)
           else [])
  | .squeeze ps => foldTrace (squeezeInvStep 32) squeezeInvStepTrace ps.reverse chans

/-- all channel samples -/
def chansValues (chans : List Chan) : List Int := chans.flatMap fun c => c.data.toList

/-- wide run of the transform chain: every decoded (coded-domain) sample, then per inverse
transform its intermediates and its output samples -/
def inverseAllTrace (bitDepth : Nat) (wp : Wp) (ts : List Transform) (chans : List Chan) : List Int :=
  chansValues chans ++
    foldTrace (inverseOne 32 bitDepth wp)
      (fun chans t => inverseOneTrace bitDepth wp chans t ++ chansValues (inverseOne 32 bitDepth wp chans t))
      ts.reverse chans

/-- summary of a list of values for the driver: `(min, max)`; `(0, 0)` for the empty list -/
def rangeOf (l : List Int) : Int × Int :=
  l.foldl (fun (m : Int × Int) v => (min m.1 v, max m.2 v)) (0, 0)

end Jxl.Modular
