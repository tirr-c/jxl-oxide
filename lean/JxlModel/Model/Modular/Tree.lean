import JxlModel.Model.Modular.Predictor
/-!
# MA trees (`jxl-modular/src/ma.rs`)

`Tree` is the decoded meta-adaptive tree (Spec: a plain binary decision tree, evaluated by
`Tree.eval`). `flatten`/`getLeaf` mirror `MaTreeNode::flatten`, `try_compile_to_table`,
`next_decision_node` and `FlatMaTree::get_leaf` (Impl).
-/
namespace Jxl.Modular

structure Leaf where
  ctx : Nat            -- context (cluster after clustering)
  pred : Nat           -- predictor 0..13
  offset : Int
  mul : Nat            -- multiplier = (mul_bits + 1) << mul_log
  deriving Repr, BEq, Inhabited, DecidableEq

inductive Tree where
  | leaf (l : Leaf)
  /-- `property > value` goes left, otherwise right -/
  | dec (prop : Nat) (value : Int) (left right : Tree)
  deriving Repr, Inhabited, BEq

/-- Spec evaluation: `props k` is the value of property `k` -/
def Tree.eval (props : Nat → Int) : Tree → Leaf
  | .leaf l => l
  | .dec p v l r => if props p > v then l.eval props else r.eval props

def Tree.size : Tree → Nat
  | .leaf _ => 1
  | .dec _ _ l r => 1 + l.size + r.size

def Tree.depth : Tree → Nat
  | .leaf _ => 0
  | .dec _ _ l r => 1 + max l.depth r.depth

def Tree.leaves : Tree → List Leaf
  | .leaf l => [l]
  | .dec _ _ l r => l.leaves ++ r.leaves

def Tree.usesProp (k : Nat) : Tree → Bool
  | .leaf _ => false
  | .dec p _ l r => p == k || l.usesProp k || r.usesProp k

def Tree.usesPred (k : Nat) : Tree → Bool
  | .leaf l => l.pred == k
  | .dec _ _ l r => l.usesPred k || r.usesPred k

/-- `next_decision_node`: skip decisions that are static for this channel / stream / number of
available previous channels -/
def Tree.next (chan stream prevCh : Nat) : Tree → Tree
  | .leaf l => .leaf l
  | .dec p v l r =>
    if p == 0 then (if (chan : Int) > v then l.next chan stream prevCh else r.next chan stream prevCh)
    else if p == 1 then (if (stream : Int) > v then l.next chan stream prevCh else r.next chan stream prevCh)
    else if p ≥ 16 ∧ (p - 16) / 4 ≥ prevCh then
      -- the property reads 0 when the previous channel does not exist
      (if v < 0 then l.next chan stream prevCh else r.next chan stream prevCh)
    else .dec p v l r

/-- Spec evaluation specialised to a channel: static properties 0/1 and absent previous channels -/
def Tree.evalFor (chan stream prevCh : Nat) (props : Nat → Int) (t : Tree) : Leaf :=
  t.eval fun k =>
    if k == 0 then chan else if k == 1 then stream
    else if k ≥ 16 ∧ (k - 16) / 4 ≥ prevCh then 0 else props k

inductive FlatNode where
  | fused (p0 : Nat) (v0 : Int) (pl pr : Nat) (vl vr : Int) (base : Nat)
  | table (prop : Nat) (valueBase : Int) (indices : Array Nat)
  | leaf (l : Leaf)
  deriving Repr, Inhabited

def i32Max : Int := 2147483647
def i32Min : Int := -2147483648

/-- `try_compile_to_table` work list: `(node, lo, hi)` are value ranges `lo..=hi`.
Returns `(lower_bound, upper_bound, range_nodes)` with `range_nodes = (node, range_end)`. -/
def compileLoop (chan stream prevCh prop : Nat) :
    Nat → List (Tree × Int × Int) → Int → Int → List (Tree × Int) → Int × Int × List (Tree × Int)
  | 0, _, lb, ub, acc => (lb, ub, acc)
  | _, [], lb, ub, acc => (lb, ub, acc)
  | fuel + 1, (node, lo, hi) :: stack, lb, ub, acc =>
    let node := node.next chan stream prevCh
    match node with
    | .dec p v l r =>
      if p == prop then
        -- a decision that cannot go both ways within `lo..=hi` selects one child for the range
        if v ≥ hi then compileLoop chan stream prevCh prop fuel ((r, lo, hi) :: stack) lb ub acc
        else if v < lo then compileLoop chan stream prevCh prop fuel ((l, lo, hi) :: stack) lb ub acc
        else
        let nlb := min lb v
        let nub := max ub v
        if (nub - nlb).toNat > 1024 - 2 then
          compileLoop chan stream prevCh prop fuel stack lb ub (acc ++ [(node, hi)])
        else
          -- left: (v+1)..=hi pushed first, then right lo..=v (popped first)
          let stack := if v + 1 ≤ hi then (l, v + 1, hi) :: stack else stack
          let stack := if lo ≤ v then (r, lo, v) :: stack else stack
          compileLoop chan stream prevCh prop fuel stack nlb nub acc
      else compileLoop chan stream prevCh prop fuel stack lb ub (acc ++ [(node, hi)])
    | .leaf _ => compileLoop chan stream prevCh prop fuel stack lb ub (acc ++ [(node, hi)])

/-- insertion sort by range end (keys are distinct, so stability does not matter) -/
def sortByEnd (l : List (Tree × Int)) : List (Tree × Int) :=
  l.foldl (fun acc e =>
    let (a, b) := acc.span (fun x => x.2 ≤ e.2)
    a ++ e :: b) []

/-- fills `indices[next .. next+len)` with `val` -/
def fillRange (a : Array Nat) (start len val : Nat) : Array Nat :=
  (List.range len).foldl (fun a i => a.setIfInBounds (start + i) val) a

/-- `try_compile_to_table`; `none` when the node is not compiled to a table.
NOTE the Rust evaluated `value + 1` in `i32` (a panic in checked builds for `value = i32::MAX`,
finding F8; now `checked_add`); the model computes in `Int` — the repaired behaviour.
The range that ends at `i32::MAX` fills the whole tail of the table: this models the repaired code
(/repo f9ead7c). The unrepaired code wrote only the last entry, which left entries at 0 when a
decision value is `i32::MAX` itself (finding F14; the old fold is kept as `tryCompileOld` in
`Proofs/TableOld.lean` for the witness `C03_unrepaired_table_wrong_at_i32max`). -/
def tryCompile (chan stream prevCh : Nat) (t : Tree) (nextBase : Nat) :
    Option (FlatNode × List Tree) :=
  match t with
  | .leaf _ => none
  | .dec prop value l r =>
    let fuel := 2 * t.size + 4
    -- stack = [left, right]; `pop` takes the last pushed = right first
    let init : List (Tree × Int × Int) :=
      [(r, i32Min, value)] ++ (if value + 1 ≤ i32Max then [(l, value + 1, i32Max)] else [])
    let (lb, ub, rn) := compileLoop chan stream prevCh prop fuel init value value []
    if rn.length < 4 then none
    else
      let rn := sortByEnd rn
      let count := (ub - lb).toNat + 2
      let indices : Array Nat := Array.replicate count 0
      let step := fun (st : Array Nat × List Tree × Int × Nat × Nat × Bool) (e : Tree × Int) =>
        let (ind, nodes, rangeStart, nextIdx, idx, done) := st
        if done then st
        else if e.2 == i32Max then
          -- the last range takes every remaining entry (`indices[next_index..].fill(..)`)
          (fillRange ind nextIdx (ind.size - nextIdx) (nextBase + idx), nodes ++ [e.1], rangeStart, nextIdx, idx + 1, true)
        else
          let len := (e.2 - rangeStart).toNat
          (fillRange ind nextIdx len (nextBase + idx), nodes ++ [e.1], e.2, nextIdx + len, idx + 1, false)
      let (ind, nodes, _, _, _, _) := rn.foldl step (indices, [], lb - 1, 0, 0, false)
      some (.table prop lb ind, nodes)

/-- `MaTreeNode::flatten` (breadth-first), fuel = an upper bound on emitted nodes -/
def flattenLoop (chan stream prevCh : Nat) :
    Nat → List Tree → Array FlatNode → Nat → Array FlatNode
  | 0, _, out, _ => out
  | _, [], out, _ => out
  | fuel + 1, t :: q, out, nextBase =>
    let t := t.next chan stream prevCh
    match tryCompile chan stream prevCh t nextBase with
    | some (node, nodes) =>
      flattenLoop chan stream prevCh fuel (q ++ nodes) (out.push node) (nextBase + nodes.length)
    | none =>
      match t with
      | .leaf l => flattenLoop chan stream prevCh fuel q (out.push (.leaf l)) nextBase
      | .dec p v l r =>
        let l := l.next chan stream prevCh
        let (lp, lv, ll, lr) := match l with
          | .dec p v a b => (p, v, a, b)
          | n => (0, (0 : Int), n, n)
        let r := r.next chan stream prevCh
        let (rp, rv, rl, rr) := match r with
          | .dec p v a b => (p, v, a, b)
          | n => (0, (0 : Int), n, n)
        flattenLoop chan stream prevCh fuel (q ++ [ll, lr, rl, rr])
          (out.push (.fused p v lp rp lv rv nextBase)) (nextBase + 4)

def flatten (chan stream prevCh : Nat) (t : Tree) : Array FlatNode :=
  flattenLoop chan stream prevCh (4 * t.size + 4) [t.next chan stream prevCh] #[] 1

/-- `FlatMaTree::get_leaf`; fuel bounds the walk (`getLeaf` gives `nodes.size + 1`: every step goes
to a later index) -/
def getLeafLoop (nodes : Array FlatNode) (props : Nat → Int) : Nat → Nat → Option Leaf
  | 0, _ => none
  | fuel + 1, cur =>
    match nodes[cur]? with
    | none => none
    | some (.leaf l) => some l
    | some (.fused p0 v0 pl pr vl vr base) =>
      let high := props p0 ≤ v0
      let l : Nat := if props pl ≤ vl then 1 else 0
      let r : Nat := 2 + (if props pr ≤ vr then 1 else 0)
      getLeafLoop nodes props fuel (base + (if high then r else l))
    | some (.table prop vb ind) =>
      let v := props prop
      -- saturating_sub in i32, then clamp to the table
      let d := clamp (v - vb) i32Min i32Max
      let idx := (clamp d 0 ((ind.size : Int) - 1)).toNat
      getLeafLoop nodes props fuel (ind.getD idx 0)

def getLeaf (nodes : Array FlatNode) (props : Nat → Int) : Option Leaf :=
  getLeafLoop nodes props (nodes.size + 1) 0

/-- which decode path `decode_inner` takes for a flattened tree (for coverage accounting) -/
def decodePath (nodes : Array FlatNode) : String :=
  match (nodes[0]? : Option FlatNode) with
  | some (.leaf l) =>
    if l.pred == 0 then "single-zero"
    else if l.pred == 5 ∧ l.offset == 0 ∧ l.mul == 1 then "simple-grad" else "single-slow"
  | some (.table prop _ ind) =>
    let leaves : List (Option Leaf) := ind.toList.map fun i => match (nodes[i]? : Option FlatNode) with | some (.leaf l) => some l | _ => none
    if leaves.all Option.isSome then
      let ls := leaves.filterMap id
      match ls with
      | [] => "slow"
      | l0 :: _ =>
        if ls.all (fun l => l.pred == l0.pred ∧ l.offset == l0.offset ∧ l.mul == l0.mul) then
          (if l0.offset == 0 ∧ l0.mul == 1 ∧ prop == 9 ∧ l0.pred == 5 then "gradient-table" else "simple-table")
        else "slow"
    else "slow"
  | _ => "slow"

end Jxl.Modular
