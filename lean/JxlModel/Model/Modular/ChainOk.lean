import JxlModel.Model.Modular.Image
/-!
# Well-formedness predicates for the transform chain round trip (property C03)

Executable hypotheses of `C03_transform_chain_inv_fwd` (`Props/C03.lean`): what a channel list
must satisfy so that the decoder's inverse transforms (wrapping arithmetic at the sample width,
`inverseOne`) undo the reference encoder's forward transforms (exact integers, `forwardOne`).
Nothing here is used by the decoder model; the function `squeezeFwdStep` only names a piece of
`forwardOne` (equal to it by `rfl`, `forwardOne_squeeze_eq_fold` in `Proofs/TransformChain.lean`).
-/
namespace Jxl.Modular

/-- `v` is representable in the sample type (`i16` / `i32` for `sb = 16 / 32`): exactly the
values on which `wrap sb` is the identity -/
def inRange (sb : SBits) (v : Int) : Bool :=
  decide (0 < sb) && decide (-(2 : Int) ^ (sb - 1) ≤ v) && decide (v < (2 : Int) ^ (sb - 1))

/-- one bit of headroom: `-2^(sb-2) ≤ v < 2^(sb-2)`. Sums and differences of two such values are
representable, so channels whose samples all have headroom satisfy the RCT and squeeze conditions
(`rctTripleOk_of_headroom`, `sqLineOk_of_headroom`) -/
def inHeadroom (sb : SBits) (v : Int) : Bool :=
  decide (2 ≤ sb) && decide (-(2 : Int) ^ (sb - 2) ≤ v) && decide (v < (2 : Int) ^ (sb - 2))

/-- the sample buffer has exactly `w * h` entries -/
def Chan.wf (c : Chan) : Bool := c.data.size == c.w * c.h

/-- same width and height -/
def Chan.sameDims (a b : Chan) : Bool := a.w == b.w && a.h == b.h

/-! ## RCT -/

/-- one (already permuted) original triple `(d, e, f)` survives RCT type `ty`: the three samples
are representable, and for the types 4 and 5 (`ty / 2 = 2`), whose inverse halves the *computed*
sum `a + f = d + f` in wrapping arithmetic, that sum is representable too. (Type 6 halves
`d - f`-derived values only through `tmp`, which lies between `d` and `f`.) -/
def rctTripleOk (sb : SBits) (ty : Nat) (t : Int × Int × Int) : Bool :=
  inRange sb t.1 && inRange sb t.2.1 && inRange sb t.2.2 &&
    (ty / 2 != 2 || inRange sb (t.1 + t.2.2))

/-- every sample triple of the three channels is `rctTripleOk` (range condition only) -/
def rctRangeOk (sb : SBits) (rctType : Nat) (x y z : Chan) : Bool :=
  (List.range x.data.size).all fun i =>
    rctTripleOk sb (rctType % 7)
      (rctFwdPermute (rctType / 7) (x.data.getD i 0, y.data.getD i 0, z.data.getD i 0))

/-- the three channels have equally many samples and every triple is `rctTripleOk` -/
def rctChanOk (sb : SBits) (rctType : Nat) (x y z : Chan) : Bool :=
  x.data.size == y.data.size && x.data.size == z.data.size && rctRangeOk sb rctType x y z

/-! ## Squeeze -/

/-- one line survives squeeze: for every pair `(a, b)` at positions `(2k, 2k+1)` the two samples
and their difference are representable (the inverse computes `diff = a - b`, then `a`, then `b`,
each wrapped). A lone last sample is copied. -/
def sqLineOk (sb : SBits) : List Int → Bool
  | a :: b :: rest => inRange sb a && inRange sb b && inRange sb (a - b) && sqLineOk sb rest
  | _ => true

/-- all rows (horizontal) / columns (vertical) of the channel are `sqLineOk` (range condition only) -/
def sqChanLinesOk (sb : SBits) (horizontal : Bool) (c : Chan) : Bool :=
  if horizontal then (List.range c.h).all fun y => sqLineOk sb (c.row y)
  else (List.range c.w).all fun x => sqLineOk sb (c.col x)

/-- a well-formed channel all of whose rows (horizontal) / columns (vertical) are `sqLineOk` -/
def sqChanOk (sb : SBits) (horizontal : Bool) (c : Chan) : Bool :=
  c.wf && sqChanLinesOk sb horizontal c

/-- the body of the fold in `forwardOne … (.squeeze ps)` -/
def squeezeFwdStep (sb : SBits) (chans : List Chan) (sp : SqueezeParam) : List Chan :=
  let b := sp.beginC
  let n := sp.numC
  let e := b + n
  let pairs := (List.range n).map fun i => squeezeChan sb sp.horizontal (chans.getD (b + i) default)
  let kept := pairs.map (·.1)
  let residu := pairs.map (·.2)
  if sp.inPlace then chans.take b ++ kept ++ residu ++ chans.drop e
  else chans.take b ++ kept ++ chans.drop e ++ residu

/-- one squeeze step: the channel range exists (`Squeeze::transform_channel_info` rejects the
step otherwise) and every channel in it is `sqChanOk` -/
def sqStepOk (sb : SBits) (chans : List Chan) (sp : SqueezeParam) : Bool :=
  decide (sp.beginC + sp.numC ≤ chans.length) &&
    ((chans.drop sp.beginC).take sp.numC).all (sqChanOk sb sp.horizontal)

/-- every step of a squeeze transform is `sqStepOk` on the channel list it is applied to -/
def sqStepsOk (sb : SBits) : List SqueezeParam → List Chan → Bool
  | [], _ => true
  | sp :: ps, chans => sqStepOk sb chans sp && sqStepsOk sb ps (squeezeFwdStep sb chans sp)

/-! ## Palette -/

/-- the channel range `b .. b + n` exists and its channels are well-formed with the dimensions
of channel `b` (what `Palette::transform_channel_info` checks on the channel list) -/
def palChansOk (b n : Nat) (chans : List Chan) : Bool :=
  decide (b + n ≤ chans.length) &&
    match chans[b]? with
    | none => false
    | some c0 => ((chans.drop b).take n).all fun c => c.wf && c.sameDims c0

/-! ## one transform, the chain -/

/-- hypotheses for one (resolved) transform on the channel list it is applied to -/
def stepOk (sb : SBits) (chans : List Chan) : Transform → Bool
  | .rct b t =>
    match chans[b]?, chans[b + 1]?, chans[b + 2]? with
    | some x, some y, some z => rctChanOk sb t x y z
    | _, _, _ => false
  | .palette b n _ _ _ => palChansOk b n chans
  | .squeeze ps => sqStepsOk sb ps chans

/-- hypotheses for a whole chain: `stepOk` for every transform, each on the channel list the
forward transforms before it produce (same recursion as `forwardAll`) -/
def chainOk (sb : SBits) : List Transform → List Chan → List Chan → Bool
  | [], _, _ => true
  | t :: ts, pals, chans =>
    stepOk sb chans t &&
      match forwardOne sb chans (match t, pals with
          | .palette .., p :: _ => some p
          | _, _ => none) t with
      | none => true
      | some chans' => chainOk sb ts (match t, pals with
          | .palette .., _ :: ps => ps
          | _, ps => ps) chans'

/-! ## range conditions only

For channel lists that come out of the pipeline (dimensions as `transformInfoAll` says, buffers
well-formed) the structural parts of `stepOk` hold by themselves (`chainOk_of_range`,
`Proofs/TransformChain.lean`); what remains are the conditions on sample values. -/

def sqStepsRangeOk (sb : SBits) : List SqueezeParam → List Chan → Bool
  | [], _ => true
  | sp :: ps, chans =>
    ((chans.drop sp.beginC).take sp.numC).all (sqChanLinesOk sb sp.horizontal) &&
      sqStepsRangeOk sb ps (squeezeFwdStep sb chans sp)

/-- the value conditions of `stepOk`: none for palette -/
def stepRangeOk (sb : SBits) (chans : List Chan) : Transform → Bool
  | .rct b t =>
    match chans[b]?, chans[b + 1]?, chans[b + 2]? with
    | some x, some y, some z => rctRangeOk sb t x y z
    | _, _, _ => true
  | .palette .. => true
  | .squeeze ps => sqStepsRangeOk sb ps chans

/-- the value conditions of `chainOk` -/
def chainRangeOk (sb : SBits) : List Transform → List Chan → List Chan → Bool
  | [], _, _ => true
  | t :: ts, pals, chans =>
    stepRangeOk sb chans t &&
      match forwardOne sb chans (match t, pals with
          | .palette .., p :: _ => some p
          | _, _ => none) t with
      | none => true
      | some chans' => chainRangeOk sb ts (match t, pals with
          | .palette .., _ :: ps => ps
          | _, ps => ps) chans'

/-! ## channel bookkeeping: sample grids versus `transformInfo` -/

def Chan.dims (c : Chan) : Nat × Nat := (c.w, c.h)
def ChanInfo.dims (i : ChanInfo) : Nat × Nat := (i.w, i.h)

/-- the channels have exactly the dimensions the channel list says (as many, in the same order):
the check `encodeFrame` makes at run time between the forward transforms' output and
`transformInfoAll`'s result -/
def dimsMatch (chans : List Chan) (infos : List ChanInfo) : Bool :=
  chans.map Chan.dims == infos.map ChanInfo.dims

def allWf (chans : List Chan) : Bool := chans.all Chan.wf

/-- the palette table handed to a palette transform is a well-formed `nbColours × numC` grid
(the meta channel `transformInfo` puts in front of the list); no condition for other transforms -/
def palTableOk (pal : Option Chan) : Transform → Bool
  | .palette _ n nbc _ _ =>
    match pal with
    | some p => p.wf && p.w == nbc && p.h == n
    | none => false
  | _ => true

/-- `palTableOk` along a chain (tables consumed as in `forwardAll`) -/
def palTablesOk : List Transform → List Chan → Bool
  | [], _ => true
  | t :: ts, pals =>
    match t, pals with
    | .palette .., p :: ps => palTableOk (some p) t && palTablesOk ts ps
    | .palette .., [] => false
    | _, ps => palTablesOk ts ps

end Jxl.Modular
