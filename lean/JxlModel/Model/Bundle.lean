import JxlModel.Model.Bits
/-!
# Header bundles: a deep embedding of `define_bundle!` (C14)

Rust: `crates/jxl-oxide-common/src/lib.rs` (`define_bundle!`, `make_parse!`, `read_bits!`,
`Bundle`, `BundleDefault`) and the primitive readers of `crates/jxl-bitstream/src/bitstream.rs`
(`read_bits`, `read_u32`, `read_u64`, `read_bool`, `read_f16_as_f32`, `read_enum`,
`zero_pad_to_byte`) and `crates/jxl-bitstream/src/lib.rs` (`unpack_signed`, `unpack_signed_u64`).

A header description is *data*: `Bundle = List Field`, `Field = (name, ty, cond, default)`.
There is ONE parser (`parseFields` / `parse`) and ONE writer (`writeFields` / `write`) for all
descriptions; the writer may use any `U32` selector / `U64` form that can represent the value
(`ch`, indexed by the bit position at which the primitive starts).

This file imports nothing outside `JxlModel.Model.*` (it links into the `jxlmodel` executable).
-/
namespace Jxl.Bundle
open Jxl

/-! ## Values -/

/-- Values of header fields. `f16` is the 16-bit pattern read from the stream, `f32` a 32-bit
IEEE pattern (only produced by `default(..)` expressions, never read). `Option<T>` is `none` or
the value itself. Enums are their discriminants (`nat`). -/
inductive Val
  | nat (n : Nat)
  | int (i : Int)
  | bool (b : Bool)
  | f16 (bits : Nat)
  | f32 (bits : Nat)
  | unit
  | none
  | list (vs : List Val)
  | record (fs : List (String × Val))
deriving Repr, Inhabited

/-- field name → value, in declaration order -/
abbrev Env := List (String × Val)

def Env.get? : Env → String → Option Val
  | [], _ => Option.none
  | (k, v) :: r, x => if k = x then some v else Env.get? r x

mutual
def Val.beq : Val → Val → Bool
  | .nat a, .nat b => a == b
  | .int a, .int b => a == b
  | .bool a, .bool b => a == b
  | .f16 a, .f16 b => a == b
  | .f32 a, .f32 b => a == b
  | .unit, .unit => true
  | .none, .none => true
  | .list a, .list b => Val.beqList a b
  | .record a, .record b => Val.beqRec a b
  | _, _ => false
def Val.beqList : List Val → List Val → Bool
  | [], [] => true
  | a :: as, b :: bs => Val.beq a b && Val.beqList as bs
  | _, _ => false
def Val.beqRec : List (String × Val) → List (String × Val) → Bool
  | [], [] => true
  | (k, a) :: as, (l, b) :: bs => k == l && Val.beq a b && Val.beqRec as bs
  | _, _ => false
end

mutual
theorem Val.eq_of_beq : ∀ (a b : Val), Val.beq a b = true → a = b
  | .nat a, b, h | .int a, b, h | .bool a, b, h | .f16 a, b, h | .f32 a, b, h | .unit, b, h
  | .none, b, h => by cases b <;> simp_all [Val.beq]
  | .list a, b, h => by
    cases b <;> simp [Val.beq] at h
    rename_i b; rw [Val.eqList_of_beq a b h]
  | .record a, b, h => by
    cases b <;> simp [Val.beq] at h
    rename_i b; rw [Val.eqRec_of_beq a b h]
theorem Val.eqList_of_beq : ∀ (a b : List Val), Val.beqList a b = true → a = b
  | [], b, h => by cases b <;> simp_all [Val.beqList]
  | a :: as, b, h => by
    cases b with
    | nil => simp [Val.beqList] at h
    | cons b bs =>
      simp [Val.beqList] at h
      rw [Val.eq_of_beq a b h.1, Val.eqList_of_beq as bs h.2]
theorem Val.eqRec_of_beq : ∀ (a b : List (String × Val)), Val.beqRec a b = true → a = b
  | [], b, h => by cases b <;> simp_all [Val.beqRec]
  | (k, a) :: as, b, h => by
    cases b with
    | nil => simp [Val.beqRec] at h
    | cons b bs =>
      obtain ⟨l, b⟩ := b
      simp [Val.beqRec] at h
      rw [h.1.1, Val.eq_of_beq a b h.1.2, Val.eqRec_of_beq as bs h.2]
end

mutual
theorem Val.beq_refl : ∀ (a : Val), Val.beq a a = true
  | .nat a | .int a | .bool a | .f16 a | .f32 a | .unit | .none => by simp [Val.beq]
  | .list a => by simp [Val.beq, Val.beqList_refl a]
  | .record a => by simp [Val.beq, Val.beqRec_refl a]
theorem Val.beqList_refl : ∀ (a : List Val), Val.beqList a a = true
  | [] => by simp [Val.beqList]
  | a :: as => by simp [Val.beqList, Val.beq_refl a, Val.beqList_refl as]
theorem Val.beqRec_refl : ∀ (a : List (String × Val)), Val.beqRec a a = true
  | [] => by simp [Val.beqRec]
  | (k, a) :: as => by simp [Val.beqRec, Val.beq_refl a, Val.beqRec_refl as]
end

instance : DecidableEq Val := fun a b =>
  if h : Val.beq a b = true then isTrue (Val.eq_of_beq a b h)
  else isFalse (fun e => h (e ▸ Val.beq_refl a))

/-! ## Errors -/

/-- `eof` = `Error::Io(UnexpectedEof)`; `invalid kind` = every other bitstream error
(`padding` NonZeroPadding, `float` InvalidFloat, `enum` InvalidEnum, `validation`
ValidationFailed, `profile` ProfileConformance); `stuck` = the model itself cannot continue
(ill-typed description or an un-modelled external parser: a field of type `.ext`, as
`HfBlockContext` and `TransformInfo` in the pinned descriptions, parses to `stuck`). -/
inductive Err
  | eof
  | invalid (kind : String)
  | stuck (why : String)
deriving Repr, DecidableEq, Inhabited

/-! ## Expressions (`cond(..)`, `default(..)`, lengths, contexts) -/

inductive BinOp
  | and | or | eq | ne | lt | le | gt | ge | add | sub | mul | div | shl | shr | band | bor
deriving Repr, DecidableEq, Inhabited

/-- The expression language the translator targets. `app ps body args` is an inlined call of a
Rust helper function with parameters `ps` (the body sees only its parameters); `call f args`
is one of the fixed builtins of `builtin`. -/
inductive Expr
  | nat (n : Nat)
  | int (i : Int)
  | bool (b : Bool)
  | f32 (bits : Nat)
  | none
  | unit
  | var (x : String)
  | field (e : Expr) (f : String)
  | idx (e : Expr) (i : Nat)
  | not (e : Expr)
  | bin (op : BinOp) (a b : Expr)
  | ite (c t e : Expr)
  | letE (x : String) (v body : Expr)
  | call (f : String) (args : List Expr)
  | app (ps : List String) (body : Expr) (args : List Expr)
  | list (es : List Expr)
  | record (fs : List (String × Expr))
deriving Repr, Inhabited

def wrapInt (bits : Nat) (i : Int) : Int :=
  let m : Int := (2 : Int) ^ bits
  let r := i % m
  if r ≥ m / 2 then r - m else r

def toInt? : Val → Option Int
  | .nat n => some (Int.ofNat n)
  | .int i => some i
  | .bool b => some (if b then 1 else 0)
  | _ => Option.none

def popcount : Nat → Nat → Nat
  | 0, _ => 0
  | f+1, n => n % 2 + popcount f (n / 2)

def trailingZeros : Nat → Nat → Nat
  | 0, _ => 0
  | f+1, n => if n % 2 == 1 then 0 else 1 + trailingZeros f (n / 2)

def natsOf : List Val → Option (List Nat)
  | [] => some []
  | .nat n :: r => (natsOf r).map (n :: ·)
  | _ => Option.none

/-- UTF-8 validity exactly as `String::from_utf8` (no overlong forms, no surrogates, ≤ U+10FFFF). -/
def utf8Valid : List Nat → Bool
  | [] => true
  | b0 :: r =>
    if b0 < 0x80 then utf8Valid r
    else if 0xC2 ≤ b0 && b0 ≤ 0xDF then
      match r with
      | b1 :: r' => (0x80 ≤ b1 && b1 ≤ 0xBF) && utf8Valid r'
      | _ => false
    else if 0xE0 ≤ b0 && b0 ≤ 0xEF then
      match r with
      | b1 :: b2 :: r' =>
        let lo := if b0 == 0xE0 then 0xA0 else 0x80
        let hi := if b0 == 0xED then 0x9F else 0xBF
        (lo ≤ b1 && b1 ≤ hi) && (0x80 ≤ b2 && b2 ≤ 0xBF) && utf8Valid r'
      | _ => false
    else if 0xF0 ≤ b0 && b0 ≤ 0xF4 then
      match r with
      | b1 :: b2 :: b3 :: r' =>
        let lo := if b0 == 0xF0 then 0x90 else 0x80
        let hi := if b0 == 0xF4 then 0x8F else 0xBF
        (lo ≤ b1 && b1 ≤ hi) && (0x80 ≤ b2 && b2 ≤ 0xBF) && (0x80 ≤ b3 && b3 ≤ 0xBF) &&
          utf8Valid r'
      | _ => false
    else false

/-- `read_f16_as_f32` value conversion on bit patterns (exponent ≠ 31): exact, done with
integers. Zero → signed zero; subnormal `m·2^-24` is normalised; normal → rebias by 112.

Rust (`crates/jxl-bitstream/src/bitstream.rs`, `Bitstream::read_f16_as_f32`), branch by branch:
* `v & 0x7fff == 0` → `f32::from_bits((v & 0x8000) << 16)`: here `e == 0 && m == 0 → neg`.
* `exponent == 0x1f` → `InvalidFloat`: excluded by `f16Valid` (`parseTy .f16`), not this function.
* `exponent == 0` (subnormal, `mantissa` = 1..1023): the Rust works in `f32` arithmetic,
  `val = (1.0 / 16384.0) * (mantissa as f32 / 1024.0)`, then `-val` if the sign bit is set.
  Every step is exact in binary32 (24-bit significand, normal range down to 2^-126):
  `mantissa as f32` is an integer < 2^24; `/ 1024.0` divides by 2^10 (only the exponent changes,
  `m·2^-10 ≥ 2^-10` is normal); `1.0 / 16384.0 = 2^-14` is a power of two; the product
  `2^-14 · m·2^-10 = m·2^-24` keeps the ≤ 10-bit significand of `m` and lies in
  `[2^-24, 2^-14)`, far above 2^-126, so it is a normal binary32 number and no rounding occurs;
  negation flips the sign bit. The binary32 pattern of `m·2^-24` with `h = ⌊log2 m⌋` is biased
  exponent `h − 24 + 127 = h + 103` and fraction `m·2^(23−h) − 2^23` — the line below.
* otherwise (normal): `(mantissa << 13) | ((exponent + 112) << 23) | neg_bit`; the three fields
  do not overlap, so `|` is `+`.
That the result denotes the same real number as the binary16 pattern is
`C14_f16_value_exact` (`f32Scaled`/`f16Scaled` below). -/
def f16ToF32Bits (v : Nat) : Nat :=
  let sign := (v / 0x8000) % 2
  let e := (v / 1024) % 32
  let m := v % 1024
  let neg := sign * 0x80000000
  if e == 0 && m == 0 then neg
  else if e == 0 then
    -- m * 2^-24, m in 1..1023: highest set bit h (0..9): value = 2^(h-24) * (m / 2^h)
    let h := Nat.log2 m
    neg + (h + 103) * 0x800000 + (m * 2 ^ (23 - h)) % 0x800000
  else neg + (e + 112) * 0x800000 + m * 0x2000

/-- order key of a finite f32 pattern: `a < b` as floats ⇔ `key a < key b` (−0 = +0) -/
def f32Key (bits : Nat) : Int :=
  let mag : Int := Int.ofNat (bits % 0x80000000)
  if bits / 0x80000000 % 2 == 1 then -mag else mag

/-- finite f16 pattern as an integer multiple of 2^-24 -/
def f16Scaled (v : Nat) : Int :=
  let sign := (v / 0x8000) % 2
  let e := (v / 1024) % 32
  let m := v % 1024
  let mag : Int := if e == 0 then Int.ofNat m else Int.ofNat ((1024 + m) * 2 ^ (e - 1))
  if sign == 1 then -mag else mag

/-- finite f32 pattern (biased exponent ≠ 255) as an integer multiple of 2^-149, by the IEEE-754
definition of binary32: sign bit, biased exponent `e` (8 bits), fraction `m` (23 bits);
`e = 0` (zero / subnormal) is `m·2^-149`, otherwise `(1 + m·2^-23)·2^(e-127) =
(2^23 + m)·2^(e-1)·2^-149` -/
def f32Scaled (bits : Nat) : Int :=
  let sign := (bits / 0x80000000) % 2
  let e := (bits / 0x800000) % 256
  let m := bits % 0x800000
  let mag : Int := if e == 0 then Int.ofNat m else Int.ofNat ((0x800000 + m) * 2 ^ (e - 1))
  if sign == 1 then -mag else mag

/-- The fixed list of helper functions callable from expressions. -/
def builtin (f : String) (args : List Val) : Option Val :=
  match f, args with
  | "len", [.list vs] => some (.nat vs.length)
  | "is_empty", [.list vs] => some (.bool vs.isEmpty)
  | "is_some", [v] => some (.bool (v != .none))
  | "is_none", [v] => some (.bool (v == .none))
  | "unwrap_or", [v, d] => some (if v == .none then d else v)
  | "repeat", [v, .nat n] => some (.list (List.replicate n v))
  | "as_u32", [v] => (toInt? v).map fun i => .nat (i % (2 ^ 32 : Int)).toNat
  | "as_u64", [v] => (toInt? v).map fun i => .nat (i % (2 ^ 64 : Int)).toNat
  | "as_i32", [v] => (toInt? v).map fun i => .int (wrapInt 32 i)
  | "as_i64", [v] => (toInt? v).map fun i => .int (wrapInt 64 i)
  | "popcount", [.nat n] => some (.nat (popcount 64 n))
  | "trailing_zeros", [.nat n] => some (.nat (if n == 0 then 32 else trailingZeros 64 n))
  | "sum", [.list vs] => (natsOf vs).map fun ns => .nat ns.sum
  | "utf8_valid", [.list vs] => (natsOf vs).map fun ns => .bool (utf8Valid ns)
  | "div_ceil", [.nat a, .nat b] => if b == 0 then Option.none else some (.nat ((a + b - 1) / b))
  | "fkey", [.f16 b] => some (.int (f32Key (f16ToF32Bits b)))
  | "fkey", [.f32 b] => some (.int (f32Key b))
  | "f16_scaled", [.f16 b] => some (.int (f16Scaled b))
  | "contains", [.list vs, v] => some (.bool (vs.contains v))
  | _, _ => Option.none

/-- Integer literals in the Rust source take the type of the other operand; the untyped
translator emits them as `nat`, so a `nat` meeting an `int` is read as that `int`. -/
def coerceMixed : Val → Val → Val × Val
  | .nat a, .int b => (.int (Int.ofNat a), .int b)
  | .int a, .nat b => (.int a, .int (Int.ofNat b))
  | a, b => (a, b)

def binopCore (op : BinOp) (a b : Val) : Option Val :=
  match op, a, b with
  | .eq, a, b => some (.bool (a == b))
  | .ne, a, b => some (.bool (a != b))
  | .and, .bool a, .bool b => some (.bool (a && b))
  | .or, .bool a, .bool b => some (.bool (a || b))
  | .lt, .nat a, .nat b => some (.bool (a < b))
  | .le, .nat a, .nat b => some (.bool (a ≤ b))
  | .gt, .nat a, .nat b => some (.bool (a > b))
  | .ge, .nat a, .nat b => some (.bool (a ≥ b))
  | .lt, .int a, .int b => some (.bool (a < b))
  | .le, .int a, .int b => some (.bool (a ≤ b))
  | .gt, .int a, .int b => some (.bool (a > b))
  | .ge, .int a, .int b => some (.bool (a ≥ b))
  | .add, .nat a, .nat b => some (.nat (a + b))
  | .sub, .nat a, .nat b => if b ≤ a then some (.nat (a - b)) else Option.none
  | .mul, .nat a, .nat b => some (.nat (a * b))
  | .div, .nat a, .nat b => if b == 0 then Option.none else some (.nat (a / b))
  | .add, .int a, .int b => some (.int (a + b))
  | .sub, .int a, .int b => some (.int (a - b))
  | .mul, .int a, .int b => some (.int (a * b))
  | .div, .int a, .int b => if b == 0 then Option.none else some (.int (Int.tdiv a b))
  | .shl, .nat a, .nat b => some (.nat (a * 2 ^ b))
  | .shr, .nat a, .nat b => some (.nat (a / 2 ^ b))
  | .band, .nat a, .nat b => some (.nat (a &&& b))
  | .bor, .nat a, .nat b => some (.nat (a ||| b))
  | _, _, _ => Option.none

def binop (op : BinOp) (a b : Val) : Option Val :=
  let (x, y) := coerceMixed a b
  binopCore op x y

mutual
/-- Evaluate in scope `sc` (first binding wins). `none` = ill-typed / unbound (model stuck). -/
def eval (sc : Env) : Expr → Option Val
  | .nat n => some (.nat n)
  | .int i => some (.int i)
  | .bool b => some (.bool b)
  | .f32 b => some (.f32 b)
  | .none => some .none
  | .unit => some .unit
  | .var x => sc.get? x
  | .field e f =>
    match eval sc e with
    | some (.record fs) => Env.get? fs f
    | _ => Option.none
  | .idx e i =>
    match eval sc e with
    | some (.list vs) => vs[i]?
    | _ => Option.none
  | .not e =>
    match eval sc e with
    | some (.bool b) => some (.bool !b)
    | _ => Option.none
  | .bin .and a b =>
    match eval sc a with
    | some (.bool false) => some (.bool false)
    | some (.bool true) =>
      match eval sc b with
      | some (.bool y) => some (.bool y)
      | _ => Option.none
    | _ => Option.none
  | .bin .or a b =>
    match eval sc a with
    | some (.bool true) => some (.bool true)
    | some (.bool false) =>
      match eval sc b with
      | some (.bool y) => some (.bool y)
      | _ => Option.none
    | _ => Option.none
  | .bin op a b =>
    match eval sc a, eval sc b with
    | some x, some y => binop op x y
    | _, _ => Option.none
  | .ite c t e =>
    match eval sc c with
    | some (.bool true) => eval sc t
    | some (.bool false) => eval sc e
    | _ => Option.none
  | .letE x v body =>
    match eval sc v with
    | some w => eval ((x, w) :: sc) body
    | Option.none => Option.none
  | .call f args =>
    match evalList sc args with
    | some vs => builtin f vs
    | Option.none => Option.none
  | .app ps body args =>
    match evalList sc args with
    | some vs => eval (ps.zip vs) body
    | Option.none => Option.none
  | .list es => (evalList sc es).map .list
  | .record fs => (evalRec sc fs).map .record
def evalList (sc : Env) : List Expr → Option (List Val)
  | [] => some []
  | e :: es =>
    match eval sc e, evalList sc es with
    | some v, some vs => some (v :: vs)
    | _, _ => Option.none
def evalRec (sc : Env) : List (String × Expr) → Option Env
  | [] => some []
  | (k, e) :: es =>
    match eval sc e, evalRec sc es with
    | some v, some vs => some ((k, v) :: vs)
    | _, _ => Option.none
end

def evalBool (sc : Env) (e : Expr) : Option Bool :=
  match eval sc e with
  | some (.bool b) => some b
  | _ => Option.none

def evalNat (sc : Env) (e : Expr) : Option Nat :=
  match eval sc e with
  | some (.nat n) => some n
  | _ => Option.none

def evalEnv (sc : Env) (e : Expr) : Option Env :=
  match eval sc e with
  | some (.record fs) => some fs
  | _ => Option.none

/-! ## Field types -/

/-- one alternative of a `U32(d0, d1, d2, d3)`: a constant or `off + u(n)` (wrapping in 32 bits) -/
inductive Dist
  | const (c : Nat)
  | bits (off n : Nat)
deriving Repr, DecidableEq, Inhabited

mutual
inductive FieldTy
  /-- `ty(c)`: a constant, no bits -/
  | const (c : Nat)
  /-- `u(n)` -/
  | u (n : Nat)
  /-- `c + u(n)` (`wrapping_add`) -/
  | cu (c n : Nat)
  | u32 (d0 d1 d2 d3 : Dist)
  | u64
  /-- `F16`: the value is the 16-bit pattern; patterns with exponent 31 are `InvalidFloat` -/
  | f16
  | bool
  /-- a reader of a `u32` followed by `E::try_from` (`valid` discriminants, else `InvalidEnum`);
  `read_enum::<E>()` is `FieldTy.enum valid` below -/
  | enumOf (t : FieldTy) (valid : List Nat)
  /-- `…; UnpackSigned` over a reader of a `u32` -/
  | signed (t : FieldTy)
  /-- `U64; UnpackSigned` -/
  | signed64 (t : FieldTy)
  /-- `Bundle(T)`: nested description; `ctx` evaluates (in the enclosing scope) to the record of
  names the nested `cond`/`default` expressions may use -/
  | bundle (ctx : Expr) (fs : List Field)
  | vec (t : FieldTy) (len : Expr)
  | arr (t : FieldTy) (len : Nat)
  | zeroPad
  /-- zero-bit validation: `e` must evaluate to `true`, otherwise `Err.invalid kind` -/
  | assert (e : Expr) (kind : String)
  /-- `skip_bits(n)` (payload is not reported; the writer emits zeros) -/
  | skip (n : Expr)
  /-- a parser that is not modelled here (other components) -/
  | ext (name : String)
inductive Field
  | mk (name : String) (ty : FieldTy) (cond : Expr) (dflt : Option Expr)
end

abbrev Bundle := List Field

def Field.name : Field → String | .mk n _ _ _ => n
def Field.ty : Field → FieldTy | .mk _ t _ _ => t
def Field.cond : Field → Expr | .mk _ _ c _ => c
def Field.dflt : Field → Option Expr | .mk _ _ _ d => d

instance : Inhabited FieldTy := ⟨.bool⟩

def enumD0 : Dist := .const 0
def enumD1 : Dist := .const 1
def enumD2 : Dist := .bits 2 4
def enumD3 : Dist := .bits 18 6

/-- `read_enum::<E>()`: `U32(0, 1, 2 + u(4), 18 + u(6))`, then `E::try_from` -/
def FieldTy.enum (valid : List Nat) : FieldTy := .enumOf (.u32 enumD0 enumD1 enumD2 enumD3) valid
instance : Inhabited Field := ⟨.mk "" .bool (.bool true) Option.none⟩

/-! ## Primitive readers / writers -/

def W32 : Nat := 2 ^ 32

/-- the first `n` bits and the rest (`none` if fewer are left); linear in `n` -/
def takeBits : Nat → Bits → Option (Bits × Bits)
  | 0, s => some ([], s)
  | _+1, [] => Option.none
  | n+1, b :: s =>
    match takeBits n s with
    | some (t, r) => some (b :: t, r)
    | Option.none => Option.none

/-- `read_bits(n)`: the same function as `Jxl.readBits` (see `rd_eq_readBits` in
`Proofs/Bundle.lean`), without measuring the whole stream; end of stream = `Err.eof` -/
def rd (n : Nat) (s : Bits) : Except Err (Nat × Bits) :=
  match takeBits n s with
  | some (t, r) => .ok (ofBits t, r)
  | Option.none => .error .eof

def Dist.read (d : Dist) (s : Bits) : Except Err (Nat × Bits) :=
  match d with
  | .const c => .ok (c, s)
  | .bits off n =>
    match rd n s with
    | .ok (v, r) => .ok ((v + off) % W32, r)
    | .error e => .error e

def Dist.canWrite (d : Dist) (v : Nat) : Bool :=
  match d with
  | .const c => v == c
  | .bits off n => off ≤ v && v - off < 2 ^ n && v < W32

def Dist.write (d : Dist) (v : Nat) : Bits :=
  match d with
  | .const _ => []
  | .bits off n => toBits n (v - off)

def selDist (d0 d1 d2 d3 : Dist) : Nat → Dist
  | 0 => d0 | 1 => d1 | 2 => d2 | _ => d3

/-- `read_u32(d0, d1, d2, d3)` -/
def readU32 (d0 d1 d2 d3 : Dist) (s : Bits) : Except Err (Nat × Bits) :=
  match rd 2 s with
  | .ok (k, r) => (selDist d0 d1 d2 d3 k).read r
  | .error e => .error e

def writeU32With (d0 d1 d2 d3 : Dist) (k v : Nat) : Bits :=
  toBits 2 k ++ (selDist d0 d1 d2 d3 k).write v

/-- first selector in the rotation `c, c+1, c+2, c+3 (mod 4)` that can represent `v` -/
def pickSel (d0 d1 d2 d3 : Dist) (c v : Nat) : Option Nat :=
  [c % 4, (c + 1) % 4, (c + 2) % 4, (c + 3) % 4].find? fun k => (selDist d0 d1 d2 d3 k).canWrite v

def writeU32 (d0 d1 d2 d3 : Dist) (c v : Nat) : Option Bits :=
  (pickSel d0 d1 d2 d3 c v).map fun k => writeU32With d0 d1 d2 d3 k v

/-- the `selector == 3` loop of `read_u64`: `shift` = 12, 20, …, 60 (fuel 7 always suffices) -/
def readU64Loop : Nat → Nat → Nat → Bits → Except Err (Nat × Bits)
  | 0, _, value, s => .ok (value, s)
  | fuel+1, shift, value, s =>
    match rd 1 s with
    | .error e => .error e
    | .ok (0, r) => .ok (value, r)
    | .ok (_, r) =>
      if shift == 60 then
        match rd 4 r with
        | .ok (x, r') => .ok (value + x * 2 ^ 60, r')
        | .error e => .error e
      else
        match rd 8 r with
        | .ok (x, r') => readU64Loop fuel (shift + 8) (value + x * 2 ^ shift) r'
        | .error e => .error e

/-- `read_u64` -/
def readU64 (s : Bits) : Except Err (Nat × Bits) :=
  match rd 2 s with
  | .error e => .error e
  | .ok (0, r) => .ok (0, r)
  | .ok (1, r) =>
    match rd 4 r with
    | .ok (v, r') => .ok (v + 1, r')
    | .error e => .error e
  | .ok (2, r) =>
    match rd 8 r with
    | .ok (v, r') => .ok (v + 17, r')
    | .error e => .error e
  | .ok (_, r) =>
    match rd 12 r with
    | .ok (v, r') => readU64Loop 7 12 v r'
    | .error e => .error e

/-- continuation groups of the selector-3 form: `g` groups of 8 bits starting at `shift`, then
the terminating 0 bit; the longest form (`long`) has 6 groups, a 1 bit and the 4-bit tail. -/
def writeU64Groups : Nat → Nat → Nat → Bits
  | 0, _, _ => [false]
  | g+1, shift, v => true :: (toBits 8 (v / 2 ^ shift % 256) ++ writeU64Groups g (shift + 8) v)

/-- `g` groups of 8 bits, then the 1 bit and the 4-bit tail -/
def writeU64LongGo (v : Nat) : Nat → Nat → Bits
  | 0, shift => true :: toBits 4 (v / 2 ^ shift % 16)
  | g+1, shift => true :: (toBits 8 (v / 2 ^ shift % 256) ++ writeU64LongGo v g (shift + 8))

def writeU64Long (v : Nat) : Bits := writeU64LongGo v 6 12

/-- The forms of `U64`: 0 → selector 0; 1 → selector 1; 2 → selector 2; `3+g` (g = 0..6) →
selector 3 with `g` continuation groups; 10 → the longest form (6 groups + 4-bit tail). -/
def u64CanWrite (form v : Nat) : Bool :=
  if form = 0 then v == 0
  else if form = 1 then 1 ≤ v && v ≤ 16
  else if form = 2 then 17 ≤ v && v ≤ 272
  else if form = 10 then v < 2 ^ 64
  else 3 ≤ form && form ≤ 9 && v < 2 ^ (12 + 8 * (form - 3))

def writeU64With (form v : Nat) : Bits :=
  if form = 0 then toBits 2 0
  else if form = 1 then toBits 2 1 ++ toBits 4 (v - 1)
  else if form = 2 then toBits 2 2 ++ toBits 8 (v - 17)
  else if form = 10 then toBits 2 3 ++ toBits 12 (v % 4096) ++ writeU64Long v
  else toBits 2 3 ++ toBits 12 (v % 4096) ++ writeU64Groups (form - 3) 12 v

def u64Forms : List Nat := [0, 1, 2, 3, 4, 5, 6, 7, 8, 9, 10]

/-- first form in the rotation starting at `c % 11` that can represent `v` -/
def pickU64 (c v : Nat) : Option Nat :=
  (u64Forms.map fun i => (c + i) % 11).find? fun f => u64CanWrite f v

def writeU64 (c v : Nat) : Option Bits := (pickU64 c v).map fun f => writeU64With f v

/-- `unpack_signed` (and `unpack_signed_u64`) -/
def unpackSigned (x : Nat) : Int :=
  if x % 2 == 0 then Int.ofNat (x / 2) else -(Int.ofNat (x / 2)) - 1

def packSigned (i : Int) : Nat :=
  if i ≥ 0 then 2 * i.toNat else 2 * (-i - 1).toNat + 1

def f16Valid (bits : Nat) : Bool := bits < 65536 && (bits / 1024) % 32 != 31

/-- run a parser `n` times -/
def parseN (p : Bits → Except Err (Val × Bits)) : Nat → Bits → Except Err (List Val × Bits)
  | 0, s => .ok ([], s)
  | n+1, s =>
    match p s with
    | .error e => .error e
    | .ok (v, r) =>
      match parseN p n r with
      | .error e => .error e
      | .ok (vs, r') => .ok (v :: vs, r')

/-- write the values one after the other; `w pos v` writes `v` starting at bit position `pos` -/
def writeN (w : Nat → Val → Option Bits) : Nat → List Val → Option Bits
  | _, [] => some []
  | pos, v :: vs =>
    match w pos v with
    | Option.none => Option.none
    | some b =>
      match writeN w (pos + b.length) vs with
      | Option.none => Option.none
      | some bs => some (b ++ bs)

/-! ## Defaults (`BundleDefault::default_with_context`) -/

mutual
/-- the value a field of type `t` takes when its condition is false and no `default(..)` is
given: `Default::default()` of the Rust field type, or the nested bundle's own defaults -/
def defaultTy (sc : Env) : FieldTy → Option Val
  | .const _ | .u _ | .cu _ _ | .u32 _ _ _ _ | .u64 => some (.nat 0)
  | .f16 => some (.f32 0)
  | .bool => some (.bool false)
  | .enumOf _ _ => some (.nat 0)
  | .signed _ | .signed64 _ => some (.int 0)
  | .bundle ctx fs =>
    match evalEnv sc ctx with
    | some c => (defaultFields c fs []).map .record
    | Option.none => Option.none
  | .vec _ _ => some (.list [])
  | .arr t n => (defaultTy sc t).map fun v => .list (List.replicate n v)
  | .zeroPad | .assert _ _ | .skip _ => some .unit
  | .ext _ => some .none
def defaultFields (ctx : Env) : List Field → Env → Option Env
  | [], acc => some acc
  | .mk name ty _ dflt :: fs, acc =>
    let v := match dflt with
      | some e => eval (acc ++ ctx) e
      | Option.none => defaultTy (acc ++ ctx) ty
    match v with
    | some v => defaultFields ctx fs (acc ++ [(name, v)])
    | Option.none => Option.none
end

def defaultOf (sc : Env) (ty : FieldTy) (dflt : Option Expr) : Option Val :=
  match dflt with
  | some e => eval sc e
  | Option.none => defaultTy sc ty

/-! ## The generic parser -/

mutual
/-- `read_bits!` for one field type. `total` = absolute bit position of the end of `s`
(position of the next bit = `total - s.length`; only `ZeroPadToByte` looks at it);
`sc` = scope for lengths / nested contexts. -/
def parseTy (total : Nat) (sc : Env) : FieldTy → Bits → Except Err (Val × Bits)
  | .const c, s => .ok (.nat c, s)
  | .u n, s =>
    match rd n s with
    | .ok (v, r) => .ok (.nat v, r)
    | .error e => .error e
  | .cu c n, s =>
    match rd n s with
    | .ok (v, r) => .ok (.nat ((v + c) % W32), r)
    | .error e => .error e
  | .u32 d0 d1 d2 d3, s =>
    match readU32 d0 d1 d2 d3 s with
    | .ok (v, r) => .ok (.nat v, r)
    | .error e => .error e
  | .u64, s =>
    match readU64 s with
    | .ok (v, r) => .ok (.nat v, r)
    | .error e => .error e
  | .f16, s =>
    match rd 16 s with
    | .ok (v, r) => if f16Valid v then .ok (.f16 v, r) else .error (.invalid "float")
    | .error e => .error e
  | .bool, s =>
    match rd 1 s with
    | .ok (v, r) => .ok (.bool (v != 0), r)
    | .error e => .error e
  | .enumOf t valid, s =>
    match parseTy total sc t s with
    | .ok (.nat v, r) => if valid.contains v then .ok (.nat v, r) else .error (.invalid "enum")
    | .ok _ => .error (.stuck "enum")
    | .error e => .error e
  | .signed t, s =>
    match parseTy total sc t s with
    | .ok (.nat v, r) => .ok (.int (unpackSigned v), r)
    | .ok _ => .error (.stuck "signed")
    | .error e => .error e
  | .signed64 t, s =>
    match parseTy total sc t s with
    | .ok (.nat v, r) => .ok (.int (unpackSigned v), r)
    | .ok _ => .error (.stuck "signed64")
    | .error e => .error e
  | .bundle ctx fs, s =>
    match evalEnv sc ctx with
    | some c =>
      match parseFields total c fs [] s with
      | .ok (e, r) => .ok (.record e, r)
      | .error e => .error e
    | Option.none => .error (.stuck "ctx")
  | .vec t len, s =>
    match evalNat sc len with
    | some n =>
      match parseN (parseTy total sc t) n s with
      | .ok (vs, r) => .ok (.list vs, r)
      | .error e => .error e
    | Option.none => .error (.stuck "len")
  | .arr t n, s =>
    match parseN (parseTy total sc t) n s with
    | .ok (vs, r) => .ok (.list vs, r)
    | .error e => .error e
  | .zeroPad, s =>
    match rd (padLen (total - s.length)) s with
    | .ok (v, r) => if v == 0 then .ok (.unit, r) else .error (.invalid "padding")
    | .error e => .error e
  | .assert e kind, s =>
    match evalBool sc e with
    | some true => .ok (.unit, s)
    | some false => .error (.invalid kind)
    | Option.none => .error (.stuck "assert")
  | .skip n, s =>
    match evalNat sc n with
    | some n => if n ≤ s.length then .ok (.unit, s.drop n) else .error .eof
    | Option.none => .error (.stuck "skip")
  | .ext name, _ => .error (.stuck name)
/-- `make_parse!`: fields in order; `ctx` = the bundle's context, `acc` = fields so far -/
def parseFields (total : Nat) (ctx : Env) : List Field → Env → Bits → Except Err (Env × Bits)
  | [], acc, s => .ok (acc, s)
  | .mk name ty cond dflt :: fs, acc, s =>
    match evalBool (acc ++ ctx) cond with
    | some true =>
      match parseTy total (acc ++ ctx) ty s with
      | .ok (v, r) => parseFields total ctx fs (acc ++ [(name, v)]) r
      | .error e => .error e
    | some false =>
      match defaultOf (acc ++ ctx) ty dflt with
      | some v => parseFields total ctx fs (acc ++ [(name, v)]) s
      | Option.none => .error (.stuck name)
    | Option.none => .error (.stuck name)
end

/-- parse a bundle that starts at absolute bit position `pos` -/
def parseAt (b : Bundle) (ctx : Env) (pos : Nat) (s : Bits) : Except Err (Env × Bits) :=
  parseFields (pos + s.length) ctx b [] s

/-- parse a bundle at the start of a stream -/
def parse (b : Bundle) (ctx : Env) (s : Bits) : Except Err (Env × Bits) := parseAt b ctx 0 s

/-! ## The generic writer -/

mutual
/-- write `v` as a `t` starting at absolute bit position `pos`; `ch pos` steers the selector of
a `U32` / the form of a `U64` that starts at `pos`. `none` = `v` is not a value of `t`. -/
def writeTy (ch : Nat → Nat) (sc : Env) : FieldTy → Nat → Val → Option Bits
  | .const c, _, .nat v => if v == c then some [] else Option.none
  | .u n, _, .nat v => if v < 2 ^ n then some (toBits n v) else Option.none
  | .cu c n, _, .nat v =>
    if c ≤ v && v - c < 2 ^ n && v < W32 then some (toBits n (v - c)) else Option.none
  | .u32 d0 d1 d2 d3, pos, .nat v => writeU32 d0 d1 d2 d3 (ch pos) v
  | .u64, pos, .nat v => writeU64 (ch pos) v
  | .f16, _, .f16 v => if f16Valid v then some (toBits 16 v) else Option.none
  | .bool, _, .bool b => some [b]
  | .enumOf t valid, pos, .nat v =>
    if valid.contains v then writeTy ch sc t pos (.nat v) else Option.none
  | .signed t, pos, .int i =>
    if unpackSigned (packSigned i) = i then writeTy ch sc t pos (.nat (packSigned i)) else Option.none
  | .signed64 t, pos, .int i =>
    if unpackSigned (packSigned i) = i then writeTy ch sc t pos (.nat (packSigned i)) else Option.none
  | .bundle ctx fs, pos, .record e =>
    match evalEnv sc ctx with
    | some c => writeFields ch c fs [] pos e
    | Option.none => Option.none
  | .vec t len, pos, .list vs =>
    match evalNat sc len with
    | some n => if vs.length = n then writeN (writeTy ch sc t) pos vs else Option.none
    | Option.none => Option.none
  | .arr t n, pos, .list vs =>
    if vs.length = n then writeN (writeTy ch sc t) pos vs else Option.none
  | .zeroPad, pos, .unit => some (List.replicate (padLen pos) false)
  | .assert e _, _, .unit =>
    match evalBool sc e with
    | some true => some []
    | _ => Option.none
  | .skip n, _, .unit =>
    match evalNat sc n with
    | some n => some (List.replicate n false)
    | Option.none => Option.none
  | _, _, _ => Option.none
/-- write the fields whose condition holds, in order; `vals` must list exactly the fields of the
description in order (the values of fields whose condition is false are not looked at —
`canonicalFields` says what they must be for the round trip) -/
def writeFields (ch : Nat → Nat) (ctx : Env) : List Field → Env → Nat → Env → Option Bits
  | [], _, _, [] => some []
  | .mk name ty cond _ :: fs, acc, pos, (n, v) :: vals =>
    if n = name then
      match evalBool (acc ++ ctx) cond with
      | some true =>
        match writeTy ch (acc ++ ctx) ty pos v with
        | some b =>
          match writeFields ch ctx fs (acc ++ [(name, v)]) (pos + b.length) vals with
          | some bs => some (b ++ bs)
          | Option.none => Option.none
        | Option.none => Option.none
      | some false => writeFields ch ctx fs (acc ++ [(name, v)]) pos vals
      | Option.none => Option.none
    else Option.none
  | _, _, _, _ => Option.none
end

def writeAt (b : Bundle) (ch : Nat → Nat) (ctx : Env) (pos : Nat) (e : Env) : Option Bits :=
  writeFields ch ctx b [] pos e

def write (b : Bundle) (ch : Nat → Nat) (ctx : Env) (e : Env) : Option Bits := writeAt b ch ctx 0 e

/-! ## Canonical values -/

def allCanon (p : Val → Bool) : List Val → Bool
  | [] => true
  | v :: vs => p v && allCanon p vs

mutual
/-- nested records are canonical -/
def canonicalTy (sc : Env) : FieldTy → Val → Bool
  | .bundle ctx fs, .record e =>
    match evalEnv sc ctx with
    | some c => canonicalFields c fs [] e
    | Option.none => false
  | .vec t _, .list vs => allCanon (canonicalTy sc t) vs
  | .arr t _, .list vs => allCanon (canonicalTy sc t) vs
  | .signed t, v => canonicalTy sc t v
  | .signed64 t, v => canonicalTy sc t v
  | .enumOf t _, v => canonicalTy sc t v
  | _, _ => true
/-- `Canonical`: the value lists exactly the fields of the description, and every field whose
condition is false holds its default -/
def canonicalFields (ctx : Env) : List Field → Env → Env → Bool
  | [], _, [] => true
  | .mk name ty cond dflt :: fs, acc, (n, v) :: vals =>
    n == name &&
    (match evalBool (acc ++ ctx) cond with
     | some true => canonicalTy (acc ++ ctx) ty v
     | some false => defaultOf (acc ++ ctx) ty dflt == some v
     | Option.none => false) &&
    canonicalFields ctx fs (acc ++ [(name, v)]) vals
  | _, _, _ => false
end

def Canonical (b : Bundle) (ctx : Env) (e : Env) : Prop := canonicalFields ctx b [] e = true

instance (b : Bundle) (ctx e : Env) : Decidable (Canonical b ctx e) := by
  unfold Canonical; exact inferInstance

/-! ## Canonicalisation of raw values (used by generators and by the header builder)

`canonFields` turns any "raw" record into a canonical one: fields whose condition is false get
their default, missing fields get their type default, vectors are resized to the length the
description demands by cycling through the supplied elements. -/

def cycleTo (pool : List Val) (dflt : Val) (n : Nat) : List Val :=
  if pool.isEmpty then List.replicate n dflt
  else (List.range n).map fun i => pool.getD (i % pool.length) dflt

def mapOpt (f : Val → Option Val) : List Val → Option (List Val)
  | [] => some []
  | v :: vs =>
    match f v, mapOpt f vs with
    | some w, some ws => some (w :: ws)
    | _, _ => Option.none

mutual
def canonTy (sc : Env) : FieldTy → Val → Option Val
  | .bundle ctx fs, v =>
    match evalEnv sc ctx with
    | some c =>
      let raw := match v with | .record e => e | _ => []
      (canonFields c fs [] raw).map .record
    | Option.none => Option.none
  | .vec t len, v =>
    match evalNat sc len, defaultTy sc t with
    | some n, some d =>
      let pool := match v with | .list vs => vs | _ => []
      (mapOpt (canonTy sc t) (cycleTo pool d n)).map .list
    | _, _ => Option.none
  | .arr t n, v =>
    match defaultTy sc t with
    | some d =>
      let pool := match v with | .list vs => vs | _ => []
      (mapOpt (canonTy sc t) (cycleTo pool d n)).map .list
    | Option.none => Option.none
  | .zeroPad, _ | .assert _ _, _ | .skip _, _ => some .unit
  | _, v => some v
def canonFields (ctx : Env) : List Field → Env → Env → Option Env
  | [], acc, _ => some acc
  | .mk name ty cond dflt :: fs, acc, raw =>
    match evalBool (acc ++ ctx) cond with
    | some true =>
      let v0 := match Env.get? raw name with
        | some v => some v
        | Option.none => defaultTy (acc ++ ctx) ty
      match v0 with
      | some v0 =>
        match canonTy (acc ++ ctx) ty v0 with
        | some v => canonFields ctx fs (acc ++ [(name, v)]) raw
        | Option.none => Option.none
      | Option.none => Option.none
    | some false =>
      match defaultOf (acc ++ ctx) ty dflt with
      | some v => canonFields ctx fs (acc ++ [(name, v)]) raw
      | Option.none => Option.none
    | Option.none => Option.none
end

def canon (b : Bundle) (ctx : Env) (raw : Env) : Option Env := canonFields ctx b [] raw

/-! ## Text form of values (line protocol)

`N` nat, `-N`/`+N` int, `T`/`F` bool, `hXXXX` f16 pattern (hex), `fXXXXXXXX` f32 pattern (hex),
`_` unit, `~` none, `[ v v … ]` list, `{ name v name v … }` record. Tokens are separated by
single spaces. -/

def hexNat (digits : Nat) (n : Nat) : String :=
  String.ofList ((List.range digits).reverse.map fun i => hexDigit (n / 16 ^ i % 16))

mutual
def Val.toText : Val → String
  | .nat n => toString n
  | .int i => if i < 0 then toString i else "+" ++ toString i
  | .bool b => if b then "T" else "F"
  | .f16 b => "h" ++ hexNat 4 b
  | .f32 b => "f" ++ hexNat 8 b
  | .unit => "_"
  | .none => "~"
  | .list vs => "[" ++ Val.listText vs ++ " ]"
  | .record fs => "{" ++ Val.recText fs ++ " }"
def Val.listText : List Val → String
  | [] => ""
  | v :: vs => " " ++ Val.toText v ++ Val.listText vs
def Val.recText : List (String × Val) → String
  | [] => ""
  | (k, v) :: r => " " ++ k ++ " " ++ Val.toText v ++ Val.recText r
end

def hexToNat? (s : String) : Option Nat :=
  s.toList.foldl (fun acc c => match acc, hexVal c with
    | some a, some d => some (a * 16 + d)
    | _, _ => Option.none) (some 0)

/-- parser of the text form; `fuel` bounds the token count -/
def Val.parseTokens : Nat → List String → Option (Val × List String)
  | 0, _ => Option.none
  | _, [] => Option.none
  | fuel+1, t :: ts =>
    if t == "T" then some (.bool true, ts)
    else if t == "F" then some (.bool false, ts)
    else if t == "_" then some (.unit, ts)
    else if t == "~" then some (.none, ts)
    else if t == "[" then
      let rec items : Nat → List String → List Val → Option (Val × List String)
        | 0, _, _ => Option.none
        | _, [], _ => Option.none
        | f+1, u :: us, acc =>
          if u == "]" then some (.list acc.reverse, us)
          else match Val.parseTokens fuel (u :: us) with
            | some (v, rest) => items f rest (v :: acc)
            | Option.none => Option.none
      items fuel ts []
    else if t == "{" then
      let rec flds : Nat → List String → List (String × Val) → Option (Val × List String)
        | 0, _, _ => Option.none
        | _, [], _ => Option.none
        | f+1, u :: us, acc =>
          if u == "}" then some (.record acc.reverse, us)
          else match Val.parseTokens fuel us with
            | some (v, rest) => flds f rest ((u, v) :: acc)
            | Option.none => Option.none
      flds fuel ts []
    else match t.toList with
      | 'h' :: r => (hexToNat? (String.ofList r)).map fun n => (.f16 n, ts)
      | 'f' :: r => (hexToNat? (String.ofList r)).map fun n => (.f32 n, ts)
      | '-' :: _ => t.toInt?.map fun i => (.int i, ts)
      | '+' :: r => (String.ofList r).toNat?.map fun n => (.int (Int.ofNat n), ts)
      | _ => t.toNat?.map fun n => (.nat n, ts)

def Val.ofText (ws : List String) : Option Val :=
  match Val.parseTokens (ws.length + 1) ws with
  | some (v, []) => some v
  | _ => Option.none

end Jxl.Bundle
