/-!
# The frame render-handle protocol (C08, C20)

Model of `jxl-render/src/state.rs` (`FrameRenderHandle`: `start_render`, `start_render_silent`,
`wait_until_render`, `done_render`, `run_with_image`, `run`, `reset`), `jxl-render/src/image.rs`
(`RenderedImage::blend`, `try_take_blended`), the reference walks of `jxl-render/src/blend.rs`
(`blend`) and `jxl-render/src/render.rs` (`render_frame`: LF fallback and patches), and of the
`RenderContext` entry points in `jxl-render/src/lib.rs` (`render_keyframe`,
`render_loading_keyframe`, `request_image_region` → `reset_cache`, `do_render`'s spawned
reference renders).

## Granularity

Every handle is a `Mutex<FrameRender>` plus a `Condvar`. In the code each critical section is
short and never nests another lock, so one *atomic step* of the model is: acquire one handle's
lock, do what the code does while holding it, release (or, for `Condvar::wait`, atomically release
and sleep). Lock-free work between two critical sections (the decode itself, compositing
arithmetic, tracked allocations) only touches thread-local data; it is merged into the adjacent
step, except that its possible *failure* is kept as an explicit `mayFail` item so that an
adversarial oracle can fail the operation between any two critical sections.

A thread is a stack of *activations* (`Act`), innermost first. An activation is the Rust stack
frame of something that has to finish with a handler: `run_with_image`/`run` between
`start_render*` and `done_render` (`Handler.op`), `RenderedImage::blend` between "mark
`Rendering`" and `done_render(Blended)` (`Handler.comp`), the direct render of the frame that is
still loading (`Handler.loadOp`, `Handler.loadComp`, no handle involved), or the caller itself
(`Handler.top`). `body` is what is left to do inside it. The `?` operator is `Thread.fail`:
drop the rest of the innermost body and hand the error to its handler.

Two semantics use the same step function `stepThread`:
* sequential (`runThread`, `runOp`, `runHist`): one caller, spawned reference renders run in place
  (`JxlThreadPool::none`), failures injected by an arbitrary oracle — C08;
* interleaving (`Sys`, `sysStep`, `sysWake`, `Reachable`): any number of threads, each either a
  `render_keyframe` caller or a background `run` spawned by `do_render` — C20.

## What is abstracted

* Pixel values are `Val := Nat`; the decode of frame `i` is `Codec.dec i ws` (a deterministic
  function of the frame and of the values `ws` it read from references inside `render_op`),
  `composite_preprocess` is `Codec.pre`, `composite` is `Codec.comp i v ws`.
* A frame refers only to earlier frames: `preserve_current_frame` captures
  `self.reference`/`self.lf_frame`, which hold indices of frames already pushed
  (`Config.wf`, the model invariant all theorems assume).
* `FrameRenderHandle::reset` (blend.rs frees the reference whose slot is overwritten): the ghost
  flag `StepOut.clob` / `Sys.clobbered` records that a `reset` overwrote a `Rendering` handle —
  possible only in the `old` variant.
* `try_take_blended`: in the code `Arc::into_inner` is called on a clone while the original `Arc`
  is still alive, so it never succeeds; the model lets an oracle decide (`Choice.taken`), which
  covers both the present behaviour (`taken = false`) and a repaired optimisation.
-/
namespace Jxl.RenderState

abbrev Val := Nat

/-- `jxl_render::Error`, as far as the protocol distinguishes it. -/
inductive ErrK where
  | oom | incomplete | failedRef | other
  deriving DecidableEq, Repr, Inhabited

/-- `state.rs` `FrameRender<S>`. -/
inductive HState where
  | none
  | rendering
  | inProgress (c : Nat)
  | done (v : Val)
  | blended (v : Val)
  | err (e : ErrK)
  | errTaken
  deriving DecidableEq, Repr, Inhabited

/-- What the caller of `RenderedImage::blend` does with the returned image. -/
inductive Cont where
  | discard | collect | ret
  deriving DecidableEq, Repr, Inhabited

/-- Static description of one frame, as the protocol sees it. -/
structure Frame where
  /-- `do_render`: `pool.spawn(run)` for the LF frame and every reference slot -/
  spawn : List Nat := []
  /-- `render.rs`: `run_with_image()?.blend()?` inside `render_op` (LF fallback, patches) -/
  opRefs : List Nat := []
  /-- `blend.rs` `blend`: used reference slots, rendered first, sorted by index -/
  pre : List Nat := []
  /-- `blend.rs` `blend`: per channel the reference and `can_overwrite` (→ `try_take_blended`) -/
  chans : List (Option Nat × Bool) := []
  /-- `blend.rs` `blend`: `grid.image.reset()` of the overwritten non-keyframe slot -/
  reset : Option Nat := none
  /-- `composite_preprocess` returns `Ok(true)` (not a normal frame, or resets the canvas) -/
  skip : Bool := false
  /-- `frame.is_loading_done()`; otherwise `do_render` answers `InProgress` -/
  complete : Bool := true
  /-- `FrameType::ReferenceOnly`: `reset_cache` keeps the handle -/
  refOnly : Bool := false
  deriving DecidableEq, Repr, Inhabited

structure Config where
  frames : List Frame
  /-- `RenderContext::keyframes` -/
  keyframes : List Nat := []
  /-- `!pool.is_multithreaded()`: `pool.spawn` runs the closure in place -/
  inline : Bool := true
  /-- `RenderContext::loading_frame` (not yet in `frames`) -/
  loading : Option Frame := none
  /-- `RenderContext::keyframe_in_progress` -/
  inProgressKf : Option Nat := none
  deriving Repr, Inhabited

/-- The deterministic pixel functions. -/
structure Codec where
  dec : Nat → List Val → Val
  pre : Nat → Val → Val
  comp : Nat → Val → List Val → Val

/-- Which version of the code. `old`: `RenderedImage::blend` leaves through `composite(..)?`
(finding F2) and `FrameRenderHandle::reset` stores `None` unconditionally. `fixed`: `blend` stores
`ErrTaken` through `done_render` before returning the error, and `reset` leaves a handle alone
while it is `Rendering`. -/
inductive Variant where
  | old | fixed
  deriving DecidableEq, Repr

inductive Item where
  /-- `run_with_image`: about to `start_render` -/
  | rwi (i : Nat)
  /-- `run_with_image`: in `wait_until_render` (taken when the handle was busy) -/
  | waitRwi (i : Nat)
  /-- `RenderedImage::blend`: `wait_until_render` + everything done under that lock -/
  | blend (i : Nat) (k : Cont)
  /-- `run`: about to `start_render_silent` -/
  | bg (i : Nat)
  /-- a fallible lock-free computation (tracked allocation, colour conversion, …) -/
  | mayFail
  | tryTake (i : Nat)
  | reset (i : Nat)
  /-- `render_loading_keyframe`: start of `render_loading_frame` -/
  | loadFrame
  deriving DecidableEq, Repr, Inhabited

inductive Handler where
  | top
  | op (i : Nat) (silent : Bool) (cache : Option Nat)
  | comp (i : Nat) (v : Val) (k : Cont)
  | loadOp
  | loadComp (v : Val)
  deriving DecidableEq, Repr, Inhabited

structure Act where
  h : Handler
  /-- reference images read so far inside this activation -/
  ws : List Val := []
  body : List Item
  deriving DecidableEq, Repr, Inhabited

inductive Res where
  | ok (v : Val)
  | err (e : ErrK)
  deriving DecidableEq, Repr, Inhabited

structure Thread where
  /-- innermost activation first; `[]` = returned -/
  acts : List Act
  /-- error on its way to the innermost handler -/
  err : Option ErrK := none
  /-- sleeping in `Condvar::wait` of this handle -/
  asleep : Option Nat := none
  result : Option Res := none
  deriving DecidableEq, Repr, Inhabited

/-- One adversarial decision per step. -/
structure Choice where
  /-- the fallible computation of this step fails with this error -/
  fail : Option ErrK := none
  /-- `try_take_blended` finds the `Arc` unique -/
  taken : Bool := false
  /-- cache content when `do_render` answers `InProgress` -/
  progress : Nat := 0
  deriving DecidableEq, Repr, Inhabited

/-- Scheduling-point codes of hook H4 (for the correspondence run only). -/
inductive EvK where
  | sr | ss | wl | wb | dl | dn | rs | tt | oe | oxd | oxi | oxe | pe | pxo | pxs | pxe | ce | cxo | cxe
  deriving DecidableEq, Repr, Inhabited

structure StepOut where
  hs : List HState
  th : Thread
  /-- `notify_all` on this handle's condition variable -/
  notify : Option Nat := none
  /-- ghost: a `reset` overwrote a handle that was `Rendering` -/
  clob : Bool := false
  ev : List (EvK × Nat) := []
  deriving Repr, Inhabited

def getH (hs : List HState) (i : Nat) : HState := hs.getD i .none

def frameOf (cfg : Config) (i : Nat) : Frame := cfg.frames.getD i {}

/-! ## Program text: what an activation has to do -/

def refCall (k : Cont) (r : Nat) : List Item := [.rwi r, .blend r k]

/-- `do_render` + `render::render_frame` up to the decode proper. -/
def opBody (inline : Bool) (f : Frame) : List Item :=
  (if inline then f.spawn.map Item.bg else []) ++ f.opRefs.flatMap (refCall .collect)

def chanItems : Option Nat × Bool → List Item
  | (some r, take) =>
    refCall .collect r ++ [.mayFail] ++ (if take then [.tryTake r] else []) ++ [.mayFail]
  | (none, _) => [.mayFail]

def resetItems : Option Nat → List Item
  | some r => [.reset r]
  | none => []

/-- `image::composite` → `blend::blend`. -/
def compBody (f : Frame) : List Item :=
  f.pre.flatMap (refCall .discard) ++ f.chans.flatMap chanItems ++ resetItems f.reset

/-- `render_loading_keyframe`: what follows `Err(IncompleteFrame)` of `render_loading_frame`. -/
def fallbackBody (cfg : Config) : Option (List Item) :=
  match cfg.inProgressKf with
  | some idx => some [.rwi idx, .blend idx .ret, .mayFail]
  | none => none

/-! ## Thread-local plumbing -/

/-- the `?` operator: abandon the innermost body, hand `e` to its handler -/
def Thread.fail (th : Thread) (e : ErrK) : Thread :=
  match th.acts with
  | [] => th
  | a :: as => { th with acts := { a with body := [] } :: as, err := some e }

def Thread.setBody (th : Thread) (b : List Item) : Thread :=
  match th.acts with
  | [] => th
  | a :: as => { th with acts := { a with body := b } :: as }

def Thread.push (th : Thread) (rest : List Item) (a : Act) : Thread :=
  match th.acts with
  | [] => th
  | p :: as => { th with acts := a :: { p with body := rest } :: as }

/-- give the image returned by `blend` to the innermost activation -/
def Thread.deliver (th : Thread) (k : Cont) (v : Val) : Thread :=
  match k with
  | .discard => th
  | .ret => { th with result := some (.ok v) }
  | .collect =>
    match th.acts with
    | [] => th
    | a :: as => { th with acts := { a with ws := a.ws ++ [v] } :: as }

/-- leave the innermost activation -/
def Thread.pop (th : Thread) : Thread :=
  { th with acts := th.acts.tail, err := none }

/-! ## One atomic step -/

/-- `wait_until_render` on a state that is neither `Rendering` nor `Done`/`Blended`:
the state is replaced by `None` and the call fails. -/
def waitErr : HState → Option ErrK
  | .none => some .incomplete
  | .inProgress _ => some .incomplete
  | .err e => some e
  | .errTaken => some .failedRef
  | _ => none

def stepItem (cfg : Config) (cd : Codec) (var : Variant) (ch : Choice) (hs : List HState)
    (th : Thread) (it : Item) (rest : List Item) : StepOut :=
  match it with
  | .rwi i =>
    -- `start_render`
    match getH hs i with
    | .none =>
      { hs := hs.set i .rendering, ev := [(.sr, i), (.oe, i)],
        th := th.push rest { h := .op i false none, body := opBody cfg.inline (frameOf cfg i) } }
    | .inProgress c =>
      { hs := hs.set i .rendering, ev := [(.sr, i), (.oe, i)],
        th := th.push rest { h := .op i false (some c), body := opBody cfg.inline (frameOf cfg i) } }
    | .err e => { hs := hs.set i .errTaken, th := th.fail e, ev := [(.sr, i)] }
    | .errTaken => { hs := hs, th := th.fail .failedRef, ev := [(.sr, i)] }
    | _ => { hs := hs, th := th.setBody (.waitRwi i :: rest), ev := [(.sr, i)] }
  | .waitRwi i =>
    match getH hs i with
    | .rendering => { hs := hs, th := { th with asleep := some i }, ev := [(.wl, i), (.wb, i)] }
    | .done _ => { hs := hs, th := th.setBody rest, ev := [(.wl, i)] }
    | .blended _ => { hs := hs, th := th.setBody rest, ev := [(.wl, i)] }
    | s =>
      { hs := hs.set i .none, th := th.fail ((waitErr s).getD .other), ev := [(.wl, i)] }
  | .blend i k =>
    match getH hs i with
    | .rendering => { hs := hs, th := { th with asleep := some i }, ev := [(.wl, i), (.wb, i)] }
    | .blended v => { hs := hs, th := (th.setBody rest).deliver k v, ev := [(.wl, i)] }
    | .done v =>
      -- `mem::replace(.., ErrTaken)`, `composite_preprocess(..)?` with the lock held
      match ch.fail with
      | some e =>
        { hs := hs.set i .errTaken, th := th.fail e, ev := [(.wl, i), (.pe, i), (.pxe, i)] }
      | none =>
        if (frameOf cfg i).skip then
          { hs := hs.set i (.blended (cd.pre i v)),
            th := (th.setBody rest).deliver k (cd.pre i v), ev := [(.wl, i), (.pe, i), (.pxs, i)] }
        else
          { hs := hs.set i .rendering, ev := [(.wl, i), (.pe, i), (.pxo, i), (.ce, i)],
            th := th.push rest { h := .comp i (cd.pre i v) k, body := compBody (frameOf cfg i) } }
    | s =>
      { hs := hs.set i .none, th := th.fail ((waitErr s).getD .other), ev := [(.wl, i)] }
  | .bg i =>
    -- `start_render_silent`
    match getH hs i with
    | .none =>
      { hs := hs.set i .rendering, ev := [(.ss, i), (.oe, i)],
        th := th.push rest { h := .op i true none, body := opBody cfg.inline (frameOf cfg i) } }
    | .inProgress c =>
      { hs := hs.set i .rendering, ev := [(.ss, i), (.oe, i)],
        th := th.push rest { h := .op i true (some c), body := opBody cfg.inline (frameOf cfg i) } }
    | _ => { hs := hs, th := th.setBody rest, ev := [(.ss, i)] }
  | .mayFail =>
    match ch.fail with
    | some e => { hs := hs, th := th.fail e }
    | none => { hs := hs, th := th.setBody rest }
  | .tryTake i =>
    match getH hs i with
    | .blended _ =>
      { hs := if ch.taken then hs.set i .none else hs, th := th.setBody rest, ev := [(.tt, i)] }
    | _ => { hs := hs, th := th.setBody rest, ev := [(.tt, i)] }
  | .reset i =>
    match var with
    | .old =>
      -- `mem::replace(.., None)` whatever the state is, nobody notified
      { hs := hs.set i .none, th := th.setBody rest, ev := [(.rs, i)],
        clob := decide (getH hs i = .rendering) }
    | .fixed =>
      if getH hs i = .rendering then { hs := hs, th := th.setBody rest, ev := [(.rs, i)] }
      else { hs := hs.set i .none, th := th.setBody rest, ev := [(.rs, i)] }
  | .loadFrame =>
    match cfg.loading with
    | none =>
      match fallbackBody cfg with
      | some b => { hs := hs, th := th.setBody b }
      | none => { hs := hs, th := th.fail .incomplete }
    | some f =>
      match ch.fail with
      | some .incomplete =>
        -- not a progressive frame / `try_parse_lf_global` not possible yet
        match fallbackBody cfg with
        | some b => { hs := hs, th := th.setBody b }
        | none => { hs := hs, th := th.fail .incomplete }
      | some e => { hs := hs, th := th.fail e }
      | none => { hs := hs, th := th.push rest { h := .loadOp, body := opBody cfg.inline f } }

/-- `IncompleteFrame` out of `render_loading_frame` falls back to `keyframe_in_progress`. -/
def loadFail (cfg : Config) (th : Thread) (e : ErrK) : Thread :=
  if e = .incomplete then
    match fallbackBody cfg with
    | some b => th.pop.setBody b
    | none => th.pop.fail .incomplete
  else th.pop.fail e

/-- The innermost body is empty: run the handler (`done_render` and return). -/
def stepDone (cfg : Config) (cd : Codec) (var : Variant) (ch : Choice) (hs : List HState)
    (th : Thread) (a : Act) : StepOut :=
  match a.h with
  | .top =>
    { hs := hs,
      th := { th.pop with result := match th.err with
                                    | some e => some (.err e)
                                    | none => th.result } }
  | .op i silent _ =>
    let failure : Option ErrK := match th.err with
      | some e => some e
      | none => ch.fail
    match failure with
    | some e =>
      -- `FrameRender::Err(e)`
      if silent then
        { hs := hs.set i (.err e), th := th.pop, notify := some i,
          ev := [(.oxe, i), (.dl, i), (.dn, i)] }
      else
        { hs := hs.set i .errTaken, th := th.pop.fail e, notify := some i,
          ev := [(.oxe, i), (.dl, i), (.dn, i)] }
    | none =>
      if (frameOf cfg i).complete then
        { hs := hs.set i (.done (cd.dec i a.ws)), th := th.pop, notify := some i,
          ev := [(.oxd, i), (.dl, i), (.dn, i)] }
      else if silent then
        { hs := hs.set i (.inProgress ch.progress), th := th.pop, notify := some i,
          ev := [(.oxi, i), (.dl, i), (.dn, i)] }
      else
        { hs := hs.set i (.inProgress ch.progress), th := th.pop.fail .incomplete,
          notify := some i, ev := [(.oxi, i), (.dl, i), (.dn, i)] }
  | .comp i v k =>
    match th.err with
    | some e =>
      match var with
      | .old =>
        -- `composite(..)?`: returns with the handle still `Rendering`, nobody notified
        { hs := hs, th := th.pop.fail e, ev := [(.cxe, i)] }
      | .fixed =>
        { hs := hs.set i .errTaken, th := th.pop.fail e, notify := some i,
          ev := [(.cxe, i), (.dl, i), (.dn, i)] }
    | none =>
      { hs := hs.set i (.blended (cd.comp i v a.ws)),
        th := th.pop.deliver k (cd.comp i v a.ws), notify := some i,
        ev := [(.cxo, i), (.dl, i), (.dn, i)] }
  | .loadOp =>
    let n := cfg.frames.length
    let failure : Option ErrK := match th.err with
      | some e => some e
      | none => ch.fail
    match failure with
    | some e => { hs := hs, th := loadFail cfg th e }
    | none =>
      match cfg.loading with
      | none => { hs := hs, th := loadFail cfg th .incomplete }
      | some f =>
        if !f.complete then { hs := hs, th := loadFail cfg th .incomplete }
        else
          let v := cd.pre n (cd.dec n a.ws)
          if f.skip then { hs := hs, th := th.pop.deliver .ret v }
          else
            { hs := hs,
              th := { th with acts := { h := .loadComp v, body := compBody f } :: th.acts.tail } }
  | .loadComp v =>
    match th.err with
    | some e => { hs := hs, th := loadFail cfg th e }
    | none => { hs := hs, th := th.pop.deliver .ret (cd.comp cfg.frames.length v a.ws) }

/-- One step of a thread that has not returned and is not asleep. -/
def stepThread (cfg : Config) (cd : Codec) (var : Variant) (ch : Choice) (hs : List HState)
    (th : Thread) : StepOut :=
  match th.acts with
  | [] => { hs := hs, th := th }
  | a :: _ =>
    match a.body with
    | [] => stepDone cfg cd var ch hs th a
    | it :: rest => stepItem cfg cd var ch hs th it rest

/-! ## Sequential semantics (C08) -/

inductive Op where
  | renderKeyframe (k : Nat)
  | renderLoading
  | requestRegion
  deriving DecidableEq, Repr, Inhabited

/-- `RenderContext::render_keyframe` / `render_loading_keyframe` as a thread. -/
def startThread (cfg : Config) : Op → Thread
  | .renderKeyframe k =>
    match cfg.keyframes[k]? with
    | some idx => { acts := [{ h := .top, body := [.rwi idx, .blend idx .ret, .mayFail] }] }
    | none => { acts := [{ h := .top, body := [] }], err := some .incomplete }
  | .renderLoading => { acts := [{ h := .top, body := [.loadFrame] }] }
  | .requestRegion => { acts := [] }

/-- background `run` spawned by `do_render` -/
def bgThread (r : Nat) : Thread := { acts := [{ h := .top, body := [.bg r] }] }

/-- `reset_cache`: a fresh handle for every frame that is not `ReferenceOnly`. -/
def resetCache (cfg : Config) (hs : List HState) : List HState :=
  (List.range hs.length).map fun i =>
    if (frameOf cfg i).refOnly then getH hs i else .none

inductive Outcome where
  | finished (hs : List HState) (res : Option Res)
  /-- the caller sleeps on a handle nobody will ever notify -/
  | hang (hs : List HState) (i : Nat)
  | outOfFuel
  deriving DecidableEq, Repr, Inhabited

/-- Runs one caller alone. `orc n` is the adversary's decision for step `n`. -/
def runThread (cfg : Config) (cd : Codec) (var : Variant) (orc : Nat → Choice) :
    Nat → Nat → List HState → Thread → Outcome
  | 0, _, _, _ => .outOfFuel
  | fuel + 1, n, hs, th =>
    match th.acts with
    | [] => .finished hs th.result
    | _ :: _ =>
      match th.asleep with
      | some i => .hang hs i
      | none =>
        let o := stepThread cfg cd var (orc n) hs th
        runThread cfg cd var orc fuel (n + 1) o.hs o.th

def runOp (cfg : Config) (cd : Codec) (var : Variant) (orc : Nat → Choice) (fuel : Nat)
    (hs : List HState) : Op → Outcome
  | .requestRegion => .finished (resetCache cfg hs) none
  | op => runThread cfg cd var orc fuel 0 hs (startThread cfg op)

/-- A history of completed calls; `none` as soon as one call does not return. -/
def runHist (cfg : Config) (cd : Codec) (var : Variant) (fuel : Nat) :
    List HState → List (Op × (Nat → Choice)) → Option (List HState × List (Option Res))
  | hs, [] => some (hs, [])
  | hs, (op, orc) :: rest =>
    match runOp cfg cd var orc fuel hs op with
    | .finished hs' r =>
      match runHist cfg cd var fuel hs' rest with
      | some (hs'', rs) => some (hs'', r :: rs)
      | none => none
    | _ => none

/-! ### Explicit step bound -/

def sumNat (l : List Nat) : Nat := l.foldr (· + ·) 0

/-- weight of one item given the weights `(op, comp)` of the frames it may enter -/
def wItem (look : Nat → Nat × Nat) : Item → Nat
  | .rwi i => 2 + (look i).1
  | .waitRwi _ => 1
  | .blend i _ => 1 + (look i).2
  | .bg i => 1 + (look i).1
  | .mayFail => 1
  | .tryTake _ => 1
  | .reset _ => 1
  | .loadFrame => 0

def wBody (look : Nat → Nat × Nat) (b : List Item) : Nat := sumNat (b.map (wItem look))

/-- `(weight of the op activation, weight of the comp activation)` of frame `f` -/
def wEntry (inline : Bool) (look : Nat → Nat × Nat) (f : Frame) : Nat × Nat :=
  (1 + wBody look (opBody inline f), 1 + wBody look (compBody f))

/-- weights of frames `0..i-1`, each computed from the weights of earlier frames only -/
def wTab (cfg : Config) : Nat → List (Nat × Nat)
  | 0 => []
  | i + 1 =>
    let t := wTab cfg i
    t ++ [wEntry cfg.inline (fun r => t.getD r (0, 0)) (frameOf cfg i)]

def wLook (cfg : Config) (r : Nat) : Nat × Nat := (wTab cfg cfg.frames.length).getD r (0, 0)

/-- weight of the `keyframe_in_progress` fallback of `render_loading_keyframe` -/
def wFB (cfg : Config) : Nat :=
  match fallbackBody cfg with
  | some b => wBody (wLook cfg) b
  | none => 0

/-- weight of the `loadFrame` item: the loading frame's two activations and the fallback -/
def wLoading (cfg : Config) : Nat :=
  (match cfg.loading with
   | some f => (wEntry cfg.inline (wLook cfg) f).1 + (wEntry cfg.inline (wLook cfg) f).2
   | none => 0) + wFB cfg + 3

/-- weight of an item inside an activation -/
def wIt (cfg : Config) : Item → Nat
  | .loadFrame => wLoading cfg
  | it => wItem (wLook cfg) it

/-- what a handler may still start after its body is done -/
def wExtra (cfg : Config) : Handler → Nat
  | .loadOp =>
    (match cfg.loading with
     | some f => (wEntry cfg.inline (wLook cfg) f).2
     | none => 0) + wFB cfg + 2
  | .loadComp _ => wFB cfg + 1
  | _ => 0

def wAct (cfg : Config) (a : Act) : Nat :=
  1 + sumNat (a.body.map (wIt cfg)) + wExtra cfg a.h

/-- steps a thread can still take when it never has to sleep -/
def wThread (cfg : Config) (th : Thread) : Nat := sumNat (th.acts.map (wAct cfg))

/-- the fuel that `runOp` needs: number of atomic steps of the call, plus one to observe the end -/
def opFuel (cfg : Config) (op : Op) : Nat := wThread cfg (startThread cfg op) + 1

/-! ## Interleaving semantics (C20) -/

structure Sys where
  hs : List HState
  ths : List Thread
  /-- ghost: some `reset` has overwritten a `Rendering` handle -/
  clobbered : Bool := false
  deriving Repr, Inhabited

/-- `notify_all`: every thread sleeping on handle `i` wakes up -/
def wakeAll (ths : List Thread) (i : Nat) : List Thread :=
  ths.map fun t => if t.asleep = some i then { t with asleep := none } else t

def Thread.finished (th : Thread) : Bool := th.acts.isEmpty

/-- thread `t` takes one atomic step -/
def sysStep (cfg : Config) (cd : Codec) (var : Variant) (t : Nat) (ch : Choice) (σ : Sys) :
    Option Sys :=
  match σ.ths[t]? with
  | none => none
  | some th =>
    if th.finished || th.asleep.isSome then none
    else
      let o := stepThread cfg cd var ch σ.hs th
      let ths' := σ.ths.set t o.th
      some { hs := o.hs,
             ths := match o.notify with
                    | some i => wakeAll ths' i
                    | none => ths',
             clobbered := σ.clobbered || o.clob }

/-- spurious wake-up of thread `t` (it will re-check the state in its next step) -/
def sysWake (t : Nat) (σ : Sys) : Option Sys :=
  match σ.ths[t]? with
  | none => none
  | some th =>
    if th.asleep.isSome then some { σ with ths := σ.ths.set t { th with asleep := none } }
    else none

inductive Label where
  | run (t : Nat) (ch : Choice)
  | wake (t : Nat)
  deriving Repr, Inhabited

def sysNext (cfg : Config) (cd : Codec) (var : Variant) (σ : Sys) : Label → Option Sys
  | .run t ch => sysStep cfg cd var t ch σ
  | .wake t => sysWake t σ

/-- runs a schedule; stops at the first label that is not enabled -/
def sysRun (cfg : Config) (cd : Codec) (var : Variant) : Sys → List Label → Sys
  | σ, [] => σ
  | σ, l :: ls =>
    match sysNext cfg cd var σ l with
    | some σ' => sysRun cfg cd var σ' ls
    | none => σ

inductive Reachable (cfg : Config) (cd : Codec) (var : Variant) (σ₀ : Sys) : Sys → Prop where
  | init : Reachable cfg cd var σ₀ σ₀
  | step {σ σ' : Sys} (l : Label) : Reachable cfg cd var σ₀ σ → sysNext cfg cd var σ l = some σ' →
      Reachable cfg cd var σ₀ σ'

/-- Callers of `render_keyframe` and background `run`s on fresh handles. -/
inductive Prog where
  | keyframe (k : Nat)
  | background (r : Nat)
  deriving DecidableEq, Repr, Inhabited

def progThread (cfg : Config) : Prog → Thread
  | .keyframe k => startThread cfg (.renderKeyframe k)
  | .background r => bgThread r

def initSys (cfg : Config) (progs : List Prog) : Sys :=
  { hs := List.replicate cfg.frames.length .none, ths := progs.map (progThread cfg) }

/-! ## Well-formedness, ownership, clean values -/

def Item.idx? : Item → Option Nat
  | .rwi i => some i
  | .waitRwi i => some i
  | .blend i _ => some i
  | .bg i => some i
  | .tryTake i => some i
  | .reset i => some i
  | .mayFail => none
  | .loadFrame => none

def Frame.refs (f : Frame) : List Nat :=
  f.spawn ++ f.opRefs ++ f.pre ++ f.chans.filterMap (·.1) ++ f.reset.toList

/-- all references of frame number `i` are earlier frames -/
def Frame.wfAt (f : Frame) (i : Nat) : Bool := f.refs.all (· < i)

/-- The model invariant taken from `preserve_current_frame`: references point backwards,
keyframes and the in-progress keyframe exist, the loading frame refers to loaded frames. -/
def Config.wf (cfg : Config) : Bool :=
  ((List.range cfg.frames.length).all fun i => (frameOf cfg i).wfAt i) &&
  cfg.keyframes.all (· < cfg.frames.length) &&
  (match cfg.inProgressKf with | some i => decide (i < cfg.frames.length) | none => true) &&
  (match cfg.loading with | some f => f.wfAt cfg.frames.length | none => true)

/-- the handle an activation has marked `Rendering` -/
def Handler.owns : Handler → Option Nat
  | .op i _ _ => some i
  | .comp i _ _ => some i
  | _ => none

def Thread.owned (th : Thread) : List Nat := th.acts.filterMap (·.h.owns)

/-- values of a never-failed render, frame by frame: `(Done value, Blended value)` -/
def cleanTab (cfg : Config) (cd : Codec) : Nat → List (Val × Val)
  | 0 => []
  | i + 1 =>
    let t := cleanTab cfg cd i
    let f := frameOf cfg i
    let b (r : Nat) : Val := (t.getD r (0, 0)).2
    let d := cd.dec i (f.opRefs.map b)
    let p := cd.pre i d
    t ++ [(d, if f.skip then p else cd.comp i p ((f.chans.filterMap (·.1)).map b))]

def cleanDone (cfg : Config) (cd : Codec) (i : Nat) : Val :=
  ((cleanTab cfg cd cfg.frames.length).getD i (0, 0)).1

def cleanBlended (cfg : Config) (cd : Codec) (i : Nat) : Val :=
  ((cleanTab cfg cd cfg.frames.length).getD i (0, 0)).2

/-- what `render_loading_keyframe` returns for the loading frame when nothing fails -/
def cleanLoading (cfg : Config) (cd : Codec) : Option Val :=
  match cfg.loading with
  | none => none
  | some f =>
    let n := cfg.frames.length
    let p := cd.pre n (cd.dec n (f.opRefs.map (cleanBlended cfg cd)))
    some (if f.skip then p else cd.comp n p ((f.chans.filterMap (·.1)).map (cleanBlended cfg cd)))

end Jxl.RenderState
