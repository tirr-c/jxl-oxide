import JxlModel.Model.Container
/-!
# Incremental feeding above the container layer (C09) and prefix behaviour (C11)

Mirrors, in `crates/jxl-oxide/src/lib.rs`, `UninitializedJxlImage::{feed_bytes, try_init}`,
`JxlImage::feed_bytes`, `JxlImageInner::feed_bytes_inner`, `JxlImageBuilder::read`; in
`crates/jxl-frame/src/lib.rs`, `Frame::feed_bytes`, `is_loading_done`, the single-section
`AllGroupOffsets` cache with `has_error` and the `allow_partial` derivations of
`try_parse_lf_global / lf_group / hf_global / pass_group_bitstream`; in
`crates/jxl-render/src/lib.rs`, `load_frame_header`, `finalize_current_frame`,
`render_loading_keyframe`, `render_loading_frame`; in `crates/jxl-modular/src/image.rs`, the
partial rule of `decode`.

The bit-level parsers (image header + ICC, preview frame, frame header + TOC) enter as
*abstract functions of the bytes available*, `Bytes → Res α`, constrained by `PrefixStable`;
section decoders enter as abstract classifications of the bytes available (`SecOut`).
Everything else — buffer carry-over, `buffer_offset`, `frame_offsets`, section-by-section filling,
end-of-image detection, trailing bytes, the retry-from-start of `try_init`, the 4096-byte loop of
`read()` — is modelled as the code does it.

Only `JxlModel.Model.Container` is imported (the container layer the feeding API sits on).
-/
namespace Jxl.Feed
open Jxl.Container (Bytes)

/-! ## Abstract parsers -/

/-- Result of running a header-level parser on the bytes available so far:
`Ok(value)` having read `used` whole bytes, an error for which `unexpected_eof()` holds
(`needMore`), or any other error (`err`). -/
inductive Res (α : Type) where
  | ok (v : α) (used : Nat)
  | needMore
  | err
deriving DecidableEq, Repr

/-- *Prefix stability* of a parser: what it says on a buffer it keeps saying on every extension
of that buffer, unless it asked for more data.  (`needMore_of_append` in `Proofs/Feed.lean` is the
third, derived, form: `needMore` on `a ++ b` means `needMore` on `a`.) -/
structure PrefixStable {α : Type} (p : Bytes → Res α) : Prop where
  /-- `ok` on a prefix stays the same `ok` on any extension -/
  ok_ext : ∀ a b v n, p a = .ok v n → p (a ++ b) = .ok v n
  /-- a parser reads no more bytes than it was given -/
  ok_le : ∀ a v n, p a = .ok v n → n ≤ a.length
  /-- a hard error is stable -/
  err_ext : ∀ a b, p a = .err → p (a ++ b) = .err

/-- What the feeding logic uses of a parsed frame header + TOC (`Frame::parse`). -/
structure FrameInfo where
  /-- `toc.iter_bitstream_order()`: section sizes in bitstream order -/
  sizes : List Nat
  /-- `header.is_last` -/
  isLast : Bool
  /-- `header.is_keyframe()` -/
  isKeyframe : Bool
  /-- everything else in the header, opaque -/
  tag : Nat
deriving DecidableEq, Repr

/-- The parsers the feeding logic calls. `Hdr` is the parsed image header (with ICC). -/
structure Parsers (Hdr : Type) where
  /-- `ImageHeader::parse`, `read_icc` + `decode_icc` if wanted, `zero_pad_to_byte`;
  `used` = bytes up to and including the padding -/
  head : Bytes → Res Hdr
  /-- `image_header.metadata.preview.is_some()` -/
  hasPreview : Hdr → Bool
  /-- `Frame::parse` of the preview frame (header + TOC) on the bytes after the image header -/
  preview : Hdr → Bytes → Res FrameInfo
  /-- `RenderContext::load_frame_header`: `Frame::parse` + the LF-frame-exists check; the context
  is the image header and the frames loaded so far -/
  frame : Hdr → List FrameInfo → Bytes → Res FrameInfo

/-- The hypotheses on the parsers: all prefix stable; a frame header occupies at least one byte. -/
structure Parsers.Stable {Hdr : Type} (P : Parsers Hdr) : Prop where
  head : PrefixStable P.head
  preview : ∀ h, PrefixStable (P.preview h)
  frame : ∀ h fs, PrefixStable (P.frame h fs)
  frame_pos : ∀ h fs a v n, P.frame h fs a = .ok v n → 0 < n

/-! ## `Frame::feed_bytes` -/

/-- A frame being loaded: `data[..reading_data_index]` are `filled`, `data[reading_data_index]`
has received `cur`, `pending` are the sizes of `data[reading_data_index..]`. -/
structure FrameSt where
  info : FrameInfo
  filled : List Bytes
  cur : Bytes
  pending : List Nat
deriving DecidableEq, Repr

/-- fresh frame as `Frame::parse` leaves it: no data, `reading_data_index = 0` -/
def FrameSt.new (fi : FrameInfo) : FrameSt := ⟨fi, [], [], fi.sizes⟩

/-- `Frame::is_loading_done`: `reading_data_index >= data.len()` -/
def FrameSt.done (f : FrameSt) : Bool := f.pending.isEmpty

/-- the section bytes received so far, in bitstream order (the current one possibly partial) -/
def FrameSt.sections (f : FrameSt) : List Bytes :=
  if f.pending.isEmpty then f.filled else f.filled ++ [f.cur]

/-- result of the `while let Some(group_data)` loop of `Frame::feed_bytes` -/
structure Fill where
  filled : List Bytes
  cur : Bytes
  pending : List Nat
  rest : Bytes
deriving DecidableEq, Repr

/-- `Frame::feed_bytes`: section by section; a section that cannot be completed takes the whole
buffer (`return Ok(&[])`), a completed one advances `reading_data_index`; zero-size sections
complete without input. -/
def fill : List Bytes → Bytes → List Nat → Bytes → Fill
  | filled, cur, [], buf => ⟨filled, cur, [], buf⟩
  | filled, cur, sz :: more, buf =>
    if buf.length < sz - cur.length then ⟨filled, cur ++ buf, sz :: more, []⟩
    else fill (filled ++ [cur ++ buf.take (sz - cur.length)]) [] more (buf.drop (sz - cur.length))

def FrameSt.feed (f : FrameSt) (buf : Bytes) : FrameSt × Bytes :=
  let r := fill f.filled f.cur f.pending buf
  (⟨f.info, r.filled, r.cur, r.pending⟩, r.rest)

/-! ## `JxlImageInner::feed_bytes_inner` (with the `RenderContext` frame list) -/

/-- `JxlImageInner` + the parts of `RenderContext` the feeding logic touches. -/
structure Inner (Hdr : Type) where
  hdr : Hdr
  /-- `ctx.frames`: completely loaded frames, in order -/
  frames : List FrameSt
  /-- `ctx.loading_frame` -/
  loading : Option FrameSt
  /-- carry-over: bytes received but not yet attributable to a complete frame header; after
  `end_of_image`, everything that followed the last frame -/
  buffer : Bytes
  /-- absolute codestream offset of the next byte to attribute -/
  bufferOffset : Nat
  frameOffsets : List Nat
  endOfImage : Bool
deriving DecidableEq, Repr

/-- state built at the end of `try_init` -/
def Inner.init {Hdr : Type} (h : Hdr) (bytesRead : Nat) : Inner Hdr :=
  ⟨h, [], none, [], bytesRead, [], false⟩

def Inner.infos {Hdr : Type} (st : Inner Hdr) : List FrameInfo := st.frames.map (·.info)

/-- The `while !buf.is_empty()` loop of `feed_bytes_inner`. `none` = `Err(_)` (or the panic the
code has here, `another frame is still loading`; that branch is never taken: a frame that is not
done has taken the whole buffer, `FrameSt.feed_not_done`.  The code's other panic, slicing past the
buffer, has no counterpart: `List.drop` is total).  Fuel: one unit per iteration; `loop` supplies
`buf.length + 1`, which is never exhausted (`loopN_fuel`). -/
def loopN {Hdr : Type} (P : Parsers Hdr) : Nat → Inner Hdr → Bytes → Option (Inner Hdr)
  | 0, _, _ => none
  | fuel + 1, st, buf =>
    if buf.isEmpty then some { st with buffer := [] }               -- `self.buffer.clear()`
    else
      match P.frame st.hdr st.infos buf with
      | .needMore => some { st with buffer := buf }                  -- `self.buffer = buf.to_vec()`
      | .err => none
      | .ok fi n =>
        let offs := st.frameOffsets ++ [st.bufferOffset]
        let r := (FrameSt.new fi).feed (buf.drop n)
        let off := st.bufferOffset + (n + ((buf.drop n).length - r.2.length))
        if r.1.done then
          -- `ctx.finalize_current_frame()`
          let st' : Inner Hdr :=
            { st with frames := st.frames ++ [r.1], loading := none, frameOffsets := offs,
                      bufferOffset := off }
          if fi.isLast then some { st' with endOfImage := true, buffer := r.2 }
          else loopN P fuel st' r.2
        else if r.2.isEmpty then
          some { st with loading := some r.1, frameOffsets := offs, bufferOffset := off,
                         buffer := [] }
        else none   -- next iteration would panic: "another frame is still loading"

def loop {Hdr : Type} (P : Parsers Hdr) (st : Inner Hdr) (buf : Bytes) : Option (Inner Hdr) :=
  loopN P (buf.length + 1) st buf

/-- `JxlImageInner::feed_bytes_inner` -/
def feedInner {Hdr : Type} (P : Parsers Hdr) (st : Inner Hdr) (buf : Bytes) : Option (Inner Hdr) :=
  if buf.isEmpty then some st
  else if st.endOfImage then some { st with buffer := st.buffer ++ buf }
  else
    match st.loading with
    | some lf =>
      let r := lf.feed buf
      let off := st.bufferOffset + (buf.length - r.2.length)
      if r.1.done then
        let st' : Inner Hdr :=
          { st with frames := st.frames ++ [r.1], loading := none, bufferOffset := off }
        if r.1.info.isLast then some { st' with endOfImage := true, buffer := r.2 }
        else if r.2.isEmpty then some st'
        else loop P st' (st'.buffer ++ r.2)
      else if r.2.isEmpty then some { st with loading := some r.1, bufferOffset := off }
      else none     -- `load_frame_header` would panic: "another frame is still loading"
    | none => loop P st (st.buffer ++ buf)

/-- successive `feed_bytes_inner` calls; stops at the first error -/
def feedInnerAll {Hdr : Type} (P : Parsers Hdr) (st : Inner Hdr) : List Bytes → Option (Inner Hdr)
  | [] => some st
  | c :: cs =>
    match feedInner P st c with
    | some st' => feedInnerAll P st' cs
    | none => none

/-! ## `UninitializedJxlImage::try_init` -/

/-- The parsing part of `try_init` on the buffered codestream `u` (always from its start):
image header, then — if there is a preview — the preview frame header and the check that all of
the preview's sections are buffered.  `used` = `bytes_read` (what `drain(..bytes_read)` removes). -/
def initParse {Hdr : Type} (P : Parsers Hdr) (u : Bytes) : Res Hdr :=
  match P.head u with
  | .needMore => .needMore
  | .err => .err
  | .ok h n =>
    if P.hasPreview h then
      match P.preview h (u.drop n) with
      | .needMore => .needMore
      | .err => .err
      | .ok fi m =>
        if u.length < n + m + fi.sizes.sum then .needMore else .ok h (n + m + fi.sizes.sum)
    else .ok h n

/-- The decoder object as the caller holds it. -/
inductive Dec (Hdr : Type) where
  /-- `UninitializedJxlImage` with its codestream `buffer` -/
  | uninit (u : Bytes)
  /-- `JxlImage` -/
  | ready (inner : Inner Hdr)
  /-- an `Err(_)` was returned; the object is not used any more -/
  | dead
deriving DecidableEq, Repr

/-- `try_init`: `NeedMoreData(self)` leaves everything as it was, `Initialized` hands the
remaining bytes to `feed_bytes_inner`. -/
def tryInit {Hdr : Type} (P : Parsers Hdr) : Dec Hdr → Dec Hdr
  | .uninit u =>
    match initParse P u with
    | .needMore => .uninit u
    | .err => .dead
    | .ok h off =>
      match feedInner P (Inner.init h off) (u.drop off) with
      | some i => .ready i
      | none => .dead
  | d => d

/-- a `ParseEvent::Codestream(buf)` arrives -/
def addCs {Hdr : Type} (P : Parsers Hdr) (d : Dec Hdr) (bytes : Bytes) : Dec Hdr :=
  match d with
  | .uninit u => .uninit (u ++ bytes)
  | .ready i =>
    match feedInner P i bytes with
    | some i' => .ready i'
    | none => .dead
  | .dead => .dead

/-! ## The feeding API on top of the container parser -/

open Jxl.Container in
/-- the `for event in self.reader.feed_bytes(buf)` loop of both `feed_bytes` functions, as far as
the codestream is concerned (auxiliary-box events go to `AuxBoxList`, see `Sess.aux`) -/
def applyEvents {Hdr : Type} (P : Parsers Hdr) (d : Dec Hdr) : List Event → Dec Hdr
  | [] => d
  | .codestream b :: evs => applyEvents P (addCs P d b) evs
  | _ :: evs => applyEvents P d evs

open Jxl.Container in
/-- the same on the byte-granular normal form of the events -/
def applyToks {Hdr : Type} (P : Parsers Hdr) (d : Dec Hdr) : List Tok → Dec Hdr
  | [] => d
  | .cs b :: ts => applyToks P (addCs P d [b]) ts
  | _ :: ts => applyToks P d ts

/-- A decoding session as the caller drives it. -/
structure Sess (Hdr : Type) where
  /-- `reader: ContainerParser` -/
  cp : Container.PState
  /-- bytes the last call did not consume; the caller offers them again -/
  pending : Bytes
  dec : Dec Hdr
  /-- every event so far, flattened (`AuxBoxList` sees the non-codestream ones; `Container.auxOf`
  reads the auxiliary boxes off this list) -/
  aux : List Container.Tok
deriving DecidableEq, Repr

def Sess.init {Hdr : Type} : Sess Hdr := ⟨Container.init, [], .uninit [], []⟩

/-- One round of the documented calling protocol: offer the unconsumed bytes followed by the new
chunk to `feed_bytes`; keep what was not consumed; while uninitialised call `try_init`.
A container error or an `Err` of the codestream layer kills the session. -/
def Sess.push {Hdr : Type} (P : Parsers Hdr) (S : Sess Hdr) (chunk : Bytes) : Sess Hdr :=
  match S.dec with
  | .dead => S
  | d =>
    let r := Container.feed S.cp (S.pending ++ chunk)
    let d1 := applyEvents P d r.events
    ⟨r.state, if r.error.isSome then [] else r.rest,
     if r.error.isSome then .dead else tryInit P d1,
     S.aux ++ Container.toks r.events⟩

def Sess.pushAll {Hdr : Type} (P : Parsers Hdr) (S : Sess Hdr) (chunks : List Bytes) : Sess Hdr :=
  chunks.foldl (Sess.push P) S

/-- What a caller can observe of a session (C09's observable): nothing but `dead` after an error;
otherwise the container kind, the bytes still to be re-offered, the auxiliary boxes delivered so
far, and the decoder: image header, loaded frames and keyframes, frame offsets, the bytes every
section of every frame has received, the completion flag and the bytes left over after the
last frame. -/
inductive Obs (Hdr : Type) where
  | dead
  | uninit (kind : Container.Kind) (pending : Bytes) (aux : List Container.AuxBox) (buffered : Bytes)
  | ready (kind : Container.Kind) (pending : Bytes) (aux : List Container.AuxBox)
      (hdr : Hdr) (numFrames numKeyframes : Nat) (frameOffsets : List Nat)
      (sections : List (List Bytes)) (loadingSections : Option (List Bytes))
      (done : Bool) (leftover : Bytes)
deriving DecidableEq, Repr

def Inner.numKeyframes {Hdr : Type} (i : Inner Hdr) : Nat :=
  (i.frames.filter (·.info.isKeyframe)).length

def Sess.obs {Hdr : Type} (S : Sess Hdr) : Obs Hdr :=
  match S.dec with
  | .dead => .dead
  | .uninit u => .uninit S.cp.kind S.pending (Container.auxOf S.aux) u
  | .ready i =>
    .ready S.cp.kind S.pending (Container.auxOf S.aux) i.hdr i.frames.length i.numKeyframes
      i.frameOffsets (i.frames.map (·.sections)) (i.loading.map (·.sections)) i.endOfImage i.buffer

/-! ## `JxlImageBuilder::read` -/

/-- Result of `read()`: the session, the chunks it offered (in order), what it left unread, and
whether it gave up with "reader ended before parsing image header". -/
structure ReadRes (Hdr : Type) where
  sess : Sess Hdr
  chunks : List Bytes
  rest : Bytes
  eofBeforeInit : Bool
deriving DecidableEq, Repr

/-- `read()` on an in-memory reader: a buffer of `cap` = 4096 bytes is refilled from the stream
(`count = min(space, remaining)` with `space = cap - buf_valid`), offered to `feed_bytes`, the
unconsumed tail is moved to the front.  Before initialisation a reader that gives nothing more is
an error; afterwards reading stops when the reader gives nothing more or — in a bare codestream —
at the end of the image (in a container it goes on: auxiliary boxes may follow; this is the
`fix:` for the trailing-box defect, the old condition is `readNOld`).
Fuel: one unit per `reader.read` call; `readAll` supplies `stream.length + 2`. -/
def readN {Hdr : Type} (P : Parsers Hdr) (cap : Nat) :
    Nat → Sess Hdr → List Bytes → Bytes → ReadRes Hdr
  | 0, S, acc, stream => ⟨S, acc, stream, false⟩
  | fuel + 1, S, acc, stream =>
    match S.dec with
    | .dead => ⟨S, acc, stream, false⟩
    | .uninit _ =>
      let count := min (cap - S.pending.length) stream.length
      if count = 0 then ⟨S, acc, stream, true⟩
      else readN P cap fuel (S.push P (stream.take count)) (acc ++ [stream.take count]) (stream.drop count)
    | .ready i =>
      if i.endOfImage && S.cp.kind != .container then ⟨S, acc, stream, false⟩
      else
        let count := min (cap - S.pending.length) stream.length
        if count = 0 then ⟨S, acc, stream, false⟩
        else readN P cap fuel (S.push P (stream.take count)) (acc ++ [stream.take count]) (stream.drop count)

def readAll {Hdr : Type} (P : Parsers Hdr) (stream : Bytes) : ReadRes Hdr :=
  readN P 4096 (stream.length + 2) Sess.init [] stream

/-- the loop condition before the repair: `while !image.inner.end_of_image` for every kind of
stream, so boxes after the last frame are read only as far as they happen to be in the buffer -/
def readNOld {Hdr : Type} (P : Parsers Hdr) (cap : Nat) :
    Nat → Sess Hdr → List Bytes → Bytes → ReadRes Hdr
  | 0, S, acc, stream => ⟨S, acc, stream, false⟩
  | fuel + 1, S, acc, stream =>
    match S.dec with
    | .dead => ⟨S, acc, stream, false⟩
    | .uninit _ =>
      let count := min (cap - S.pending.length) stream.length
      if count = 0 then ⟨S, acc, stream, true⟩
      else readNOld P cap fuel (S.push P (stream.take count)) (acc ++ [stream.take count]) (stream.drop count)
    | .ready i =>
      if i.endOfImage then ⟨S, acc, stream, false⟩
      else
        let count := min (cap - S.pending.length) stream.length
        if count = 0 then ⟨S, acc, stream, false⟩
        else readNOld P cap fuel (S.push P (stream.take count)) (acc ++ [stream.take count]) (stream.drop count)

/-! ## C11: sections of the loading frame, `allow_partial`, the single-section cache -/

/-- What a section decoder (`LfGlobal::parse`, `LfGroup::parse`, `HfGlobal::parse`,
`decode_pass_group_modular`, each ending in `Modular::decode`) does on the bytes available,
classified by the predicates of the generated `Gen/EofChain.lean`: finishes, stops with an error
for which `unexpected_eof()` holds, or stops with any other error. -/
inductive SecOut where
  | complete
  | eof
  | hard
deriving DecidableEq, Repr

/-- `Modular::decode(.., allow_partial)` (image.rs): an end-of-data error inside a section that is
allowed to be partial is swallowed and leaves a partial image. -/
inductive Decoded where
  | full
  | partialImage
  | errEof
  | errHard
deriving DecidableEq, Repr

def modularDecode (allowPartial : Bool) : SecOut → Decoded
  | .complete => .full
  | .eof => if allowPartial then .partialImage else .errEof
  | .hard => .errHard

/-- multi-section frame: `allow_partial = group.bytes.len() < group.toc_group.size` -/
def allowPartialMulti (got size : Nat) : Bool := decide (got < size)

/-- single-section frame: `loaded = reading_data_index != 0`, `allow_partial = !loaded` -/
def allowPartialSingle (readingDataIndex : Nat) : Bool := readingDataIndex == 0

/-- Answer of `try_parse_lf_global` on a single-section frame and the new value of
`all_group_offsets.has_error`. `Error::HadError` once the flag is set; a non-EOF error — or any
error once the section is loaded — sets it. -/
inductive LfAnswer where
  | ok (isPartial : Bool)
  | errEof
  | errHard
  | hadError
deriving DecidableEq, Repr

def lfGlobalSingle (hasError : Nat) (loaded : Bool) (o : SecOut) : LfAnswer × Nat :=
  if hasError ≠ 0 then (.hadError, hasError)
  else
    match modularDecode (!loaded) o with
    | .full => (.ok false, 0)
    | .partialImage => (.ok true, 0)
    | .errEof => if !loaded then (.errEof, 0) else (.errEof, 1)
    | .errHard => (.errHard, 1)

/-- `try_parse_lf_global` on a multi-section frame: no cache, no flag. -/
def lfGlobalMulti (got size : Nat) (o : SecOut) : LfAnswer :=
  match modularDecode (allowPartialMulti got size) o with
  | .full => .ok false
  | .partialImage => .ok true
  | .errEof => .errEof
  | .errHard => .errHard

/-! ## C11: `render_loading_frame` result cases -/

/-- classification of `jxl_render::Error` as the API user sees it -/
inductive RErr where
  /-- `Error::IncompleteFrame` or any error with `unexpected_eof()`: need more data -/
  | needMore
  | other
deriving DecidableEq, Repr

/-- outcome of `do_render` on the loading frame (`FrameRender`) -/
inductive DoRender where
  | done
  | inProgress
  | err (e : RErr)
deriving DecidableEq, Repr

/-- `do_render`: an end-of-data / incomplete error on a frame that is still loading keeps the
cache (`InProgress`); on a completely loaded frame it is an error. -/
def doRender (frameLoaded : Bool) : Except RErr Unit → DoRender
  | .ok () => .done
  | .error .needMore => if frameLoaded then .err .needMore else .inProgress
  | .error .other => .err .other

/-- The inputs of one `render_loading_keyframe` call, abstracted to what decides its result. -/
structure LoadingView where
  /-- `self.loading_frame()` found a progressive frame (Regular or LF) in the keyframe being
  assembled (finished frames of it, then the frame being loaded) -/
  hasProgressive : Bool
  /-- `try_parse_lf_global()` is `Some(_)` for it (its first section exists) -/
  lfGlobalSome : Bool
  /-- that frame is completely loaded -/
  frameLoaded : Bool
  /-- result of `render::render_frame` on it -/
  render : Except RErr Unit
  /-- result of `composite_preprocess` / `composite` / `upsample_lf` after a finished render -/
  compose : Except RErr Unit
  /-- `keyframe_in_progress` and the result of `render_by_index` on it -/
  inProgress : Option (Except RErr Unit)
  /-- result of `postprocess_keyframe` -/
  postprocess : Except RErr Unit

inductive LoadingAns where
  /-- `Ok(Render)`: the grid has the requested image region, i.e. the full image dimensions -/
  | image
  | needMore
  | fail
deriving DecidableEq, Repr

def ofRErr : RErr → LoadingAns
  | .needMore => .needMore
  | .other => .fail

/-- `RenderContext::render_loading_frame` (private): `Ok`, `IncompleteFrame`, or another error -/
def renderLoadingFrame (v : LoadingView) : Except RErr Unit :=
  if !v.lfGlobalSome then .error .needMore
  else
    match doRender v.frameLoaded v.render with
    | .inProgress => .error .needMore
    | .err e => .error e
    | .done => v.compose

/-- `render_loading_keyframe` + `JxlImage::render_loading_frame`. Note that only the literal
`IncompleteFrame` falls through to the keyframe in progress; in the model both need-more-data
forms are one class, which is exact for the result class (`needMore` either way). -/
def renderLoading (v : LoadingView) : LoadingAns :=
  let cur : Except RErr Bool :=      -- Ok(true) = current frame grid, Ok(false) = fall through
    if v.hasProgressive then
      match renderLoadingFrame v with
      | .ok () => .ok true
      | .error .needMore => .ok false
      | .error .other => .error .other
    else .ok false
  match cur with
  | .error e => ofRErr e
  | .ok true => (match v.postprocess with | .ok () => .image | .error e => ofRErr e)
  | .ok false =>
    match v.inProgress with
    | none => .needMore
    | some (.error e) => ofRErr e
    | some (.ok ()) => (match v.postprocess with | .ok () => .image | .error e => ofRErr e)

/-! ## C11: attempts interleaved with feeding -/

/-- What survives a render attempt on the loading frame: `all_group_offsets.has_error` inside the
frame (single-section frames only) and the `loading_render_cache_*` of the context, abstracted to
the number of first-section bytes its cached `LfGlobal` was parsed from (`none`: no cache, or a
cache without an `LfGlobal`). -/
structure Residue where
  hasError : Nat
  cache : Option Nat
deriving DecidableEq, Repr

def Residue.clean : Residue := ⟨0, none⟩

/-- The section decoders seen from the feeding layer. -/
structure SecParsers where
  /-- how `LfGlobal::parse` (the first section, where the single-section cache and the flag live)
  classifies on the bytes received of that section -/
  lfGlobal : FrameInfo → Bytes → SecOut
  /-- whether, after an `LfGlobal` was obtained from these bytes, the attempt still ends with
  `FrameRender::InProgress` (a later section reports end of data), so that the render cache —
  with that `LfGlobal` in it — is kept for the next attempt and for the final render handle -/
  keepsCache : FrameInfo → Bytes → Bool

/-- the frame being loaded and the bytes its first section has received -/
def loadingFirst {Hdr : Type} (S : Sess Hdr) : Option (FrameSt × Bytes) :=
  match S.dec with
  | .ready i =>
    match i.loading with
    | some f => some (f, f.sections.headD [])
    | none => none
  | _ => none

/-- One `render_loading_frame` attempt, as far as persistent state goes.  A frame that is still
loading has `reading_data_index = 0` if it is single-section, hence `loaded = false`. -/
def attemptOn (Q : SecParsers) (f : FrameSt) (got : Bytes) (r : Residue) : Residue :=
  let single := f.info.sizes.length == 1
  let o := Q.lfGlobal f.info got
  let a : LfAnswer × Nat :=
    if single then lfGlobalSingle r.hasError false o
    else (lfGlobalMulti got.length (f.info.sizes.headD 0) o, r.hasError)
  let keeps := Q.keepsCache f.info got
  let cache : Option Nat :=
    match r.cache with
    | some n => if keeps then some n else none        -- cached `LfGlobal` reused, not re-parsed
    | none =>
      match a.1 with
      | .ok _ => if keeps then some got.length else none
      | _ => none
  ⟨a.2, cache⟩

/-- A decoder with the residue of render attempts on the frame being loaded; `poisoned` records
that a frame was completed (`preserve_current_frame`: the flag stays in the frame, the cache
becomes the start state of its final render handle) with a residue that changes its final render. -/
structure Prog (Hdr : Type) where
  sess : Sess Hdr
  res : Residue
  poisoned : Bool
deriving DecidableEq, Repr

def Prog.init {Hdr : Type} : Prog Hdr := ⟨Sess.init, Residue.clean, false⟩

/-- Final answer of rendering a completely loaded frame whose first section has `sectionLen`
bytes, given the residue: `Error::HadError` if the flag is set; a cached `LfGlobal` parsed from
fewer bytes is a stale partial one. -/
inductive FinalRender where
  | good
  | hadError
  | staleCache
deriving DecidableEq, Repr

def finalRender (sectionLen : Nat) (r : Residue) : FinalRender :=
  if r.hasError ≠ 0 then .hadError
  else
    match r.cache with
    | some n => if n < sectionLen then .staleCache else .good
    | none => .good

def numLoaded {Hdr : Type} (S : Sess Hdr) : Nat :=
  match S.dec with
  | .ready i => i.frames.length
  | _ => 0

/-- an operation of a progressive caller -/
inductive Op where
  | push (chunk : Bytes)
  | render
deriving DecidableEq, Repr

def Prog.step {Hdr : Type} (P : Parsers Hdr) (Q : SecParsers) (p : Prog Hdr) : Op → Prog Hdr
  | .push c =>
    let s' := p.sess.push P c
    if numLoaded p.sess < numLoaded s' then
      -- the frame that was loading (if any) is complete now; frames that started and completed
      -- inside this call never saw an attempt
      let sz := match loadingFirst p.sess with
        | some (f, _) => f.info.sizes.headD 0
        | none => 0
      ⟨s', Residue.clean, p.poisoned || (finalRender sz p.res != .good)⟩
    else { p with sess := s' }
  | .render =>
    match loadingFirst p.sess with
    | some (f, got) => { p with res := attemptOn Q f got p.res }
    | none => p

def Prog.run {Hdr : Type} (P : Parsers Hdr) (Q : SecParsers) (p : Prog Hdr) (ops : List Op) : Prog Hdr :=
  ops.foldl (Prog.step P Q) p

/-- the chunks pushed by a list of operations -/
def Op.chunks : List Op → List Bytes
  | [] => []
  | .push c :: r => c :: Op.chunks r
  | .render :: r => Op.chunks r

/-! ## Concrete parsers

`Layout`: parsers driven by a description of one stream (where its image header ends, how long
each frame header + TOC is, what it says) — what `Driver/C09.lean` runs against the real decoder.
`Toy`: a small self-describing length-prefixed format, used for the examples. -/

structure FrameLayout where
  /-- bytes of frame header + TOC -/
  hdrLen : Nat
  info : FrameInfo
deriving DecidableEq, Repr

structure Layout where
  /-- bytes of image header (+ ICC) up to the byte boundary -/
  headLen : Nat
  preview : Option FrameLayout
  frames : List FrameLayout
deriving DecidableEq, Repr

/-- a parser that needs exactly `len` bytes -/
def needs {α : Type} (len : Nat) (v : α) (bs : Bytes) : Res α :=
  if bs.length < len then .needMore else .ok v len

def Layout.parsers (L : Layout) : Parsers Unit where
  head := needs L.headLen ()
  hasPreview := fun _ => L.preview.isSome
  preview := fun _ bs =>
    match L.preview with
    | some p => needs p.hdrLen p.info bs
    | none => .err
  frame := fun _ fs bs =>
    match L.frames[fs.length]? with
    | some f => if f.hdrLen = 0 then .err else needs f.hdrLen f.info bs
    | none => .err

namespace Toy

/-- image header: the codestream signature `FF 0A`, then one byte whose lowest bit announces a
preview -/
def head : Bytes → Res Nat
  | a :: b :: c :: _ => if a = 0xFF ∧ b = 0x0A then .ok c.toNat 3 else .err
  | _ => .needMore

/-- frame header + TOC: flags (`FF` invalid; bit 0 `is_last`, bit 1 keyframe), section count `n`,
`n` section sizes -/
def frame : Bytes → Res FrameInfo
  | f :: n :: rest =>
    if f = 0xFF then .err
    else if rest.length < n.toNat then .needMore
    else .ok ⟨(rest.take n.toNat).map (·.toNat), f.toNat % 2 == 1, (f.toNat / 2) % 2 == 1, f.toNat⟩
      (2 + n.toNat)
  | _ => .needMore

def parsers : Parsers Nat where
  head := head
  hasPreview := fun h => h % 2 == 1
  preview := fun _ => frame
  frame := fun _ _ => frame

end Toy

end Jxl.Feed
