/-!
# Fork-join task model (`jxl-threadpool/src/lib.rs` and its call sites)

What the renderer does with a thread pool is always the same shape: build a list of jobs from the
*geometry* of the frame (groups, 16-row bands, 8-row bands, 65536-sample chunks), hand the list
to `JxlThreadPool::{scope + spawn, for_each_vec, for_each_mut_slice, for_each_vec_with}`, wait for
all of them (rayon's `scope` / `for_each` return only after every job ran exactly once — trusted),
continue. `JxlThreadPool::none()` runs the same jobs in place, in list order.

Model.
* A **store** is a map `Cell → V` (`Cell = Nat`: an element offset in the address space of all
  sample buffers, as in `Model/Subgrid.lean`).
* A **step** is the atomic unit of execution: it *declares* the cells it reads and writes and
  computes the written values from the store **restricted to its read set** (`restrict`), so the
  frame condition "depends on nothing else, changes nothing else" holds by construction.
  A step may also report a failure (an error code) — again a function of its read set only.
* A **task** (one job of a fork-join) is a list of steps in program order. A task with one step is
  atomic (task granularity); a task that writes several cells can be given one step per cell or
  per row (cell granularity).
* A **schedule** of a fork-join over the task list `ts` is
  - at task granularity: any permutation of `ts` (`List.Perm`),
  - at step granularity: any `Interleaving` of the step lists that keeps each task's own order.
  `JxlThreadPool::none()` is the identity order (`noneOrder`).
* The **error slot** (`RwLock<Result<()>>` / `Mutex<Result<..>>` written by jobs in
  `render_modular`, `render_vardct`, `load_lf_groups`, `init_noise`) is one more cell, outside every
  declared footprint: every failing step overwrites it (last writer wins), nobody ever writes
  `Ok` into it. Its Ok/Err-*ness* is tracked separately as a flag (`execB`) that only ever goes up.
* **Handle cache** (`FrameRenderHandle`: `None → Done → Blended`), **lazy tables**
  (`natural_order_lazy`: `Once`; `sec_half`: `Mutex<BTreeMap>` + `or_insert_with`), the
  **offset cache** (`AllGroupOffsets`: relaxed atomics, `0` = not yet known) and **noise seeds**
  are small state machines / pure functions of their own, below.

Not modelled: nested fork-joins inside a job (a job that itself calls `pool.for_each_vec`, e.g.
the per-group inverse transforms) are flattened into the job's own step list; memory *limits*
(`AllocTracker`) — the instantaneous total is schedule dependent, see the C07 check's evidence.
This file is import-free.
-/
namespace Jxl.Tasks

abbrev Cell := Nat
abbrev Store (V : Type) := Cell → V

section
variable {V : Type} [Inhabited V]

/-- what a step can see of the store: the cells of its read set, `default` elsewhere -/
def restrict (R : List Cell) (s : Store V) : Store V :=
  fun c => if c ∈ R then s c else default

/-- atomic unit of execution -/
structure Step (V : Type) where
  reads : List Cell
  writes : List Cell
  /-- value written to cell `c ∈ writes`, from the restricted store -/
  f : Store V → Cell → V
  /-- `some e`: the step reports error `e` (`*result.write().unwrap() = Err(e)`) -/
  fail : Store V → Option Nat := fun _ => none

/-- effect of one step on the sample store -/
def Step.run (a : Step V) (s : Store V) : Store V :=
  fun c => if c ∈ a.writes then a.f (restrict a.reads s) c else s c

def runSteps (l : List (Step V)) (s : Store V) : Store V :=
  l.foldl (fun s a => a.run s) s

/-- one job: steps in program order -/
structure Task (V : Type) where
  steps : List (Step V)

def Task.reads (t : Task V) : List Cell := t.steps.flatMap Step.reads
def Task.writes (t : Task V) : List Cell := t.steps.flatMap Step.writes
def Task.run (t : Task V) (s : Store V) : Store V := runSteps t.steps s

/-- a job that is one atomic step -/
def Task.atomic (a : Step V) : Task V := ⟨[a]⟩

/-- run whole tasks one after the other in the given order -/
def runTasks (ts : List (Task V)) (s : Store V) : Store V :=
  ts.foldl (fun s t => t.run s) s

/-- `W_a ∩ (R_b ∪ W_b) = ∅` and `W_b ∩ (R_a ∪ W_a) = ∅` -/
def Step.Indep (a b : Step V) : Prop :=
  (∀ c ∈ a.writes, c ∉ b.reads ∧ c ∉ b.writes) ∧ (∀ c ∈ b.writes, c ∉ a.reads ∧ c ∉ a.writes)

instance (a b : Step V) : Decidable (Step.Indep a b) := by unfold Step.Indep; exact inferInstance

/-- the disjointness premise of C07 for two jobs `i ≠ j` -/
def Task.Indep (t u : Task V) : Prop :=
  (∀ c ∈ t.writes, c ∉ u.reads ∧ c ∉ u.writes) ∧ (∀ c ∈ u.writes, c ∉ t.reads ∧ c ∉ t.writes)

instance (t u : Task V) : Decidable (Task.Indep t u) := by unfold Task.Indep; exact inferInstance

end

/-! ## schedules -/

/-- `out` is a merge of the lists `ls` that keeps the order inside each list: at every point some
list with a remaining head is chosen and its head is emitted. -/
inductive Interleaving {α : Type} : List (List α) → List α → Prop where
  | done (ls : List (List α)) : (∀ l ∈ ls, l = []) → Interleaving ls []
  | next (pre post : List (List α)) (a : α) (rest out : List α) :
      Interleaving (pre ++ rest :: post) out → Interleaving (pre ++ (a :: rest) :: post) (a :: out)

/-- `JxlThreadPool::none()`: `v.into_iter().for_each(op)` — every job completely, in list order -/
def noneOrder {V : Type} (ts : List (Task V)) : List (Step V) := (ts.map Task.steps).flatten

inductive Pool where
  /-- `JxlThreadPool::none()` -/
  | none
  /-- `JxlThreadPool::rayon(Some(threads))` / `rayon_global()` -/
  | rayon (threads : Nat)
  deriving Repr, DecidableEq

/-- `JxlThreadPool::is_multithreaded` -/
def Pool.isMultithreaded : Pool → Bool
  | .none => false
  | .rayon _ => true

/-- the step sequences a pool may produce for a fork-join over `ts`: the in-place loop for
`none()`, any order-preserving interleaving for a rayon pool of any size (a 1-thread rayon pool
still picks jobs in an order of its own: work stealing splits the list recursively) -/
def Admissible {V : Type} (p : Pool) (ts : List (Task V)) (steps : List (Step V)) : Prop :=
  match p with
  | .none => steps = noneOrder ts
  | .rayon _ => Interleaving (ts.map Task.steps) steps

/-! executable enumerators (used by the driver and the examples) -/

def insertEverywhere {α : Type} (a : α) : List α → List (List α)
  | [] => [[a]]
  | b :: l => (a :: b :: l) :: (insertEverywhere a l).map (b :: ·)

/-- all orders of a list (with multiplicity) -/
def perms {α : Type} : List α → List (List α)
  | [] => [[]]
  | a :: l => (perms l).flatMap (insertEverywhere a)

/-- split `ls` at every position holding a non-empty list: `(pre, head, tail, post)` -/
def picks {α : Type} : List (List α) → List (List (List α) × α × List α × List (List α))
  | [] => []
  | [] :: ls => (picks ls).map fun (pre, a, r, post) => ([] :: pre, a, r, post)
  | (a :: r) :: ls =>
    ([], a, r, ls) :: (picks ls).map fun (pre, b, r', post) => ((a :: r) :: pre, b, r', post)

/-- all order-preserving interleavings; `fuel` ≥ total number of elements -/
def interleavings {α : Type} : Nat → List (List α) → List (List α)
  | 0, _ => [[]]
  | fuel + 1, ls =>
    match picks ls with
    | [] => [[]]
    | ps => ps.flatMap fun (pre, a, r, post) =>
        (interleavings fuel (pre ++ r :: post)).map (a :: ·)

/-! ## the error slot -/

section
variable {V : Type} [Inhabited V]

/-- sample store plus the shared `Result<()>` slot (`none` = `Ok(())`) -/
structure St (V : Type) where
  store : Store V
  slot : Option Nat

/-- a step with its error report: last writer wins, `Ok` is never written back -/
def Step.exec (a : Step V) (st : St V) : St V :=
  { store := a.run st.store
    slot := match a.fail (restrict a.reads st.store) with
      | some e => some e
      | none => st.slot }

def execSteps (l : List (Step V)) (st : St V) : St V := l.foldl (fun st a => a.exec st) st

/-- The defective discipline found in `ColorTransform::run_with_threads` (jxl-color
`convert.rs`) before its repair: every job stores its own result, `Ok` included, so a later
success erases an earlier failure. -/
def Step.execOverwriting (a : Step V) (st : St V) : St V :=
  { store := a.run st.store, slot := a.fail (restrict a.reads st.store) }

def execStepsOverwriting (l : List (Step V)) (st : St V) : St V :=
  l.foldl (fun st a => a.execOverwriting st) st

/-- the same with the slot abstracted to "is it `Err`?" -/
def Step.execB (a : Step V) (st : Store V × Bool) : Store V × Bool :=
  (a.run st.1, st.2 || (a.fail (restrict a.reads st.1)).isSome)

def execStepsB (l : List (Step V)) (st : Store V × Bool) : Store V × Bool :=
  l.foldl (fun st a => a.execB st) st

/-- does job `t` report an error when it runs alone on store `s`? -/
def Task.failsAlone (t : Task V) (s : Store V) : Bool := (execStepsB t.steps (s, false)).2

/-- what `result.into_inner().unwrap()?` then does: `Ok(store)` or the stored error -/
def St.result (st : St V) : Except Nat (Store V) :=
  match st.slot with
  | some e => .error e
  | none => .ok st.store

/-- a sequence of fork-join stages; stage `k`'s job list may depend on the stage index (geometry)
but not on the store and not on the pool; `sched k` is the step order that happened -/
def runPipeline (sched : Nat → List (Step V)) : Nat → Nat → Store V → Store V
  | _, 0, s => s
  | k, n + 1, s => runPipeline sched (k + 1) n (runSteps (sched k) s)

end

/-! ## `for_each_vec_with`: per-thread scratch

`pool.for_each_vec_with(jobs, init, |scratch, job| ..)` (EPF `sigma_row`): rayon clones `init`
whenever it splits the job list, `none()` threads one `init` through all jobs. So the scratch a
job *receives* is `init` or whatever an earlier job on the same thread left behind: schedule
dependent. The job's result must therefore not depend on the received scratch. -/

/-- a job with scratch: `(scratch in, store) ↦ (scratch out, store)` -/
structure ScratchJob (U V : Type) where
  run : U → Store V → U × Store V

/-- one thread working through its share of the jobs, scratch threaded through -/
def runWithScratch {U V : Type} (jobs : List (ScratchJob U V)) (u : U) (s : Store V) : U × Store V :=
  jobs.foldl (fun us j => j.run us.1 us.2) (u, s)

/-- the job overwrites everything it later reads from the scratch -/
def ScratchJob.Oblivious {U V : Type} (j : ScratchJob U V) : Prop :=
  ∀ u u' s, (j.run u s).2 = (j.run u' s).2

/-! ## rendering twice: the handle cache (`jxl-render/src/state.rs`, `image.rs`)

`FrameRenderHandle.render : Mutex<FrameRender>`; only the successful path is modelled here
(`Err` / `ErrTaken` / `InProgress` belong to C08 and C20). -/

inductive Handle (Img : Type) where
  /-- `FrameRender::None` -/
  | none
  /-- `FrameRender::Done(grid)` -/
  | done (grid : Img)
  /-- `FrameRender::Blended(Arc<grid>)` -/
  | blended (img : Img)
  deriving Repr, DecidableEq

/-- `run_with_image`: of the states modelled here `start_render` hands out only `None`;
`Done`/`Blended` are left alone (`Ok(None)` → `wait_until_render`) -/
def Handle.runWithImage {Img : Type} (h : Handle Img) (render : Unit → Img) : Handle Img :=
  match h with
  | .none => .done (render ())
  | h => h

/-- `RenderedImage::blend`: a `Blended` image is returned as is (`Arc::clone`); a `Done` grid is
composited once and stored. (`None` cannot occur after a successful `run_with_image`.) -/
def Handle.blend {Img : Type} (h : Handle Img) (composite : Img → Img) : Handle Img × Option Img :=
  match h with
  | .none => (.none, Option.none)
  | .done g => (.blended (composite g), some (composite g))
  | .blended i => (.blended i, some i)

/-- `render_by_index`: `run_with_image()?.blend(None, pool)` -/
def Handle.renderKeyframe {Img : Type} (h : Handle Img) (render : Unit → Img) (composite : Img → Img) :
    Handle Img × Option Img :=
  (h.runWithImage render).blend composite

/-! ## lazily initialised tables (`natural_order_lazy`, `sec_half`) -/

/-- `Once::call_once(init)` / `map.entry(k).or_insert_with(init)`: table slot and the value the
caller gets -/
def lazyGet {T : Type} (slot : Option T) (init : Unit → T) : Option T × T :=
  match slot with
  | some t => (some t, t)
  | none => (some (init ()), init ())

/-- any number of callers, in any order -/
def lazyGets {T : Type} (slot : Option T) (init : Unit → T) : Nat → Option T × List T
  | 0 => (slot, [])
  | n + 1 =>
    let (s1, t) := lazyGet slot init
    let (s2, ts) := lazyGets s1 init n
    (s2, t :: ts)

/-! ## `AllGroupOffsets` (`jxl-frame/src/lib.rs`): relaxed atomics used as a cache

For a frame whose TOC has a single entry the bit offsets of the LfGroup / HfGlobal / PassGroup
parts inside the one section are found by parsing the preceding part. Each offset lives in an
`AtomicUsize` (`0` = unknown). A reader `load`s; on `0` it re-parses the preceding part — a pure
function of the immutable section bytes, so every thread computes the same number — and `store`s
it. Nothing else is published through these atomics (the bytes are immutable), so `Relaxed`
ordering only has to give per-location coherence: every load returns `0` or a value some thread
stored. -/

inductive CacheEv where
  /-- some thread loads the atomic and then uses `if loaded = 0 then recomputed else loaded` -/
  | lookup
  /-- some thread stores the value it computed -/
  | store (x : Nat)
  deriving Repr, DecidableEq

/-- state of the atomic, and the offsets the lookups ended up using (in trace order) -/
def runCache (v : Nat) : Nat → List CacheEv → Nat × List Nat
  | c, [] => (c, [])
  | c, .lookup :: evs =>
    let (c', used) := runCache v c evs
    (c', (if c = 0 then v else c) :: used)
  | _, .store x :: evs => runCache v x evs

/-! ## noise seeds (`jxl-render/src/features/noise.rs`) -/

def U64 : Nat := 2 ^ 64

/-- `rng_seed0(visible_frames, invisible_frames) = ((visible as u64) << 32) + invisible as u64` -/
def rngSeed0 (visible invisible : Nat) : Nat := ((visible % U64) * 2 ^ 32 % U64 + invisible % U64) % U64

/-- `rng_seed1(x0, y0) = ((x0 as u64) << 32) + y0 as u64` -/
def rngSeed1 (x0 y0 : Nat) : Nat := ((x0 % U64) * 2 ^ 32 % U64 + y0 % U64) % U64

/-- `init_noise`: the seed pair of group `group_idx` — built in a sequential loop *before* the
parallel convolution, from the frame counters and the group's top-left corner only. `tid` (the
thread that later convolves the group) is an argument only to say that it is ignored. -/
def noiseSeed (visible invisible width groupDim groupIdx : Nat) (_tid : Nat) : Nat × Nat :=
  let groupsPerRow := (width + groupDim - 1) / groupDim
  let gx := groupIdx % groupsPerRow
  let gy := groupIdx / groupsPerRow
  (rngSeed0 visible invisible, rngSeed1 (gx * groupDim) (gy * groupDim))

/-- what a *wrong* implementation would do: seed from a per-thread job counter -/
def noiseSeedFromThreadCounter (visible invisible : Nat) (tid jobsDoneOnThread : Nat) : Nat × Nat :=
  (rngSeed0 visible invisible, rngSeed1 tid jobsDoneOnThread)

end Jxl.Tasks
