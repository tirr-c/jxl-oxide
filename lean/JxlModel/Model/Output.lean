/-!
# Output buffers (property C15): index arithmetic, regions, channel order, the stream cursor,
# sample conversions

Hand-written mirror of `crates/jxl-oxide/src/fb.rs` and of `Region::apply_orientation`
(`crates/jxl-render/src/region.rs`). The three orientation coordinate maps are NOT here: they are
generated from the source `match` arms into `JxlModel/Gen/Orientation.lean` on every run; what is
here is the independent statement of what the eight orientations mean (`specOrient`) and everything
around the maps.  Import-free.
-/
namespace Jxl.Output

/-! ## What the eight orientations mean (ISO/IEC 18181-1 `orientation`, identical to Exif) -/

/-- mirror left↔right inside a picture that is `w` wide -/
def flipH (w : Nat) (p : Nat × Nat) : Nat × Nat := (w - 1 - p.1, p.2)
/-- mirror top↔bottom inside a picture that is `h` high -/
def flipV (h : Nat) (p : Nat × Nat) : Nat × Nat := (p.1, h - 1 - p.2)
/-- mirror along the main diagonal -/
def transpose (p : Nat × Nat) : Nat × Nat := (p.2, p.1)

/-- where the stored sample `(x, y)` of a `w × h` image is displayed:
1 as is, 2 mirrored horizontally, 3 rotated by 180°, 4 mirrored vertically, 5 transposed,
6 rotated 90° clockwise, 7 transposed along the other diagonal, 8 rotated 90° anticlockwise -/
def specOrient (o w h : Nat) (p : Nat × Nat) : Nat × Nat :=
  match o with
  | 1 => p
  | 2 => flipH w p
  | 3 => flipV h (flipH w p)
  | 4 => flipV h p
  | 5 => transpose p
  | 6 => flipH h (transpose p)
  | 7 => flipV w (flipH h (transpose p))
  | 8 => flipV w (transpose p)
  | _ => p

/-- displayed size of a stored `w × h` image -/
def specDims (o w h : Nat) : Nat × Nat := if o ≤ 4 then (w, h) else (h, w)

/-! ## Buffer index arithmetic -/

/-- `FrameBuffer::from_grids`: `idx = c + (outx + outy * outw) * channels` -/
def interleavedIdx (w channels x y c : Nat) : Nat := c + (x + y * w) * channels

/-- `Render::image_planar` calls `from_grids` with one grid: `0 + (outx + outy * outw) * 1` -/
def planarIdx (w x y : Nat) : Nat := x + y * w

/-! ## Regions -/

/-- `jxl_render::Region` -/
structure Region where
  left : Int
  top : Int
  width : Nat
  height : Nat
  deriving Repr, BEq, DecidableEq, Inhabited

def Region.translate (r : Region) (x y : Int) : Region := { r with left := r.left + x, top := r.top + y }

def Region.contains (r : Region) (x y : Int) : Prop :=
  r.left ≤ x ∧ x < r.left + r.width ∧ r.top ≤ y ∧ y < r.top + r.height

/-- The corner arithmetic of `Region::apply_orientation`: all there was before the repair
`fix-C15-empty-crop` (witness `C15_region_orientation_empty_request_witness`), now the branch for
non-empty requests. -/
def regionApplyOrientationOld (pt : Int → Int → Int × Int) (r : Region) : Region :=
  let lt := pt r.left r.top
  let rb := pt (r.left + r.width - 1) (r.top + r.height - 1)
  let left := lt.1
  let top := lt.2
  let right := rb.1
  let bottom := rb.2
  let (left, right) := if left > right then (right, left) else (left, right)
  let (top, bottom) := if top > bottom then (bottom, top) else (top, bottom)
  { left := left, top := top, width := (right - left).natAbs + 1, height := (bottom - top).natAbs + 1 }

/-- `Region::apply_orientation` (region.rs; the translator pins its text). `pt l t` stands for
`image_header.metadata.apply_orientation(image_width, image_height, l, t, true)` restricted to its
`(left, top)` result, with `image_width/height` the *oriented* header dimensions; `dims w h` for
the `(width, height)` result of `apply_orientation(w, h, 0, 0, true)`. An empty request stays
empty (its sizes swapped like any other). -/
def regionApplyOrientation (pt : Int → Int → Int × Int) (dims : Nat → Nat → Nat × Nat) (r : Region) : Region :=
  if r.width = 0 ∨ r.height = 0 then
    { left := 0, top := 0, width := (dims r.width r.height).1, height := (dims r.width r.height).2 }
  else regionApplyOrientationOld pt r

/-- `usize::checked_add_signed` -/
def checkedAddSigned (x : Nat) (b : Int) : Option Nat :=
  if 0 ≤ (x : Int) + b then some ((x : Int) + b).toNat else none

/-- `from_grids`: the position inside a grid covering `g` of pixel `(x, y)` of the copy region
(`base_x = left - region.left`, out of the grid ⇒ the sample is 0) -/
def gridPos (copyLeft copyTop : Int) (g : Region) (x y : Nat) : Option (Nat × Nat) :=
  match checkedAddSigned x (copyLeft - g.left), checkedAddSigned y (copyTop - g.top) with
  | some gx, some gy => if gx ≥ g.width || gy ≥ g.height then none else some (gx, gy)
  | _, _ => none

/-! ## Channel order of the sample streams -/

/-- extra channel type codes (`ExtraChannelType`): 0 alpha, 1 depth, 2 spot colour, 3 selection
mask, 4 black, 5 CFA, 6 thermal, 15 non-optional, 16 optional -/
def tyAlpha : Nat := 0
def tyBlack : Nat := 4
def tySpot : Nat := 2

/-- index of the first extra channel of type `ty` -/
def firstOfType (ty : Nat) : List Nat → Option Nat
  | [] => none
  | t :: r => if t = ty then some 0 else (firstOfType ty r).map (· + 1)

/-- `ImageStream::from_render`: indices (into colour channels followed by extra channels) of the
channels a stream carries, in order: the colour channels, then the first black channel if the
requested colour encoding is CMYK, then the first alpha channel unless `skipAlpha`
(`Render::stream_no_alpha`). -/
def streamChannels (nColor : Nat) (ecTypes : List Nat) (isCmyk skipAlpha : Bool) : List Nat :=
  List.range nColor
    ++ (if isCmyk then ((firstOfType tyBlack ecTypes).map (nColor + ·)).toList else [])
    ++ (if skipAlpha then [] else ((firstOfType tyAlpha ecTypes).map (nColor + ·)).toList)

/-- `PixelFormat::channels` for `JxlImage::pixel_format` -/
def pixelFormatChannels (gray isCmyk hasAlpha : Bool) : Nat :=
  match gray, isCmyk, hasAlpha with
  | false, false, false => 3
  | false, false, true => 4
  | false, true, false => 4
  | false, true, true => 5
  | true, _, false => 1
  | true, _, true => 2

/-! ## `ImageStream::write_to_buffer` as a resumable cursor machine -/

/-- the fields `y, x, c` of `ImageStream` -/
structure Cursor where
  y : Nat
  x : Nat
  c : Nat
  deriving Repr, BEq, DecidableEq, Inhabited

/-- all three loop conditions hold: the next buffer slot receives sample `(y, x, c)` -/
def atSample (W H C : Nat) (s : Cursor) : Bool := decide (s.y < H) && decide (s.x < W) && decide (s.c < C)

/-- after a sample: `c += 1`; leaving the channel loop: `c = 0; x += 1`; leaving the column loop:
`x = 0; y += 1` -/
def bump (W C : Nat) (s : Cursor) : Cursor :=
  if s.c + 1 < C then { s with c := s.c + 1 }
  else if s.x + 1 < W then { y := s.y, x := s.x + 1, c := 0 }
  else { y := s.y + 1, x := 0, c := 0 }

/-- one call with a destination of `n` slots: the coordinates written, in order, and the cursor
left behind (`break 'outer` keeps it; running out of samples ends the call) -/
def writeToBuffer (W H C : Nat) : Nat → Cursor → List (Nat × Nat × Nat) × Cursor
  | 0, s => ([], s)
  | n + 1, s =>
    if atSample W H C s then
      let r := writeToBuffer W H C n (bump W C s)
      ((s.y, s.x, s.c) :: r.1, r.2)
    else ([], s)

/-- successive calls with the given destination sizes -/
def writeCalls (W H C : Nat) : List Nat → Cursor → List (List (Nat × Nat × Nat)) × Cursor
  | [], s => ([], s)
  | n :: ns, s =>
    let r := writeToBuffer W H C n s
    let rest := writeCalls W H C ns r.2
    (r.1 :: rest.1, rest.2)

/-- row-major enumeration of `H` rows, `W` columns, `C` channels -/
def rowMajor (W H C : Nat) : List (Nat × Nat × Nat) :=
  (List.range (W * H * C)).map fun k => (k / (W * C), k / C % W, k % C)

/-! ## Sample conversions -/

/-- `BitDepth::parse_integer_sample` for integer samples (with the F7 repair: the divisor is
`2^bits - 1` also for 31 bits): both `as f32` conversions round to nearest-even, then one f32
division -/
def parseIntegerSample (bits : Nat) (s : Int) : Float32 :=
  Float32.ofInt s / Float32.ofNat (2 ^ bits - 1)

/-- `f32::clamp` -/
def clampF (x lo hi : Float32) : Float32 :=
  let x := if x < lo then lo else x
  if x > hi then hi else x

def clampD (x lo hi : Float) : Float :=
  let x := if x < lo then lo else x
  if x > hi then hi else x

/-- `Sealed::copy_from_f32` for `u8` (with the repair `fix-C15-int-rounding`):
`(val as f64 * 255.0 + 0.5).clamp(0.0, 255.0) as u8` — product and sum are exact in f64, so this
is round-half-up of the exact product, clamped; NaN gives 0 -/
def f32ToU8 (v : Float32) : Nat := (clampD (v.toFloat * 255.0 + 0.5) 0.0 255.0).toUInt8.toNat

/-- `Sealed::copy_from_f32` for `u16` -/
def f32ToU16 (v : Float32) : Nat := (clampD (v.toFloat * 65535.0 + 0.5) 0.0 65535.0).toUInt16.toNat

/-- the conversions before the repair: both operations in f32 (two roundings), kept for the
record of finding C15-double-rounding -/
def f32ToU8Old (v : Float32) : Nat := (clampF (v * 255.0 + 0.5) 0.0 255.0).toUInt8.toNat
def f32ToU16Old (v : Float32) : Nat := (clampF (v * 65535.0 + 0.5) 0.0 65535.0).toUInt16.toNat

def clampInt (v lo hi : Int) : Int := if v < lo then lo else if v > hi then hi else v

/-- `u8::copy_from_grid` on an integer grid: 8-bit images are copied with a clamp, everything
else goes through f32 -/
def intToU8 (bits : Nat) (s : Int) : Nat :=
  if bits = 8 then (clampInt s 0 255).toNat else f32ToU8 (parseIntegerSample bits s)

/-- `u16::copy_from_grid` on an integer grid -/
def intToU16 (bits : Nat) (s : Int) : Nat :=
  if bits = 16 then (clampInt s 0 65535).toNat else f32ToU16 (parseIntegerSample bits s)

/-- what "correctly rounded and clamped" means for an integer sample `s` of depth `bits` written
to an integer type with maximum `m`: `s / (2^bits - 1) * m` rounded half up in exact arithmetic,
clamped to `0..m` -/
def idealRound (bits m : Nat) (s : Int) : Nat :=
  let d : Int := 2 ^ bits - 1
  if d ≤ 0 then 0 else
  (clampInt ((2 * s * m + d) / (2 * d)) 0 m).toNat

/-- spot colour mixing of `ImageStream::write_to_buffer` for one colour sample (all in f32): per
spot channel in order `tmp = color * mix + tmp * (1 - mix)` with `mix = spot_sample * solidity`
(`0.0` where the spot channel has no sample); the list holds `(color, mix)` -/
def mixSpot (base : Float32) (spots : List (Float32 × Float32)) : Float32 :=
  spots.foldl (fun tmp (color, mix) => color * mix + tmp * (1.0 - mix)) base

end Jxl.Output
