import JxlModel.Model.Subgrid
import JxlModel.Model.Tasks
/-!
# The job lists of the parallel stages, as functions of geometry

Every parallel stage of the renderer builds its job list from sub-grid geometry with the
operations of `Model/Subgrid.lean`. The thread pool is in scope at each of these sites (it is the
object the list is handed to); it is an explicit — and unused — argument `_pool` here, so that
"the job list does not depend on the pool" is a statement about these definitions.
The transcription is pinned against the source text by `tools/props/c07.py` (the argument
expressions of the `into_groups` / `split_vertical_in_place` / `chunks_mut` calls, and that no
`is_multithreaded` / `current_num_threads` occurs in the crates that build job lists, but for
`RenderContext::spawn_renderer` of jxl-render, which starts no background render on a pool that
is not multithreaded and builds no job list).
-/
namespace Jxl.Tasks
open Jxl.Subgrid

/-- `rct.rs run_rows_unsafe`: `g.borrow_mut().into_groups(width, 16)` (per channel; nothing is
spawned for an empty grid). The jobs are then popped from the back, so the *list order* is
reversed — irrelevant for a confluent job list, and kept here. -/
def rctBands (_pool : Pool) (g : SubGrid) : Outcome (List SubGrid) :=
  if g.w = 0 ∨ g.h = 0 then .ok []
  else
    match borrowMut g with
    | .panic s => .panic s
    | .ok b =>
      match intoGroups .checked b g.w 16 with
      | .panic s => .panic s
      | .ok gs => .ok gs.reverse

/-- `transform.rs SqueezeParams::inverse`, horizontal step: after the merge,
`if height > 16 { i0.split_vertical(0).1.into_groups(width, 16) } else { one job: i0 }` -/
def squeezeHBands (_pool : Pool) (g : SubGrid) : Outcome (List SubGrid) :=
  if g.h > 16 then
    match splitV g 0 with
    | .panic s => .panic s
    | .ok (_, remaining) => intoGroups .checked remaining g.w 16
  else .ok [g]

/-- vertical step: `if width > 16 { i0.split_horizontal(0).1.into_groups(16, height) }` -/
def squeezeVStrips (_pool : Pool) (g : SubGrid) : Outcome (List SubGrid) :=
  if g.w > 16 then
    match splitH g 0 with
    | .panic s => .panic s
    | .ok (_, remaining) => intoGroups .checked remaining 16 g.h
  else .ok [g]

/-- group grids: `out.as_subgrid_mut().into_groups(group_dim, group_dim)` (`init_noise`), the
colour groups of `color_groups_with_group_id`, the pass-group sub-images of `prepare_groups` -/
def groupGrid (_pool : Pool) (g : SubGrid) (groupDim : Nat) : Outcome (List SubGrid) :=
  intoGroups .checked g groupDim groupDim

/-- `filter/epf.rs run_epf_rows`: `for dy in (0..height).step_by(8)` with
`split_vertical_in_place((height - dy).min(8))` — 8-row output bands.
`fuel` ≥ number of bands. -/
def epfBands (_pool : Pool) : Nat → SubGrid → Outcome (List SubGrid)
  | 0, _ => .ok []
  | fuel + 1, g =>
    if g.h = 0 then .ok []
    else
      match splitVInPlace g (min g.h 8) with
      | .panic s => .panic s
      | .ok (band, next) =>
        match epfBands _pool fuel next with
        | .panic s => .panic s
        | .ok rest => .ok (band :: rest)

/-- `filter/gabor.rs run_gabor_rows_unsafe`: the inner rows `1 .. height-1` of the output buffer in
`chunks_mut(width * 8)`: `(first output row, number of rows)` per job -/
def gaborChunks (_pool : Pool) (height : Nat) : List (Nat × Nat) :=
  if height < 2 then []
  else (List.range ((height - 2 + 7) / 8)).map fun k => (1 + 8 * k, min 8 (height - 2 - 8 * k))

/-- `jxl-color convert.rs run_with_threads`: `ch.chunks_mut(65536)` per channel:
`(first sample, number of samples)` per job -/
def colourChunks (_pool : Pool) (len : Nat) : List (Nat × Nat) :=
  (List.range ((len + 65535) / 65536)).map fun k => (65536 * k, min 65536 (len - 65536 * k))

/-- the `k`-th 16-row band of a grid, written out (`base` = the `split_base` it carries) -/
def band16 (g : SubGrid) (base : Nat) (k : Nat) : SubGrid :=
  ⟨g.off + (min (k * 16) g.h) * g.stride, g.w, min (g.h - min (k * 16) g.h) 16, g.stride,
    some base⟩

/-- a job that works in place on the cells of one sub-grid, one atomic step per row
(`for y in 0..height { f(row) }` of the RCT / squeeze jobs): `rowf` maps the old row contents
(restricted store) to the new value of each cell of that row -/
def inPlaceRowTask {V : Type} (rowf : Store V → Cell → V) (g : SubGrid) : Task V :=
  ⟨(List.range g.h).map fun y =>
    let row := (List.range g.w).map fun x => index g x y
    { reads := row, writes := row, f := rowf }⟩

end Jxl.Tasks
