import JxlModel.Model.Bundle
/-!
# F16 → f32: the converted pattern denotes the same number (C14)

`f16Scaled b` is the binary16 pattern `b` as a multiple of 2^-24, `f32Scaled x` the binary32
pattern `x` as a multiple of 2^-149. `f16ToF32Bits` (integer transcription of
`Bitstream::read_f16_as_f32`) satisfies `f32Scaled (f16ToF32Bits b) = f16Scaled b * 2^125` for every
finite pattern. Both readings are sign times magnitude, and a magnitude determines exponent and
mantissa: a value determines its pattern up to the sign of zero (injectivity, `Props/C14.lean`).
-/
namespace Jxl.Bundle

/-- magnitude of a binary16 pattern with exponent field `e` and mantissa `m`, in units of 2^-24 -/
def f16Mag (e m : Nat) : Nat := if e = 0 then m else (1024 + m) * 2 ^ (e - 1)

/-- magnitude of a binary32 pattern with exponent field `e` and mantissa `m`, in units of 2^-149 -/
def f32Mag (e m : Nat) : Nat := if e = 0 then m else (8388608 + m) * 2 ^ (e - 1)

theorem f16Scaled_eq (v : Nat) :
    f16Scaled v = (if v / 0x8000 % 2 = 1 then -1 else 1) * (f16Mag (v / 1024 % 32) (v % 1024) : Int) := by
  simp only [f16Scaled, f16Mag, beq_iff_eq, Int.ofNat_eq_natCast]
  by_cases hs : v / 0x8000 % 2 = 1 <;> by_cases he : v / 1024 % 32 = 0 <;> simp [hs, he]

theorem f32Scaled_mk (s e m : Nat) (hs : s < 2) (he : e < 256) (hm : m < 8388608) :
    f32Scaled (s * 2147483648 + e * 8388608 + m) = (if s = 1 then -1 else 1) * (f32Mag e m : Int) := by
  have h1 : (s * 2147483648 + e * 8388608 + m) / 0x80000000 % 2 = s := by omega
  have h2 : (s * 2147483648 + e * 8388608 + m) / 0x800000 % 256 = e := by omega
  have h3 : (s * 2147483648 + e * 8388608 + m) % 0x800000 = m := by omega
  simp only [f32Scaled, f32Mag, h1, h2, h3, beq_iff_eq, Int.ofNat_eq_natCast]
  by_cases hs1 : s = 1 <;> by_cases he0 : e = 0 <;> simp [hs1, he0]

/-- a subnormal mantissa shifted so that its leading bit becomes the implicit one -/
theorem subnormal_shift (m : Nat) (h0 : m ≠ 0) (hm : m < 1024) :
    Nat.log2 m ≤ 9 ∧ 8388608 ≤ m * 2 ^ (23 - Nat.log2 m) ∧ m * 2 ^ (23 - Nat.log2 m) < 16777216 := by
  have hlo : 2 ^ Nat.log2 m ≤ m := Nat.log2_self_le h0
  have hhi : m < 2 ^ (Nat.log2 m + 1) := Nat.lt_log2_self
  have h9 : Nat.log2 m ≤ 9 := Nat.le_of_lt_succ ((Nat.log2_lt h0).mpr hm)
  refine ⟨h9, ?_, ?_⟩
  · calc 8388608 = 2 ^ Nat.log2 m * 2 ^ (23 - Nat.log2 m) := by
          rw [← Nat.pow_add, show Nat.log2 m + (23 - Nat.log2 m) = 23 by omega]
      _ ≤ m * 2 ^ (23 - Nat.log2 m) := Nat.mul_le_mul_right _ hlo
  · calc m * 2 ^ (23 - Nat.log2 m) < 2 ^ (Nat.log2 m + 1) * 2 ^ (23 - Nat.log2 m) :=
          Nat.mul_lt_mul_of_pos_right hhi (Nat.two_pow_pos _)
      _ = 16777216 := by
          rw [← Nat.pow_add, show Nat.log2 m + 1 + (23 - Nat.log2 m) = 24 by omega]

/-- `2 ^ 125`: one unit of `2^-24` is `2^125` units of `2^-149`. -/
theorem f16ToF32Bits_fields (b : Nat) (h : f16Valid b = true) :
    ∃ E M, E < 255 ∧ M < 8388608 ∧ f32Mag E M = f16Mag (b / 1024 % 32) (b % 1024) * 2 ^ 125 ∧
      f16ToF32Bits b = b / 0x8000 % 2 * 2147483648 + E * 8388608 + M := by
  simp only [f16Valid, Bool.and_eq_true, decide_eq_true_eq, bne_iff_ne, ne_eq] at h
  have he : b / 1024 % 32 < 31 := by omega
  have hm : b % 1024 < 1024 := by omega
  simp only [f16ToF32Bits, beq_iff_eq, Bool.and_eq_true]
  -- from here on the three fields are independent numbers
  generalize b / 0x8000 % 2 = s
  generalize b / 1024 % 32 = e at he ⊢
  generalize b % 1024 = m at hm ⊢
  by_cases he0 : e = 0
  · subst he0
    by_cases hm0 : m = 0
    · subst hm0
      exact ⟨0, 0, by omega, by omega, by simp [f16Mag, f32Mag], by simp⟩
    · -- subnormal: m·2^-24 = (2^23 + frac)·2^(h+103-1)·2^-149
      obtain ⟨h9, hlo, hhi⟩ := subnormal_shift m hm0 hm
      refine ⟨m.log2 + 103, m * 2 ^ (23 - m.log2) % 8388608, by omega, by omega, ?_, by simp [hm0]⟩
      have hk : 8388608 + m * 2 ^ (23 - m.log2) % 8388608 = m * 2 ^ (23 - m.log2) := by omega
      have hp : 2 ^ (23 - m.log2) * 2 ^ (m.log2 + 103 - 1) = 2 ^ 125 := by
        rw [← Nat.pow_add, show 23 - m.log2 + (m.log2 + 103 - 1) = 125 by omega]
      simp only [f32Mag, f16Mag, Nat.add_eq_zero_iff, if_true]
      rw [if_neg (by omega), hk, Nat.mul_assoc, hp]
  · -- normal: (1024 + m)·2^(e-1)·2^-24 = (2^23 + m·2^13)·2^(e+112-1)·2^-149
    refine ⟨e + 112, m * 8192, by omega, by omega, ?_, by simp [he0]⟩
    have e1 : e + 112 - 1 = (e - 1) + 112 := by omega
    have e2 : 8388608 + m * 8192 = (1024 + m) * 8192 := by omega
    simp only [f32Mag, f16Mag, he0, if_false]
    rw [if_neg (by omega), e1, e2, Nat.pow_add, Nat.mul_assoc, Nat.mul_assoc]
    congr 1
    rw [Nat.mul_left_comm]

theorem f16_value_exact (b : Nat) (h : f16Valid b = true) :
    f32Scaled (f16ToF32Bits b) = f16Scaled b * 2 ^ 125 ∧
      f16ToF32Bits b / 0x800000 % 256 ≠ 255 ∧ f16ToF32Bits b < 2 ^ 32 := by
  obtain ⟨E, M, hE, hM, hmag, hbits⟩ := f16ToF32Bits_fields b h
  have hs : b / 0x8000 % 2 < 2 := by omega
  rw [f16Scaled_eq, hbits, f32Scaled_mk _ E M hs (by omega) hM, hmag, Int.natCast_mul, Int.mul_assoc]
  exact ⟨rfl, by omega, by omega⟩

theorem f16Mag_bounds (e m : Nat) (hm : m < 1024) (he : e ≠ 0) :
    2 ^ (e + 9) ≤ f16Mag e m ∧ f16Mag e m < 2 ^ (e + 10) := by
  have e1 : 2 ^ (e + 9) = 1024 * 2 ^ (e - 1) := by
    rw [show e + 9 = 10 + (e - 1) by omega, Nat.pow_add]
  have e2 : 2 ^ (e + 10) = 2048 * 2 ^ (e - 1) := by
    rw [show e + 10 = 11 + (e - 1) by omega, Nat.pow_add]
  simp only [f16Mag, he, if_false, e1, e2]
  exact ⟨Nat.mul_le_mul_right _ (by omega),
    Nat.mul_lt_mul_of_pos_right (by omega) (Nat.two_pow_pos _)⟩

theorem f16Mag_eq_zero (e m : Nat) (hm : m < 1024) (h : f16Mag e m = 0) : e = 0 ∧ m = 0 := by
  by_cases he : e = 0
  · simp only [f16Mag, he, if_true] at h
    exact ⟨he, h⟩
  · have := (f16Mag_bounds e m hm he).1
    have := Nat.two_pow_pos (e + 9)
    omega

theorem f16Mag_inj (e m e' m' : Nat) (hm : m < 1024) (hm' : m' < 1024)
    (h : f16Mag e m = f16Mag e' m') : e = e' ∧ m = m' := by
  -- magnitudes with different exponent fields lie in different binades
  have key : ∀ a x b y, x < 1024 → y < 1024 → a < b → f16Mag a x ≠ f16Mag b y := by
    intro a x b y hx hy hab heq
    have hb := f16Mag_bounds b y hy (by omega)
    have hmono : 2 ^ (a + 10) ≤ 2 ^ (b + 9) := Nat.pow_le_pow_right (by decide) (by omega)
    by_cases ha : a = 0
    · subst ha
      have hx0 : f16Mag 0 x = x := by simp [f16Mag]
      rw [hx0] at heq
      omega
    · have := f16Mag_bounds a x hx ha
      omega
  rcases Nat.lt_trichotomy e e' with hlt | heq | hgt
  · exact absurd h (key e m e' m' hm hm' hlt)
  · subst heq
    refine ⟨rfl, ?_⟩
    by_cases he : e = 0
    · simpa [f16Mag, he] using h
    · simp only [f16Mag, he, if_false] at h
      have := Nat.eq_of_mul_eq_mul_right (Nat.two_pow_pos _) h
      omega
  · exact absurd h.symm (key e' m' e m hm' hm hgt)

theorem f16Scaled_natAbs (v : Nat) : (f16Scaled v).natAbs = f16Mag (v / 1024 % 32) (v % 1024) := by
  rw [f16Scaled_eq, Int.natAbs_mul, Int.natAbs_natCast]
  split <;> simp

theorem f16Scaled_injective_up_to_zero (a b : Nat) (ha : f16Valid a = true) (hb : f16Valid b = true)
    (hab : f16Scaled a = f16Scaled b) : a = b ∨ (a % 32768 = 0 ∧ b % 32768 = 0) := by
  simp only [f16Valid, Bool.and_eq_true, decide_eq_true_eq, bne_iff_ne, ne_eq] at ha hb
  have hmag : f16Mag (a / 1024 % 32) (a % 1024) = f16Mag (b / 1024 % 32) (b % 1024) := by
    rw [← f16Scaled_natAbs, ← f16Scaled_natAbs, hab]
  obtain ⟨he, hm⟩ := f16Mag_inj _ _ _ _ (by omega) (by omega) hmag
  by_cases hs : a / 0x8000 % 2 = b / 0x8000 % 2
  · -- a pattern below 2^16 is made of its three fields
    left
    omega
  · -- opposite signs and equal magnitudes: both are zero
    right
    rw [f16Scaled_eq, f16Scaled_eq, ← hmag] at hab
    have h0 : f16Mag (a / 1024 % 32) (a % 1024) = 0 := by
      split at hab <;> split at hab <;> omega
    obtain ⟨z1, z2⟩ := f16Mag_eq_zero _ _ (by omega) h0
    omega

end Jxl.Bundle
