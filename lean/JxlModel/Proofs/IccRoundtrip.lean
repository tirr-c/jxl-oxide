import JxlModel.Proofs.IccMain
import JxlModel.Proofs.IccTags
/-!
The round trip of C18: tag section, main section and framing put together.
-/
namespace Jxl.Icc

theorem decodeMain_encMain (profile : List Nat) (hb : IsBytes profile) (hl : profile.length < 2 ^ 63)
    (segs : List Seg) (pos : Nat) (hmain : mainCovers profile segs pos = true) :
    decodeMain profile.length (encMain profile pos segs).1 (encMain profile pos segs).2
      (profile.take pos).toArray = .ok profile := by
  unfold decodeMain
  rw [mainLoop_encMain profile hb hl segs pos _ hmain (Nat.lt_succ_self _)]
  simp

theorem tagsCover_some {profile : List Nat} {t : TagPlan} {pos : Nat}
    (h : tagsCover profile (some t) = some pos) :
    132 ≤ profile.length ∧ t.numTags ≤ (profile.length - 128) / 12 ∧
    slice profile 128 4 = be32 t.numTags ∧
    tagCmdsCover profile t.cmds 132 (t.numTags * 12 + 128) 0 = some pos := by
  simp only [tagsCover] at h
  split at h
  · rename_i hc
    simp only [Bool.and_eq_true, decide_eq_true_eq, beq_iff_eq] at hc
    exact ⟨hc.1.1, hc.1.2, hc.2, h⟩
  · cases h

theorem decodeBody_encTags (profile : List Nat) (hb : IsBytes profile)
    (hl : profile.length ≤ 268435456) (tp : Option TagPlan) (pos : Nat) (mc md : List Nat)
    (htags : tagsCover profile tp = some pos)
    (hstop : ∀ t, tp = some t → t.terminator = true ∨ mc = []) :
    (encTags profile tp).2.2 = pos ∧
    decodeBody profile.length ((encTags profile tp).1 ++ mc) ((encTags profile tp).2.1 ++ md)
      (profile.take 128).toArray = decodeMain profile.length mc md (profile.take pos).toArray := by
  cases tp with
  | none =>
    cases htags
    refine ⟨rfl, ?_⟩
    simp only [encTags, decodeBody]
    rw [readVarint_encVarint 0 _ (by decide)]
    rfl
  | some t =>
    obtain ⟨h132, hnt, h4, hcmds⟩ := tagsCover_some htags
    obtain ⟨hpos, ps', pz', hloop⟩ := tagLoop_encTagCmds profile hb t.terminator mc md
      (hstop t rfl) t.cmds 132 (t.numTags * 12 + 128) 0 _ pos hcmds (Nat.lt_succ_self _)
    refine ⟨hpos, ?_⟩
    simp only [encTags, decodeBody, List.append_assoc]
    rw [readVarint_encVarint (t.numTags + 1) _ (by omega)]
    simp only [decodeTags, Nat.add_one_ne_zero, if_false, Nat.add_sub_cancel]
    rw [if_neg (by omega), ← h4, take_toArray_append_slice, hloop]

/-! The command stream of a plan with at most 2^28 commands of each kind stays far below 2^63
bytes, so its length survives the varint in front of it. A varint has at most 9 bytes; a main
command at most 20 (`4`, the flag byte, two varints); a tag command at most 19 (command byte, two
varints); the tag section adds a varint and the terminator. -/

theorem length_encSeg_le (profile : List Nat) (pos : Nat) (seg : Seg) :
    (encSeg profile pos seg).1.length ≤ 20 := by
  cases seg with
  | raw n | shuf2 n | shuf4 n => have := length_encVarint n; simp [encSeg]; omega
  | pred w o st hi n =>
    have := length_encVarint n
    cases st with
    | none => simp [encSeg, encStride]; omega
    | some s => have := length_encVarint s; simp [encSeg, encStride]; omega
  | xyz | common k => simp [encSeg]

theorem length_encMain_le (profile : List Nat) : ∀ (segs : List Seg) (pos : Nat),
    (encMain profile pos segs).1.length ≤ 20 * segs.length := by
  intro segs
  induction segs with
  | nil => intro pos; simp [encMain]
  | cons s ss ih =>
    intro pos
    have h1 := length_encSeg_le profile pos s
    have h2 := ih (pos + segLen s)
    simp only [encMain, List.length_append, List.length_cons]
    omega

theorem length_ite_nil_le (c : Bool) (l : List Nat) (n : Nat) (h : l.length ≤ n) :
    (if c then l else []).length ≤ n := by
  cases c
  · exact Nat.zero_le n
  · exact h

theorem length_encTagArgs_le (profile : List Nat) (pos : Nat) (c : TagCmd) :
    (encTagArgs profile pos c).length ≤ 18 := by
  have h1 := length_ite_nil_le c.explicitStart _ 9 (length_encVarint (readBe32 profile (pos + 4)))
  have h2 := length_ite_nil_le c.explicitSize _ 9 (length_encVarint (readBe32 profile (pos + 8)))
  rw [encTagArgs, List.length_append]
  omega

theorem length_encTagCmds_le (profile : List Nat) : ∀ (cs : List TagCmd) (pos : Nat),
    (encTagCmds profile pos cs).1.length ≤ 19 * cs.length := by
  intro cs
  induction cs with
  | nil => intro pos; simp [encTagCmds]
  | cons c cs ih =>
    intro pos
    have h2 := ih (pos + tagCmdLen c)
    have h3 := length_encTagArgs_le profile pos c
    simp only [encTagCmds, encTagCmd, List.length_append, List.length_cons]
    omega

theorem length_encTags_le (profile : List Nat) (t : Option TagPlan) :
    (encTags profile t).1.length ≤ 10 + 19 * tagCmdCount t := by
  cases t with
  | none => have := length_encVarint 0; simp [encTags, tagCmdCount]; omega
  | some t =>
    have h1 := length_encVarint (t.numTags + 1)
    have h2 := length_encTagCmds_le profile t.cmds 132
    simp only [encTags, tagCmdCount, List.length_append]
    split <;> simp <;> omega

theorem decodeIcc_frame (size : Nat) (cmds hdr data : List Nat) (hs : size ≤ 268435456)
    (hc : cmds.length < 2 ^ 63) (hh : hdr.length = min size 128) :
    decodeIcc (encVarint size ++ (encVarint cmds.length ++ (cmds ++ (hdr ++ data)))) =
      if size ≤ 128 then .ok (decodeHeader size hdr)
      else decodeBody size cmds data (decodeHeader size hdr).toArray := by
  unfold decodeIcc
  rw [readVarint_encVarint _ _ (Nat.lt_of_le_of_lt hs (by decide))]
  simp only
  rw [readVarint_encVarint _ _ hc]
  simp only
  rw [if_neg (by simp), if_neg (by omega), List.drop_left, List.take_left]
  unfold decodeFramed
  rw [if_neg (by simp [hh]), ← hh, List.take_left, List.drop_left]

theorem planCovers_elim {plan : Plan} {profile : List Nat} (h : planCovers plan profile = true) :
    IsBytes profile ∧ profile.length ≤ 268435456 ∧ plan.main.length ≤ 268435456 ∧
    tagCmdCount plan.tags ≤ 268435456 ∧
    (128 < profile.length → ∃ pos, tagsCover profile plan.tags = some pos ∧
      (∀ t, plan.tags = some t → t.terminator = true ∨ plan.main = []) ∧
      mainCovers profile plan.main pos = true) := by
  unfold planCovers at h
  simp only [Bool.and_eq_true, decide_eq_true_eq] at h
  obtain ⟨⟨⟨⟨hall, hl⟩, hml⟩, htl⟩, hrest⟩ := h
  refine ⟨isBytes_of_all hall, hl, hml, htl, fun h128 => ?_⟩
  rw [if_neg (by omega)] at hrest
  cases htags : tagsCover profile plan.tags with
  | none => rw [htags] at hrest; cases hrest
  | some pos =>
    rw [htags] at hrest
    simp only [Bool.and_eq_true] at hrest
    refine ⟨pos, rfl, fun t ht => ?_, hrest.2⟩
    have := hrest.1
    rw [ht] at this
    simpa using this

end Jxl.Icc
