import JxlModel.Model.Region
import JxlModel.Proofs.Util
import JxlModel.Proofs.Orient
/-!
Two ideas carry most of the file: `Region::intersection` is characterised by its cells
(`mem_intersection`) and by always returning `Region.empty` for an empty result, so that equations
between intersections follow by extensionality (`eq_of_mem_iff`); and `downsample` is the lower
adjoint of `upsample` for the box order (`downsample_within_iff`), from which the containments
between chains of `pad` / `downsample` / `upsample` follow without arithmetic.
-/
namespace Jxl.Region
open Region

theorem Within.subset {a b : Region} (h : a.Within b) : Region.Subset a b := by
  unfold Within at h; unfold Region.Subset Mem; intro x y; omega

theorem Within.refl (a : Region) : a.Within a := by unfold Within; omega

theorem Within.trans {a b c : Region} (h1 : a.Within b) (h2 : b.Within c) : a.Within c := by
  unfold Within at *; omega

theorem Within.antisymm {a b : Region} (h1 : a.Within b) (h2 : b.Within a) : a = b := by
  unfold Within at *
  cases a; cases b
  simp only [Region.mk.injEq] at *
  omega

theorem pad_within_pad {a b : Region} {m n : Nat} (hmn : m ≤ n) (h : a.Within b) :
    (a.pad m).Within (b.pad n) := by
  unfold Within pad at *; simp only []; omega

theorem within_pad (r : Region) (n : Nat) : r.Within (r.pad n) := by
  unfold Within pad; simp only []; omega

theorem pad_pad (r : Region) (m n : Nat) : (r.pad m).pad n = r.pad (m + n) := by
  unfold pad; simp only [Region.mk.injEq]; omega

theorem within_of_subset {a b : Region} (hne : a.isEmpty = false) (h : Region.Subset a b) : a.Within b := by
  unfold Region.Subset Mem at h
  simp only [isEmpty, Bool.or_eq_false_iff, beq_eq_false_iff_ne] at hne
  have h1 := h a.left a.top (by omega)
  have h2 := h (a.left + a.width - 1) (a.top + a.height - 1) (by omega)
  unfold Within; omega

theorem not_isEmpty_of_mem {r : Region} {x y : Int} (h : Mem x y r) : r.isEmpty = false := by
  unfold Mem at h
  simp only [isEmpty, Bool.or_eq_false_iff, beq_eq_false_iff_ne]
  omega

theorem mem_origin {r : Region} (h : r.isEmpty = false) : Mem r.left r.top r := by
  simp only [isEmpty, Bool.or_eq_false_iff, beq_eq_false_iff_ne] at h
  unfold Mem
  omega

theorem not_isEmpty_of_pos {r : Region} (hw : 0 < r.width) (hh : 0 < r.height) : r.isEmpty = false := by
  simp only [isEmpty, Bool.or_eq_false_iff, beq_eq_false_iff_ne]
  omega

theorem not_isEmpty_of_within {a b : Region} (h : a.Within b) (ha : a.isEmpty = false) :
    b.isEmpty = false := by
  unfold Within at h
  simp only [isEmpty, Bool.or_eq_false_iff, beq_eq_false_iff_ne] at ha ⊢
  omega

theorem mem_pad (r : Region) (n : Nat) (x y : Int) :
    Mem x y (r.pad n) ↔
      r.left - n ≤ x ∧ x < r.left + r.width + n ∧ r.top - n ≤ y ∧ y < r.top + r.height + n := by
  unfold Mem pad; simp only []; omega

theorem translate_within_mono {a b : Region} (x y : Int) (h : a.Within b) :
    (a.translate x y).Within (b.translate x y) := by
  unfold Within translate at *; simp only []; omega

theorem mem_translate (r : Region) (dx dy x y : Int) :
    Mem x y (r.translate dx dy) ↔ Mem (x - dx) (y - dy) r := by
  unfold Mem translate; simp only []; omega

/-- One axis of `Region::intersection`, which orders two non-empty spans by their left ends. -/
theorem ordered_spans (p q : Int × Int) (hp : p.1 < p.2) (hq : q.1 < q.2) :
    let s := if p.1 > q.1 then (q, p) else (p, q)
    s.2.1 = max p.1 q.1 ∧ min s.1.2 s.2.2 = min p.2 q.2 ∧
      (s.1.2 ≤ max p.1 q.1 ↔ min p.2 q.2 ≤ max p.1 q.1) := by
  intro s
  by_cases h : p.1 > q.1
  · simp only [s, if_pos h]
    omega
  · simp only [s, if_neg h, true_and]
    omega

theorem empty_span (l l' : Int) (w w' : Nat) (h : w = 0 ∨ w' = 0) :
    min (l + w) (l' + w') ≤ max l l' := by omega

theorem lt_add_width {l : Int} {w : Nat} (h : ¬ w = 0) : l < l + w := by omega

theorem inter_eq_box (a b : Region) :
    a.intersection b =
      if min a.right b.right ≤ max a.left b.left ∨ min a.bottom b.bottom ≤ max a.top b.top then Region.empty
      else ⟨max a.left b.left, max a.top b.top,
            (min a.right b.right - max a.left b.left).toNat, (min a.bottom b.bottom - max a.top b.top).toNat⟩ := by
  unfold intersection
  by_cases h0 : a.width = 0 ∨ b.width = 0 ∨ a.height = 0 ∨ b.height = 0
  · rw [if_pos h0, if_pos]
    exact (or_assoc.2 h0).imp (empty_span _ _ _ _) (empty_span _ _ _ _)
  · rw [if_neg h0]
    simp only [not_or] at h0
    obtain ⟨x1, x2, x3⟩ := ordered_spans (a.left, a.right) (b.left, b.right)
      (lt_add_width h0.1) (lt_add_width h0.2.1)
    obtain ⟨y1, y2, y3⟩ := ordered_spans (a.top, a.bottom) (b.top, b.bottom)
      (lt_add_width h0.2.2.1) (lt_add_width h0.2.2.2)
    simp only [x1, x2, x3, y1, y2, y3]

theorem mem_box (L R T B x y : Int) :
    Mem x y (if R ≤ L ∨ B ≤ T then Region.empty else ⟨L, T, (R - L).toNat, (B - T).toNat⟩) ↔
      (L ≤ x ∧ x < R) ∧ (T ≤ y ∧ y < B) := by
  unfold Mem
  split
  · simp only [Region.empty]; omega
  · simp only []; omega

theorem mem_intersection (a b : Region) (x y : Int) :
    Mem x y (a.intersection b) ↔ Mem x y a ∧ Mem x y b := by
  rw [inter_eq_box, mem_box, Int.max_le, Int.lt_min, Int.max_le, Int.lt_min]
  unfold Mem right bottom
  omega

theorem inter_pos (a b : Region) (h : 0 < (a.intersection b).width ∨ 0 < (a.intersection b).height) :
    (a.intersection b).left = max a.left b.left ∧ (a.intersection b).top = max a.top b.top ∧
    ((a.intersection b).left + (a.intersection b).width : Int) = min (a.left + a.width) (b.left + b.width) ∧
    ((a.intersection b).top + (a.intersection b).height : Int) = min (a.top + a.height) (b.top + b.height) ∧
    0 < (a.intersection b).width ∧ 0 < (a.intersection b).height := by
  rw [inter_eq_box] at h ⊢
  unfold right bottom at *
  split at h
  · simp [Region.empty] at h
  · next hc =>
    simp only [hc, if_false, true_and] at h ⊢
    omega

def Canonical (r : Region) : Prop := r.isEmpty = true → r = Region.empty

theorem inter_canonical (a b : Region) : Canonical (a.intersection b) := by
  rw [inter_eq_box]
  unfold Canonical right bottom
  split
  · intro _; rfl
  · simp only [isEmpty, Bool.or_eq_true, beq_iff_eq]; omega

theorem canonical_of_not_isEmpty {a : Region} (h : a.isEmpty = false) : Canonical a := by
  intro h'; rw [h] at h'; cases h'

theorem eq_of_mem_iff {a b : Region} (ha : Canonical a) (hb : Canonical b)
    (h : ∀ x y, Mem x y a ↔ Mem x y b) : a = b := by
  cases ea : a.isEmpty with
  | true =>
    cases eb : b.isEmpty with
    | true => rw [ha ea, hb eb]
    | false => rw [not_isEmpty_of_mem ((h _ _).2 (mem_origin eb))] at ea; cases ea
  | false =>
    have eb := not_isEmpty_of_mem ((h _ _).1 (mem_origin ea))
    exact Within.antisymm (within_of_subset ea fun x y hm => (h x y).1 hm)
      (within_of_subset eb fun x y hm => (h x y).2 hm)

theorem inter_comm (a b : Region) : a.intersection b = b.intersection a :=
  eq_of_mem_iff (inter_canonical _ _) (inter_canonical _ _) fun x y => by
    rw [mem_intersection, mem_intersection]; exact and_comm

theorem inter_of_within {a b : Region} (h : a.Within b) (hne : a.isEmpty = false) :
    a.intersection b = a :=
  eq_of_mem_iff (inter_canonical _ _) (canonical_of_not_isEmpty hne) fun x y => by
    rw [mem_intersection]; exact and_iff_left_of_imp (Within.subset h x y)

theorem within_inter {a b c : Region} (hne : a.isEmpty = false) (h1 : a.Within b) (h2 : a.Within c) :
    a.Within (b.intersection c) :=
  within_of_subset hne fun x y h =>
    (mem_intersection b c x y).2 ⟨Within.subset h1 x y h, Within.subset h2 x y h⟩

theorem inter_within_left (a b : Region) (h : (a.intersection b).isEmpty = false) :
    (a.intersection b).Within a ∧ (a.intersection b).Within b :=
  ⟨within_of_subset h fun x y hm => ((mem_intersection a b x y).1 hm).1,
   within_of_subset h fun x y hm => ((mem_intersection a b x y).1 hm).2⟩

def inAx (x : Int) (s : Int × Nat) : Prop := s.1 ≤ x ∧ x < s.1 + s.2

def upAx (l : Int) (w : Nat) (d : Nat) : Int × Nat := (l * (d : Int), w * d)

theorem upAx_hi (l : Int) (w d : Nat) : (upAx l w d).1 + ((upAx l w d).2 : Int) = (l + w) * (d : Int) := by
  simp only [upAx, Int.natCast_mul, Int.add_mul]

theorem downAx_within_iff (l : Int) (w d : Nat) (hd : 0 < d) (L : Int) (W : Nat) :
    (L ≤ (downAx l w d).1 ∧ (downAx l w d).1 + ((downAx l w d).2 : Int) ≤ L + W) ↔
      ((upAx L W d).1 ≤ l ∧ l + w ≤ (upAx L W d).1 + ((upAx L W d).2 : Int)) := by
  have hD : (0 : Int) < (d : Int) := by omega
  rw [upAx_hi]
  refine and_congr (Int.le_ediv_iff_mul_le hD) ?_
  -- `⌊l / d⌋ + ⌈(w + rem) / d⌉ ≤ R ↔ l + w ≤ R * d`, where the `natAbs` in `downAx` is the
  -- non-negative remainder `rem = l - ⌊l / d⌋ * d`
  have h1 : l / (d:Int) * (d:Int) ≤ l := Int.ediv_mul_le l (by omega)
  unfold downAx
  simp only []
  rw [Int.add_comm, Int.add_le_iff_le_sub, Int.natCast_ediv, Int.ediv_le_iff_le_mul hD, Int.sub_mul]
  omega

theorem alignAx_eq (l : Int) (w g : Nat) :
    alignAx l w g = upAx (downAx l w g).1 (downAx l w g).2 g := rfl

theorem down_up_mem (l : Int) (w d : Nat) (hd : 0 < d) (x : Int) (h : inAx x (l, w)) :
    inAx x (upAx (downAx l w d).1 (downAx l w d).2 d) := by
  obtain ⟨h1, h2⟩ := (downAx_within_iff l w d hd _ _).1 ⟨Int.le_refl _, Int.le_refl _⟩
  exact ⟨Int.le_trans h1 h.1, Int.lt_of_lt_of_le h.2 h2⟩

theorem mem_iff_ax (r : Region) (x y : Int) :
    Mem x y r ↔ inAx x (r.left, r.width) ∧ inAx y (r.top, r.height) := and_assoc.symm

theorem within_iff_ax (a b : Region) :
    a.Within b ↔ (b.left ≤ a.left ∧ a.left + a.width ≤ b.left + b.width) ∧
      (b.top ≤ a.top ∧ a.top + a.height ≤ b.top + b.height) := and_assoc.symm

theorem downsample_zero (r : Region) : r.downsample 0 = r := if_pos rfl

theorem upsample_zero (r : Region) : r.upsample 0 = r := by
  simp only [upsample, Nat.pow_zero, Int.pow_zero, Int.mul_one, Nat.mul_one]

theorem pad_zero (r : Region) : r.pad 0 = r := by
  simp only [pad, Int.natCast_zero, Int.sub_zero, Nat.zero_mul, Nat.add_zero]

theorem downsample_within_iff (a b : Region) (k : Nat) :
    (a.downsample k).Within b ↔ a.Within (b.upsample k) := by
  unfold downsample
  split
  · next h => rw [h, upsample_zero]
  · have hx := downAx_within_iff a.left a.width (2 ^ k) (Nat.two_pow_pos k) b.left b.width
    have hy := downAx_within_iff a.top a.height (2 ^ k) (Nat.two_pow_pos k) b.top b.height
    simp only [upAx, Int.natCast_pow, Int.cast_ofNat_Int] at hx hy
    rw [within_iff_ax, within_iff_ax]
    exact and_congr hx hy

theorem within_down_up (r : Region) (k : Nat) : r.Within ((r.downsample k).upsample k) :=
  (downsample_within_iff r _ k).1 (Within.refl _)

theorem mem_upsample (r : Region) (k : Nat) (x y : Int) :
    Mem x y (r.upsample k) ↔ Mem (x / 2 ^ k) (y / 2 ^ k) r := by
  have hD : (0 : Int) < 2 ^ k := Int.pow_pos (by decide)
  simp only [Mem, upsample, Int.natCast_mul, Int.natCast_pow, Int.cast_ofNat_Int, ← Int.add_mul,
    Int.le_ediv_iff_mul_le hD, Int.ediv_lt_iff_lt_mul hD]

theorem mem_downsample {r : Region} {x y : Int} (k : Nat) (h : Mem x y r) :
    Mem (x / 2 ^ k) (y / 2 ^ k) (r.downsample k) :=
  (mem_upsample _ k x y).1 (Within.subset (within_down_up r k) x y h)

theorem downsample_within_mono {a b : Region} (k : Nat) (h : a.Within b) :
    (a.downsample k).Within (b.downsample k) :=
  (downsample_within_iff a _ k).2 (Within.trans h (within_down_up b k))

theorem upsample_within_iff (a b : Region) (k : Nat) :
    (a.upsample k).Within (b.upsample k) ↔ a.Within b := by
  have hD : (0 : Int) < 2 ^ k := Int.pow_pos (by decide)
  simp only [Within, upsample, Int.natCast_mul, Int.natCast_pow, Int.cast_ofNat_Int, ← Int.add_mul,
    Int.mul_le_mul_right hD]

theorem downsample_upsample (r : Region) (k : Nat) : (r.upsample k).downsample k = r :=
  Within.antisymm ((downsample_within_iff _ _ k).2 (Within.refl _))
    ((upsample_within_iff _ _ k).1 (within_down_up _ k))

theorem upsample_add (r : Region) (j k : Nat) : r.upsample (j + k) = (r.upsample j).upsample k := by
  simp only [upsample, Int.pow_add, Nat.pow_add, Int.mul_assoc, Nat.mul_assoc]

theorem downsample_add (r : Region) (j k : Nat) : r.downsample (j + k) = (r.downsample j).downsample k := by
  -- by the adjunction both sides have the same upper bounds
  apply Within.antisymm
  · rw [downsample_within_iff, Nat.add_comm, upsample_add, ← downsample_within_iff]
    exact within_down_up _ k
  · rw [downsample_within_iff, downsample_within_iff, ← upsample_add, Nat.add_comm]
    exact within_down_up r _

theorem upsample_pad (r : Region) (n k : Nat) : (r.pad n).upsample k = (r.upsample k).pad (n * 2 ^ k) := by
  simp only [upsample, pad, Region.mk.injEq, Int.sub_mul, Nat.add_mul, Nat.mul_right_comm n 2]
  simp only [Int.natCast_mul, Int.natCast_pow, Int.cast_ofNat_Int, and_self]

theorem downsample_pad_within (r : Region) {c n k : Nat} (h : c ≤ n * 2 ^ k) :
    ((r.pad c).downsample k).Within ((r.downsample k).pad n) := by
  rw [downsample_within_iff, upsample_pad]
  exact pad_within_pad h (within_down_up r k)

theorem down_up_within_mono {a b : Region} {j k : Nat} (hjk : j ≤ k) (h : a.Within b) :
    ((a.downsample j).upsample j).Within ((b.downsample k).upsample k) := by
  obtain ⟨i, rfl⟩ := Nat.exists_eq_add_of_le' hjk
  rw [upsample_add, upsample_within_iff, downsample_within_iff, ← upsample_add]
  exact Within.trans h (within_down_up b _)

theorem within_containerAligned (r : Region) {g : Nat} (hg : 0 < g) : r.Within (r.containerAligned g) :=
  (within_iff_ax _ _).2 ⟨(downAx_within_iff _ _ g hg _ _).1 ⟨Int.le_refl _, Int.le_refl _⟩,
    (downAx_within_iff _ _ g hg _ _).1 ⟨Int.le_refl _, Int.le_refl _⟩⟩

/-- `pad_upsampling` with the maximum factor as a parameter -/
def padUp (m : Nat) (r : Region) : Region :=
  if m > 0 then ((r.downsample m).pad (2 + (m - 1) / 3)).upsample m else r

theorem padUpsampling_eq (c : Cfg) (r : Region) : padUpsampling c r = padUp c.maxUpsampleFactor r := rfl

theorem within_padUp (m : Nat) (F : Region) : F.Within (padUp m F) := by
  unfold padUp
  split
  · rw [← downsample_within_iff]
    exact within_pad _ _
  · exact Within.refl F

theorem padUp_aligned {k m : Nat} (hkm : k ≤ m) (F : Region) :
    ((padUp m F).downsample k).upsample k = padUp m F := by
  unfold padUp
  split
  · obtain ⟨j, rfl⟩ := Nat.exists_eq_add_of_le' hkm
    rw [upsample_add, downsample_upsample]
  · obtain rfl : k = 0 := by omega
    rw [downsample_zero, upsample_zero]

/-- Each further pass by 8 of the upsampler turns a padding of `c ≥ 2` fine cells into at most
`c - 1` coarse cells and adds its own 2: one more cell per pass, which is where the
`2 + (m - 1) / 3` of `pad_upsampling` comes from. (Scale `j` and padding `n` of the conclusion are
variables so that a caller settles them by arithmetic, not by rewriting.) -/
theorem upNeedLoop_within (F : Region) : ∀ (q i c : Nat) (a : Region), 2 ≤ c →
    a.Within ((F.downsample i).pad c) → ∀ {j n : Nat}, j = i + 3 * q → n = c + q →
    (upNeedLoop q a).Within ((F.downsample j).pad n) := by
  intro q
  induction q with
  | zero => intro i c a _ h j n hj hn; subst hj hn; exact h
  | succ q ih =>
    intro i c a hc h j n hj hn
    refine ih (i + 3) (c - 1 + 2) _ (by omega) ?_ (by omega) (by omega)
    rw [downsample_add, ← pad_pad]
    exact pad_within_pad (Nat.le_refl 2) (Within.trans (downsample_within_mono 3 h)
      (downsample_pad_within _ (by omega)))

theorem upNeed_within (F : Region) (k : Nat) :
    (upNeed F k).Within ((F.downsample k).pad (2 + (k - 1) / 3)) := by
  unfold upNeed
  split
  · next h0 =>
    cases hq : k / 3 with
    | zero =>
      obtain rfl : k = 0 := by omega
      rw [downsample_zero]
      exact within_pad F _
    | succ q =>
      -- all passes are by 8: peel one
      exact upNeedLoop_within F q 3 2 _ (Nat.le_refl 2) (Within.refl _) (by omega) (by omega)
  · exact upNeedLoop_within F (k / 3) (k % 3) 2 _ (Nat.le_refl 2) (Within.refl _)
      (Nat.mod_add_div k 3).symm (by omega)

theorem upNeed_within_padUp {k m : Nat} (hkm : k ≤ m) (F : Region) :
    (upNeed F k).Within ((padUp m F).downsample k) := by
  unfold padUp
  split
  · obtain ⟨j, rfl⟩ := Nat.exists_eq_add_of_le' hkm
    -- compare at the coarsest scale `2 ^ (j + k)`
    rw [upsample_add, downsample_upsample, ← downsample_within_iff, Nat.add_comm j k, downsample_add]
    exact Within.trans (downsample_within_mono j (upNeed_within F k))
      (downsample_pad_within _ (Nat.le_trans (by omega) (Nat.le_mul_of_pos_right _ (Nat.two_pow_pos j))))
  · obtain rfl : k = 0 := by omega
    rw [downsample_zero]
    exact Within.refl F

/-- Stage by stage `pad_color_region` pads at least by the stage's radius: EPF 2 / 5 / 6 against
2 / 3 / 6, Gabor 1 against 1, chroma upsampling 1 and alignment to 4 against 1 and alignment to 2;
the final alignment to 8 only grows the region. `h` is the same fact for the stage before them, the
upsampler (`upNeed_within_padUp`; it holds when the colour factor is at most the maximum factor). -/
theorem stageNeed_within_padColorRegion (c : Cfg) (F : Region)
    (h : (upNeed F c.upsampling).Within ((padUpsampling c F).downsample c.upsampling)) :
    (stageNeed c F).Within (padColorRegion c F) ∧
    (c.epfIters ≠ 0 → (padColorRegion c F).left % 8 = 0 ∧ (padColorRegion c F).top % 8 = 0) := by
  have hEpf : ∀ {a b : Region}, a.Within b → (a.pad (epfRadius c.epfIters)).Within
      (if c.epfIters = 0 then b else if c.epfIters = 1 then b.pad 2
        else if c.epfIters = 2 then b.pad 5 else b.pad 6) := by
    intro a b hab
    generalize c.epfIters = epf
    match epf with
    | 0 => exact (pad_zero a).symm ▸ hab
    | 1 => exact pad_within_pad (Nat.le_refl 2) hab
    | 2 => exact pad_within_pad (by decide : 3 ≤ 5) hab
    | e + 3 =>
      rw [if_neg (by omega), if_neg (by omega), if_neg (by omega)]
      exact pad_within_pad (Nat.le_refl 6) hab
  have hGab : ∀ {a b : Region}, a.Within b →
      (if c.gab then a.pad 1 else a).Within (if c.gab then b.pad 1 else b) := by
    intro a b hab
    split
    · exact pad_within_pad (Nat.le_refl 1) hab
    · exact hab
  have hChroma : ∀ {a b : Region}, a.Within b →
      (if c.ycbcr then ((a.pad 1).downsample 1).upsample 1 else a).Within
        (if c.ycbcr then ((b.pad 1).downsample 2).upsample 2 else b) := by
    intro a b hab
    split
    · exact down_up_within_mono (by decide : 1 ≤ 2) (pad_within_pad (Nat.le_refl 1) hab)
    · exact hab
  have hAlign : ∀ b : Region, b.Within (if c.epfIters ≠ 0 then b.containerAligned 8 else b) := by
    intro b
    split
    · exact within_containerAligned b (by decide)
    · exact Within.refl b
  refine ⟨Within.trans (hChroma (hGab (hEpf h))) (hAlign _), fun he => ?_⟩
  show (if c.epfIters ≠ 0 then Region.containerAligned _ 8 else _).left % 8 = 0 ∧
    (if c.epfIters ≠ 0 then Region.containerAligned _ 8 else _).top % 8 = 0
  rw [if_pos he]
  exact ⟨Int.mul_emod_left _ _, Int.mul_emod_left _ _⟩

theorem within_stageNeed (c : Cfg) (hu : c.upsampling = 0) (F : Region) : F.Within (stageNeed c F) := by
  have h1 : F.Within (F.pad (epfRadius c.epfIters)) := within_pad F _
  have h2 : F.Within (if c.gab then (F.pad (epfRadius c.epfIters)).pad 1 else F.pad (epfRadius c.epfIters)) := by
    split
    · exact Within.trans h1 (within_pad _ 1)
    · exact h1
  unfold stageNeed
  rw [hu]
  show F.Within (if c.ycbcr then _ else _)
  split
  · exact Within.trans h2 (Within.trans (within_pad _ 1) (within_down_up _ 1))
  · exact h2

theorem mul_lt_of_lt_ceil {x : Int} {w d : Nat} (hd : 0 < d) (h : x < ((w + d - 1) / d : Nat)) :
    x * (d : Int) < w := by
  have hD : (0 : Int) < (d : Int) := by omega
  rw [Int.natCast_ediv] at h
  have := (Int.le_ediv_iff_mul_le hD).1 (Int.add_one_le_of_lt h)
  rw [Int.add_mul] at this
  omega

theorem mem_downsample_inter_frame (k : Nat) (P : Region) (fw fh : Nat)
    (hal : (P.downsample k).upsample k = P) (x y : Int) (hm : Mem x y (P.downsample k))
    (hf : Mem x y (Region.withSize ((fw + 2 ^ k - 1) / 2 ^ k) ((fh + 2 ^ k - 1) / 2 ^ k))) :
    Mem x y ((P.intersection (Region.withSize fw fh)).downsample k) := by
  have hD : (2 : Int) ^ k ≠ 0 := Int.ne_of_gt (Int.pow_pos (by decide))
  -- `hal`: `P` is made of whole blocks of `2 ^ k` cells, so a coarse cell of `P.downsample k` and of
  -- the downsampled frame has its first fine cell in both `P` and the frame
  have hP : Mem (x * 2 ^ k) (y * 2 ^ k) P := by
    rw [← hal, mem_upsample, Int.mul_ediv_cancel _ hD, Int.mul_ediv_cancel _ hD]
    exact hm
  have hF : Mem (x * 2 ^ k) (y * 2 ^ k) (Region.withSize fw fh) := by
    unfold Mem withSize at hf ⊢
    simp only [Int.zero_add] at hf ⊢
    have hx := mul_lt_of_lt_ceil (Nat.two_pow_pos k) hf.2.1
    have hy := mul_lt_of_lt_ceil (Nat.two_pow_pos k) hf.2.2.2
    rw [Int.natCast_pow] at hx hy
    have hd : (0 : Int) ≤ 2 ^ k := Int.le_of_lt (Int.pow_pos (by decide))
    exact ⟨Int.mul_nonneg hf.1 hd, hx, Int.mul_nonneg hf.2.2.1 hd, hy⟩
  have := mem_downsample k ((mem_intersection _ _ _ _).2 ⟨hP, hF⟩)
  rwa [Int.mul_ediv_cancel _ hD, Int.mul_ediv_cancel _ hD] at this

/-- the region of the conclusion is `upsampling_valid_region.downsample(k)`, the window the
upsampler by `2 ^ k` is run on -/
theorem upNeed_mem_upValid {k m : Nat} (hkm : k ≤ m) (F : Region) (fw fh : Nat) (x y : Int)
    (hx : Mem x y (upNeed F k))
    (hf : Mem x y (Region.withSize ((fw + 2 ^ k - 1) / 2 ^ k) ((fh + 2 ^ k - 1) / 2 ^ k))) :
    Mem x y (((padUp m F).intersection (Region.withSize fw fh)).downsample k) :=
  mem_downsample_inter_frame k _ fw fh (padUp_aligned hkm F) x y
    (Within.subset (upNeed_within_padUp hkm F) x y hx) hf

theorem foldl_max_le_iff {α : Type} (f : α → Nat) (l : List α) : ∀ init n : Nat,
    l.foldl (fun m e => max m (f e)) init ≤ n ↔ init ≤ n ∧ ∀ e ∈ l, f e ≤ n := by
  induction l with
  | nil => intro init n; exact ⟨fun h => ⟨h, fun e he => absurd he List.not_mem_nil⟩, And.left⟩
  | cons a l ih =>
    intro init n
    rw [List.foldl_cons, ih, Nat.max_le, List.forall_mem_cons, and_assoc]

theorem Cfg.valid_ec {c : Cfg} (hv : c.valid = true) : ∀ e ∈ c.ec, c.upsampling ≤ e.1 + e.2 := by
  intro e he
  simp only [Cfg.valid, Bool.and_eq_true] at hv
  have := List.all_eq_true.1 hv.1.1.1.2 e he
  simp only [Bool.and_eq_true, decide_eq_true_eq] at this
  exact this.1.2

theorem Cfg.valid_lf {c : Cfg} (hv : c.valid = true) : c.lfLevel = 0 ∨ c.upsampling = 0 := by
  simp only [Cfg.valid, Bool.and_eq_true] at hv
  have := hv.2
  simp only [Bool.or_eq_true, Bool.and_eq_true, beq_iff_eq] at this
  exact this.imp_right And.left

theorem maxUp_bounds (c : Cfg) (hec : ∀ e ∈ c.ec, c.upsampling ≤ e.1 + e.2) :
    c.upsampling ≤ c.maxUpsampleFactor ∧ ∀ e ∈ c.ec, e.1 + e.2 ≤ c.maxUpsampleFactor := by
  unfold Cfg.maxUpsampleFactor
  cases h : c.ec with
  | nil => exact ⟨Nat.le_refl _, fun e he => absurd he (List.not_mem_nil)⟩
  | cons e es =>
    obtain ⟨i1, i2⟩ := (foldl_max_le_iff _ es _ _).1 (Nat.le_refl _)
    exact ⟨Nat.le_trans (hec e (h ▸ List.mem_cons_self ..)) i1, List.forall_mem_cons.2 ⟨i1, i2⟩⟩

theorem colorSample_eq (c : Cfg) (hl : c.lfLevel = 0 ∨ c.upsampling = 0) :
    c.colorSampleWidth = (c.sampleWidth 1 + 2 ^ c.upsampling - 1) / 2 ^ c.upsampling ∧
    c.colorSampleHeight = (c.sampleHeight 1 + 2 ^ c.upsampling - 1) / 2 ^ c.upsampling := by
  unfold Cfg.colorSampleWidth Cfg.colorSampleHeight Cfg.sampleWidth Cfg.sampleHeight Cfg.sampleDim
  rcases hl with hl | hl
  · have hp := Nat.two_pow_pos c.upsampling
    simp only [hl, Nat.lt_irrefl, if_false]
    split
    · exact ⟨rfl, rfl⟩
    · have : 2 ^ c.upsampling = 1 := by omega
      simp only [this, Nat.add_sub_cancel, Nat.div_one, and_self]
  · simp only [hl, Nat.pow_zero, Nat.lt_irrefl, if_false, Nat.add_sub_cancel, Nat.div_one, and_self]

theorem max_emod {a b d : Int} (ha : a % d = 0) (hb : b % d = 0) : max a b % d = 0 := by
  rw [Int.max_def]
  split
  · exact hb
  · exact ha

theorem inter_withSize_aligned (P : Region) (w h : Nat) (d : Int) (hl : P.left % d = 0) (ht : P.top % d = 0) :
    (P.intersection (Region.withSize w h)).left % d = 0 ∧ (P.intersection (Region.withSize w h)).top % d = 0 := by
  rw [inter_eq_box]
  unfold withSize
  split
  · exact ⟨Int.zero_emod d, Int.zero_emod d⟩
  · exact ⟨max_emod hl (Int.zero_emod d), max_emod ht (Int.zero_emod d)⟩

section Orientation
open Jxl.Orient

theorem orientPoint_eq {o : Nat} (ho : 1 ≤ o ∧ o ≤ 8) (W H : Nat) (l t : Int) :
    orientPoint o W H l t =
      if swaps o then (mirI (mirrorsY o) H t, mirI (mirrorsX o) W l)
      else (mirI (mirrorsX o) W l, mirI (mirrorsY o) H t) := by
  rcases orient_cases ho with rfl | rfl | rfl | rfl | rfl | rfl | rfl | rfl <;> rfl

theorem applyOrientation_eq {o : Nat} (ho : 1 ≤ o ∧ o ≤ 8) (r : Region) (imgW imgH : Nat)
    (hw : r.width ≠ 0) (hh : r.height ≠ 0) :
    r.applyOrientation imgW imgH o =
      if swaps o then
        ⟨mirLo (mirrorsY o) (orientedSize o imgW imgH).2 r.top r.height,
         mirLo (mirrorsX o) (orientedSize o imgW imgH).1 r.left r.width, r.height, r.width⟩
      else
        ⟨mirLo (mirrorsX o) (orientedSize o imgW imgH).1 r.left r.width,
         mirLo (mirrorsY o) (orientedSize o imgW imgH).2 r.top r.height, r.width, r.height⟩ := by
  unfold applyOrientation
  rw [if_neg (by omega)]
  simp only [orientPoint_eq ho]
  cases swaps o <;> simp only [Bool.false_eq_true, ↓reduceIte]
  all_goals
    rw [mirI_corners _ _ _ hw, mirI_corners _ _ _ hh]
    simp only
    congr 1 <;> omega

end Orientation

theorem groupDim_pos (c : Cfg) : 0 < c.groupDim := by
  unfold Cfg.groupDim
  have := Nat.two_pow_pos c.groupSizeShift
  omega

theorem div_lt_ceil (x w d : Nat) (hd : 0 < d) (h : x < w) : x / d < (w + d - 1) / d :=
  (lt_ceilDiv_iff hd).2 (Nat.lt_of_le_of_lt (Nat.div_mul_le_self x d) h)

theorem cell_in_tile (d n x y : Nat) (hd : 0 < d) (hcol : x / d < n) :
    Mem (x : Int) (y : Int)
      ⟨(((((y / d) * n + x / d) % n) * d : Nat) : Int), (((((y / d) * n + x / d) / n) * d : Nat) : Int), d, d⟩ := by
  rw [Nat.mul_add_mod_of_lt hcol, mul_add_div_of_lt hcol]
  have hx := Nat.div_add_mod x d
  have hy := Nat.div_add_mod y d
  have hx' := Nat.mod_lt x hd
  have hy' := Nat.mod_lt y hd
  rw [Nat.mul_comm] at hx hy
  unfold Mem
  simp only []
  omega

theorem resetFrom_spec (r : Region) : ∀ (fs : List FrameInfo) (hs acc : List Handle),
    resetFrom r fs hs acc = rebuildFrom r fs (kept fs hs) acc ∧ kept fs (resetFrom r fs hs acc) = kept fs hs
  | [], _, _ => by simp [resetFrom, rebuildFrom, kept]
  | _ :: _, [], _ => by simp [resetFrom, rebuildFrom, kept]
  | f :: fs, h :: hs, acc => by
    simp only [resetFrom, kept, rebuildFrom]
    rw [(resetFrom_spec r fs hs _).2, (resetFrom_spec r fs hs _).1]
    by_cases hf : f.refOnly = true <;> simp [hf]

theorem kept_requests (fs : List FrameInfo) : ∀ (rs : List Region) (hs : List Handle),
    kept fs (requests fs hs rs) = kept fs hs
  | [], _ => rfl
  | r :: rs, hs => by rw [requests, kept_requests fs rs, request, (resetFrom_spec r fs hs []).2]

theorem requests_append (fs : List FrameInfo) (rs : List Region) (r : Region) :
    ∀ hs, requests fs hs (rs ++ [r]) = request fs (requests fs hs rs) r := by
  induction rs with
  | nil => intro hs; rfl
  | cons r' rs ih => intro hs; simp only [List.cons_append, requests]; rw [ih]

def AgreeRef (frames : List FrameInfo) (acc0 acc : List Handle) : Prop :=
  acc0.length = acc.length ∧
  ∀ i, i < acc.length → (frames[i]?).map FrameInfo.refOnly = some true → acc0[i]? = acc[i]?

/-- `pre` are the frames already visited, `acc0` their handles in the load with `r0`, `acc` their
handles after the reset with `r`. A `ReferenceOnly` frame keeps its load-time handle, which reads
only handles of `ReferenceOnly` frames (`RefClosed`), and on those `acc0` and `acc` agree: so it is
the handle a load with `r` creates (`hh`). -/
theorem reset_load_eq (frames : List FrameInfo) (hc : RefClosed frames) (r0 r : Region) :
    ∀ (fs pre : List FrameInfo) (acc0 acc : List Handle), frames = pre ++ fs → pre.length = acc.length →
      AgreeRef frames acc0 acc →
      resetFrom r fs (loadFrom r0 fs acc0) acc = loadFrom r fs acc := by
  intro fs
  induction fs with
  | nil => intro pre acc0 acc _ _ _; simp [loadFrom, resetFrom]
  | cons f fs ih =>
    intro pre acc0 acc hfr hlen hag
    simp only [loadFrom, resetFrom]
    have hfn : frames[acc.length]? = some f := by
      rw [hfr, ← hlen]; simp
    have hh : (if f.refOnly = true then freshHandle f acc0.length r0 acc0 else freshHandle f acc.length r acc) =
        freshHandle f acc.length r acc := by
      by_cases hf : f.refOnly = true
      · simp only [hf, if_true]
        unfold freshHandle
        simp only [hf, if_true, hag.1]
        congr 2
        rw [List.flatMap_def, List.flatMap_def]
        congr 1
        apply List.map_congr_left
        intro d hd
        obtain ⟨hlt, hro⟩ := hc acc.length f hfn hf d hd
        rw [hag.2 d hlt hro]
      · simp [hf]
    rw [hh]
    congr 1
    apply ih (pre ++ [f]) _ _ (by rw [hfr]; simp) (by simp [hlen])
    constructor
    · simp [hag.1]
    · intro i hi hro
      have hl0 := hag.1
      simp only [List.length_append, List.length_singleton] at hi
      by_cases hlt : i < acc.length
      · rw [List.getElem?_append_left (by omega), List.getElem?_append_left hlt]
        exact hag.2 i hlt hro
      · obtain rfl : i = acc.length := by omega
        rw [hfn] at hro
        simp only [Option.map_some, Option.some.injEq] at hro
        rw [if_pos hro, ← hag.1] at hh
        rw [List.getElem?_concat_length, ← hag.1, List.getElem?_concat_length, hh]

end Jxl.Region
