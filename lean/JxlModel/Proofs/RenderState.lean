import JxlModel.Model.RenderState
/-!
# One thread of the render-handle protocol (C08, C20)

`TStep`: what an atomic step of an awake thread may do, as twenty rules over the explicit stack
(`stepThread_spec`); `ActsOK`, `Shape`, step bound and values are proved by cases on it. `Shape`: a
step of the repaired code changes which handles are `Rendering` exactly as it changes what the
thread owns (neither, one *acquired*, or the innermost owned one *released*), as one equation
between counts; the ownership invariants of `Proofs/RenderConc.lean` use it and `ActsOK` alone.
-/

namespace Jxl.RenderState

theorem getH_set (hs : List HState) (i j : Nat) (s : HState) :
    getH (hs.set i s) j = if i = j ∧ i < hs.length then s else getH hs j := by
  simp only [getH, List.getD_eq_getElem?_getD, List.getElem?_set]
  by_cases hij : i = j
  · subst hij
    by_cases hl : i < hs.length <;> simp [hl]
  · simp [hij]

theorem getH_of_ge (hs : List HState) (i : Nat) (h : hs.length ≤ i) : getH hs i = .none := by
  simp [getH, h]

theorem getH_replicate_none (n i : Nat) : getH (List.replicate n .none) i = .none := by
  simp only [getH, List.getD_eq_getElem?_getD, List.getElem?_replicate]
  split <;> rfl

def Quiescent (n : Nat) (hs : List HState) : Prop :=
  hs.length = n ∧ ∀ i, getH hs i ≠ .rendering

def HState.plain : HState → Bool
  | .none | .inProgress _ | .err _ | .errTaken => true
  | _ => false

theorem HState.ne_rendering_of_plain {s : HState} (h : s.plain = true) : s ≠ .rendering := by
  rintro rfl
  cases h

/-- indices an activation's body may mention are below this -/
def Handler.bound (n : Nat) : Handler → Nat
  | .op i _ _ => i
  | .comp i _ _ => i
  | _ => n

def Act.ok (n : Nat) (a : Act) : Prop :=
  (∀ it ∈ a.body, ∀ j, it.idx? = some j → j < a.h.bound n) ∧
  (Item.loadFrame ∈ a.body → a.h.bound n = n)

def ctxBound (n : Nat) : List Act → Nat
  | [] => n
  | a :: _ => a.h.bound n

def innerBound (n : Nat) (th : Thread) : Nat := ctxBound n th.acts

/-- owners strictly decrease towards the innermost activation, bodies respect their bound -/
def ActsOK (n : Nat) : List Act → Prop
  | [] => True
  | a :: rest =>
    a.ok n ∧ a.h.bound n ≤ ctxBound n rest ∧ (∀ j, a.h.owns = some j → j < ctxBound n rest) ∧
      ActsOK n rest

def Item.ok (n : Nat) (h : Handler) (it : Item) : Prop :=
  (∀ j, it.idx? = some j → j < h.bound n) ∧ (it = .loadFrame → h.bound n = n)

theorem Act.ok_iff (n : Nat) (a : Act) : a.ok n ↔ ∀ it ∈ a.body, it.ok n a.h :=
  ⟨fun h it hit => ⟨h.1 it hit, fun e => h.2 (e ▸ hit)⟩,
    fun h => ⟨fun it hit => (h it hit).1, fun hl => (h _ hl).2 rfl⟩⟩

theorem Handler.bound_of_owns {n : Nat} {h : Handler} {j : Nat} (hj : h.owns = some j) :
    h.bound n = j := by
  cases h <;> simp_all [Handler.owns, Handler.bound]

theorem ctxBound_le (n : Nat) : ∀ (acts : List Act), ActsOK n acts → ctxBound n acts ≤ n
  | [], _ => Nat.le_refl _
  | _ :: rest, hok => Nat.le_trans hok.2.1 (ctxBound_le n rest hok.2.2.2)

theorem ownedActs_sorted (n : Nat) : ∀ (acts : List Act), ActsOK n acts →
    (acts.filterMap (·.h.owns)).Pairwise (· < ·) ∧
      ∀ j ∈ acts.filterMap (·.h.owns), ctxBound n acts ≤ j
  | [], _ => by simp
  | a :: rest, hok => by
    obtain ⟨ih1, ih2⟩ := ownedActs_sorted n rest hok.2.2.2
    have hle : a.h.bound n ≤ ctxBound n rest := hok.2.1
    cases ho : a.h.owns with
    | none =>
      simp only [List.filterMap_cons, ho]
      exact ⟨ih1, fun j hj => Nat.le_trans hle (ih2 j hj)⟩
    | some k =>
      simp only [List.filterMap_cons, ho, List.pairwise_cons, List.mem_cons]
      refine ⟨⟨fun j hj => Nat.lt_of_lt_of_le (hok.2.2.1 k ho) (ih2 j hj), ih1⟩, ?_⟩
      rintro j (rfl | hj)
      · exact Nat.le_of_eq (Handler.bound_of_owns ho)
      · exact Nat.le_trans hle (ih2 j hj)

theorem Thread.owned_sorted {n : Nat} {th : Thread} (hok : ActsOK n th.acts) :
    th.owned.Pairwise (· < ·) ∧ ∀ j ∈ th.owned, innerBound n th ≤ j :=
  ownedActs_sorted n th.acts hok

theorem wfAt_iff (f : Frame) (i : Nat) : f.wfAt i = true ↔ ∀ r ∈ f.refs, r < i := by
  simp [Frame.wfAt]

def Item.within (refs : List Nat) (it : Item) : Prop :=
  it ≠ .loadFrame ∧ (∀ r, it ≠ .blend r .ret) ∧ ∀ j, it.idx? = some j → j ∈ refs

theorem opBody_within (inl : Bool) (f : Frame) : ∀ it ∈ opBody inl f, it.within f.refs := by
  intro it hit
  simp only [opBody, refCall, List.mem_append, List.mem_flatMap, List.mem_cons, List.not_mem_nil,
    or_false] at hit
  rcases hit with hit | ⟨r, hr, rfl | rfl⟩
  · split at hit
    · obtain ⟨r, hr, rfl⟩ := List.mem_map.1 hit
      simp [Item.within, Item.idx?, Frame.refs, hr]
    · simp at hit
  · simp [Item.within, Item.idx?, Frame.refs, hr]
  · simp [Item.within, Item.idx?, Frame.refs, hr]

theorem compBody_within (f : Frame) : ∀ it ∈ compBody f, it.within f.refs := by
  intro it hit
  simp only [compBody, refCall, List.mem_append, List.mem_flatMap, List.mem_cons,
    List.not_mem_nil, or_false] at hit
  rcases hit with (⟨r, hr, rfl | rfl⟩ | ⟨⟨c, take⟩, hc, hit⟩) | hit
  · simp [Item.within, Item.idx?, Frame.refs, hr]
  · simp [Item.within, Item.idx?, Frame.refs, hr]
  · cases c with
    | none => simp_all [chanItems, Item.within, Item.idx?]
    | some r =>
      have hr : r ∈ f.refs := by
        simp only [Frame.refs, List.mem_append, List.mem_filterMap]
        exact .inl (.inr ⟨_, hc, rfl⟩)
      cases take <;> simp [chanItems, refCall] at hit <;>
        rcases hit with rfl | rfl | rfl | rfl | rfl <;> simp [Item.within, Item.idx?, hr]
  · cases hr : f.reset <;> simp_all [resetItems, Item.within, Item.idx?, Frame.refs]

theorem Item.within.ok {n i : Nat} {h : Handler} {f : Frame} {it : Item} (hit : it.within f.refs)
    (hf : f.wfAt i = true) (hi : i ≤ h.bound n) : it.ok n h :=
  ⟨fun j hj => Nat.lt_of_lt_of_le ((wfAt_iff f i).1 hf j (hit.2.2 j hj)) hi,
    fun e => absurd e hit.1⟩

section
variable {cfg : Config} (hwf : cfg.wf = true)
include hwf

theorem wf_frame {i : Nat} (hi : i < cfg.frames.length) : (frameOf cfg i).wfAt i = true := by
  simp only [Config.wf, Bool.and_eq_true, List.all_eq_true, List.mem_range] at hwf
  exact hwf.1.1.1 i hi

theorem wf_keyframe {k : Nat} (hk : k ∈ cfg.keyframes) : k < cfg.frames.length := by
  simp only [Config.wf, Bool.and_eq_true, List.all_eq_true, decide_eq_true_eq] at hwf
  exact hwf.1.1.2 k hk

theorem wf_inProgress {i : Nat} (h : cfg.inProgressKf = some i) : i < cfg.frames.length := by
  simp only [Config.wf, Bool.and_eq_true, h, decide_eq_true_eq] at hwf
  exact hwf.1.2

theorem wf_loading {f : Frame} (h : cfg.loading = some f) : f.wfAt cfg.frames.length = true := by
  simp only [Config.wf, Bool.and_eq_true, h] at hwf
  exact hwf.2

end

/-- the body of `startThread (.renderKeyframe _)` and of `fallbackBody` -/
theorem callBody_ok {n idx : Nat} {h : Handler} (hidx : idx < h.bound n) :
    ∀ it ∈ [Item.rwi idx, .blend idx .ret, .mayFail], it.ok n h := by
  intro it hit
  simp only [List.mem_cons, List.not_mem_nil, or_false] at hit
  rcases hit with rfl | rfl | rfl <;> simp [Item.ok, Item.idx?, hidx]

theorem fallback_ok {cfg : Config} (hwf : cfg.wf = true) {h : Handler} {b : List Item}
    (hfb : fallbackBody cfg = some b) (hb : h.bound cfg.frames.length = cfg.frames.length) :
    ∀ it ∈ b, it.ok cfg.frames.length h := by
  unfold fallbackBody at hfb
  split at hfb
  · rename_i idx hidx
    cases hfb
    exact callBody_ok (Nat.lt_of_lt_of_eq (wf_inProgress hwf hidx) hb.symm)
  · cases hfb

@[simp] theorem owned_setBody (th : Thread) (b : List Item) : (th.setBody b).owned = th.owned := by
  unfold Thread.setBody
  split <;> simp_all [Thread.owned, List.filterMap_cons]

@[simp] theorem owned_fail (th : Thread) (e : ErrK) : (th.fail e).owned = th.owned := by
  unfold Thread.fail
  split <;> simp_all [Thread.owned, List.filterMap_cons]

@[simp] theorem owned_deliver (th : Thread) (k : Cont) (v : Val) :
    (th.deliver k v).owned = th.owned := by
  unfold Thread.deliver
  cases k with
  | discard | ret => rfl
  | collect =>
    simp only
    split <;> simp_all [Thread.owned, List.filterMap_cons]

@[simp] theorem asleep_setBody (th : Thread) (b : List Item) :
    (th.setBody b).asleep = th.asleep := by
  unfold Thread.setBody; split <;> rfl

@[simp] theorem asleep_fail (th : Thread) (e : ErrK) : (th.fail e).asleep = th.asleep := by
  unfold Thread.fail; split <;> rfl

@[simp] theorem asleep_deliver (th : Thread) (k : Cont) (v : Val) :
    (th.deliver k v).asleep = th.asleep := by
  unfold Thread.deliver
  cases k <;> simp only
  split <;> rfl

@[simp] theorem asleep_pop (th : Thread) : th.pop.asleep = th.asleep := rfl

/-- Only the unrepaired `reset` stores over a handle that is `Rendering`. -/
inductive Stores (var : Variant) (hs : List HState) : List HState → Prop
  | same : Stores var hs hs
  | set (i : Nat) (s : HState) : s.plain = true →
      (var = .fixed → getH hs i ≠ .rendering) → Stores var hs (hs.set i s)

def Handler.isLoad : Handler → Bool
  | .loadOp => true
  | .loadComp _ => true
  | _ => false

theorem Handler.bound_of_isLoad {n : Nat} {h : Handler} (hl : h.isLoad = true) : h.bound n = n := by
  cases h <;> simp_all [Handler.isLoad, Handler.bound]

theorem Handler.owns_of_isLoad {h : Handler} (hl : h.isLoad = true) : h.owns = none := by
  cases h <;> simp_all [Handler.isLoad, Handler.owns]

/-- One atomic step of a thread, as rules over the explicit stack: `⟨h, ws, b⟩` is the innermost
activation, `as` the stack below it. -/
inductive TStep (cfg : Config) (cd : Codec) (var : Variant) (hs : List HState) :
    Thread → List HState → Thread → Option Nat → Prop
  /-- `Condvar::wait` -/
  | sleep {h ws it rest as e r} (i : Nat) : it.idx? = some i → getH hs i = .rendering →
      TStep cfg cd var hs ⟨⟨h, ws, it :: rest⟩ :: as, e, none, r⟩ hs
        ⟨⟨h, ws, it :: rest⟩ :: as, e, some i, r⟩ none
  | next {h ws it rest as e r hs'} : (∀ j k, it ≠ .blend j k) → Stores var hs hs' →
      TStep cfg cd var hs ⟨⟨h, ws, it :: rest⟩ :: as, e, none, r⟩ hs'
        ⟨⟨h, ws, rest⟩ :: as, e, none, r⟩ none
  | fail {h ws it rest as e r hs'} (e' : ErrK) : Stores var hs hs' →
      TStep cfg cd var hs ⟨⟨h, ws, it :: rest⟩ :: as, e, none, r⟩ hs'
        ⟨⟨h, ws, []⟩ :: as, some e', none, r⟩ none
  /-- `start_render` found the handle busy or finished -/
  | wait {h ws rest as e r} (i : Nat) :
      TStep cfg cd var hs ⟨⟨h, ws, .rwi i :: rest⟩ :: as, e, none, r⟩ hs
        ⟨⟨h, ws, .waitRwi i :: rest⟩ :: as, e, none, r⟩ none
  | fallback {h ws rest as e r} (b : List Item) : fallbackBody cfg = some b →
      TStep cfg cd var hs ⟨⟨h, ws, .loadFrame :: rest⟩ :: as, e, none, r⟩ hs
        ⟨⟨h, ws, b⟩ :: as, e, none, r⟩ none
  | deliver {h ws rest as e r} (i : Nat) (k : Cont) (v : Val) : getH hs i = .blended v →
      TStep cfg cd var hs ⟨⟨h, ws, .blend i k :: rest⟩ :: as, e, none, r⟩ hs
        (Thread.deliver ⟨⟨h, ws, rest⟩ :: as, e, none, r⟩ k v) none
  /-- `composite_preprocess` says there is nothing to composite -/
  | finish {h ws rest as e r} (i : Nat) (k : Cont) (v : Val) : getH hs i = .done v →
      (frameOf cfg i).skip = true →
      TStep cfg cd var hs ⟨⟨h, ws, .blend i k :: rest⟩ :: as, e, none, r⟩
        (hs.set i (.blended (cd.pre i v)))
        (Thread.deliver ⟨⟨h, ws, rest⟩ :: as, e, none, r⟩ k (cd.pre i v)) none
  /-- `start_render`/`start_render_silent` found `None` or `InProgress` (the cache `c`) -/
  | startOp {h ws it rest as e r} (i : Nat) (silent : Bool) (c : Option Nat) :
      it = .rwi i ∨ it = .bg i → getH hs i ≠ .rendering →
      TStep cfg cd var hs ⟨⟨h, ws, it :: rest⟩ :: as, e, none, r⟩ (hs.set i .rendering)
        ⟨⟨.op i silent c, [], opBody cfg.inline (frameOf cfg i)⟩ :: ⟨h, ws, rest⟩ :: as, e, none, r⟩
        none
  | startComp {h ws rest as e r} (i : Nat) (k : Cont) (v : Val) : getH hs i = .done v →
      (frameOf cfg i).skip = false →
      TStep cfg cd var hs ⟨⟨h, ws, .blend i k :: rest⟩ :: as, e, none, r⟩ (hs.set i .rendering)
        ⟨⟨.comp i (cd.pre i v) k, [], compBody (frameOf cfg i)⟩ :: ⟨h, ws, rest⟩ :: as, e, none, r⟩
        none
  | startLoad {h ws rest as e r} (f : Frame) : cfg.loading = some f →
      TStep cfg cd var hs ⟨⟨h, ws, .loadFrame :: rest⟩ :: as, e, none, r⟩ hs
        ⟨⟨.loadOp, [], opBody cfg.inline f⟩ :: ⟨h, ws, rest⟩ :: as, e, none, r⟩ none
  | ret {ws as e r} :
      TStep cfg cd var hs ⟨⟨.top, ws, []⟩ :: as, e, none, r⟩ hs
        ⟨as, none, none, match e with | some x => some (.err x) | none => r⟩ none
  /-- `done_render` with a state that holds no image; the caller of a silent `run` goes on -/
  | drop {ws as e r} (i : Nat) (silent : Bool) (c : Option Nat) (st : HState) :
      st.plain = true →
      TStep cfg cd var hs ⟨⟨.op i silent c, ws, []⟩ :: as, e, none, r⟩ (hs.set i st)
        ⟨as, none, none, r⟩ (some i)
  | dropFail {h ws as e r} (i : Nat) (st : HState) (e' : ErrK) : h.owns = some i →
      st.plain = true →
      TStep cfg cd var hs ⟨⟨h, ws, []⟩ :: as, e, none, r⟩ (hs.set i st)
        (Thread.fail ⟨as, none, none, r⟩ e') (some i)
  | decoded {ws as r} (i : Nat) (silent : Bool) (c : Option Nat) :
      TStep cfg cd var hs ⟨⟨.op i silent c, ws, []⟩ :: as, none, none, r⟩
        (hs.set i (.done (cd.dec i ws))) ⟨as, none, none, r⟩ (some i)
  | composed {ws as r} (i : Nat) (v : Val) (k : Cont) :
      TStep cfg cd var hs ⟨⟨.comp i v k, ws, []⟩ :: as, none, none, r⟩
        (hs.set i (.blended (cd.comp i v ws)))
        (Thread.deliver ⟨as, none, none, r⟩ k (cd.comp i v ws)) (some i)
  /-- leaving without a store or a notify: a load handler, or finding F2 (`composite(..)?` leaves
  with the handle still `Rendering`) -/
  | popFail {h ws as e r} (e' : ErrK) : h.isLoad = true ∨ var = .old ∧ (∃ i v k, h = .comp i v k) →
      TStep cfg cd var hs ⟨⟨h, ws, []⟩ :: as, e, none, r⟩ hs
        (Thread.fail ⟨as, none, none, r⟩ e') none
  /-- `IncompleteFrame` out of `render_loading_frame` falls back to `keyframe_in_progress` -/
  | loadFallback {h ws as e r} (b : List Item) : h.isLoad = true → fallbackBody cfg = some b →
      TStep cfg cd var hs ⟨⟨h, ws, []⟩ :: as, e, none, r⟩ hs
        (Thread.setBody ⟨as, none, none, r⟩ b) none
  | loadedOp {ws as r} (f : Frame) : cfg.loading = some f → f.skip = true →
      TStep cfg cd var hs ⟨⟨.loadOp, ws, []⟩ :: as, none, none, r⟩ hs
        ⟨as, none, none, some (.ok (cd.pre cfg.frames.length (cd.dec cfg.frames.length ws)))⟩ none
  | loadedComp {ws as r} (v : Val) :
      TStep cfg cd var hs ⟨⟨.loadComp v, ws, []⟩ :: as, none, none, r⟩ hs
        ⟨as, none, none, some (.ok (cd.comp cfg.frames.length v ws))⟩ none
  /-- the loading frame is decoded; its composite takes the place of the activation -/
  | loadNext {ws as r} (f : Frame) : cfg.loading = some f → f.skip = false →
      TStep cfg cd var hs ⟨⟨.loadOp, ws, []⟩ :: as, none, none, r⟩ hs
        ⟨⟨.loadComp (cd.pre cfg.frames.length (cd.dec cfg.frames.length ws)), [], compBody f⟩ :: as,
          none, none, r⟩ none

theorem stepThread_spec (cfg : Config) (cd : Codec) (var : Variant) (ch : Choice)
    (hs : List HState) (th : Thread) (hne : th.acts ≠ []) (hsl : th.asleep = none) :
    TStep cfg cd var hs th (stepThread cfg cd var ch hs th).hs (stepThread cfg cd var ch hs th).th
      (stepThread cfg cd var ch hs th).notify := by
  obtain ⟨_ | ⟨⟨h, ws, _ | ⟨it, rest⟩⟩, as⟩, e, s, r⟩ := th <;> obtain rfl : s = none := hsl
  · contradiction
  · have lf : ∀ x, h.isLoad = true → TStep cfg cd var hs ⟨⟨h, ws, []⟩ :: as, e, none, r⟩ hs
        (loadFail cfg ⟨⟨h, ws, []⟩ :: as, e, none, r⟩ x) none := fun x hl => by
      unfold loadFail
      split
      · split
        · exact .loadFallback _ hl ‹_›
        · exact .popFail _ (.inl hl)
      · exact .popFail _ (.inl hl)
    cases h with
    | top => exact .ret
    | op i silent c =>
      cases e with
      | some x =>
        simp only [stepThread, stepDone]
        split
        · exact .drop i silent c _ rfl
        · exact .dropFail i _ _ rfl rfl
      | none =>
        simp only [stepThread, stepDone]
        split
        · split
          · exact .drop i silent c _ rfl
          · exact .dropFail i _ _ rfl rfl
        · split
          · exact .decoded i silent c
          · split
            · exact .drop i silent c _ rfl
            · exact .dropFail i _ _ rfl rfl
    | comp i v k =>
      cases e with
      | some x =>
        cases var
        · exact .popFail x (.inr ⟨rfl, i, v, k, rfl⟩)
        · exact .dropFail i _ x rfl rfl
      | none => exact .composed i v k
    | loadOp =>
      cases e with
      | some x => exact lf x rfl
      | none =>
        simp only [stepThread, stepDone]
        split
        · exact lf _ rfl
        · split
          · exact lf .incomplete rfl
          · split
            · exact lf .incomplete rfl
            · split
              · exact .loadedOp _ ‹_› ‹_›
              · exact .loadNext _ ‹_› (Bool.eq_false_iff.2 ‹_›)
    | loadComp v =>
      cases e with
      | some x => exact lf x rfl
      | none => exact .loadedComp v
  · cases it with
    | rwi i =>
      simp only [stepThread, stepItem]
      split
      · exact .startOp i false none (.inl rfl) (by simp [*])
      · exact .startOp i false _ (.inl rfl) (by simp [*])
      · exact .fail _ (.set i _ rfl (by simp [*]))
      · exact .fail _ .same
      · exact .wait i
    | waitRwi i =>
      simp only [stepThread, stepItem]
      split
      · exact .sleep i rfl ‹_›
      · exact .next (by simp) .same
      · exact .next (by simp) .same
      · exact .fail _ (.set i _ rfl (fun _ => by assumption))
    | blend i k =>
      simp only [stepThread, stepItem]
      split
      · exact .sleep i rfl ‹_›
      · exact .deliver i k _ ‹_›
      · split
        · exact .fail _ (.set i _ rfl (by simp [*]))
        · split
          · exact .finish i k _ ‹_› ‹_›
          · exact .startComp i k _ ‹_› (Bool.eq_false_iff.2 ‹_›)
      · exact .fail _ (.set i _ rfl (fun _ => by assumption))
    | bg i =>
      simp only [stepThread, stepItem]
      split
      · exact .startOp i true none (.inr rfl) (by simp [*])
      · exact .startOp i true _ (.inr rfl) (by simp [*])
      · exact .next (by simp) .same
    | mayFail =>
      simp only [stepThread, stepItem]
      split
      · exact .fail _ .same
      · exact .next (by simp) .same
    | tryTake i =>
      simp only [stepThread, stepItem]
      split
      · refine .next (by simp) ?_
        split
        · exact .set i _ rfl (by simp [*])
        · exact .same
      · exact .next (by simp) .same
    | reset i =>
      simp only [stepThread, stepItem]
      split
      · exact .next (by simp) (.set i _ rfl (by simp))
      · split
        · exact .next (by simp) .same
        · exact .next (by simp) (.set i _ rfl (fun _ => by assumption))
    | loadFrame =>
      simp only [stepThread, stepItem]
      split
      · split
        · exact .fallback _ ‹_›
        · exact .fail _ .same
      · split
        · split
          · exact .fallback _ ‹_›
          · exact .fail _ .same
        · exact .fail _ .same
        · exact .startLoad _ ‹_›

theorem stepThread_clob_fixed (cfg : Config) (cd : Codec) (ch : Choice) (hs : List HState)
    (th : Thread) : (stepThread cfg cd .fixed ch hs th).clob = false := by
  unfold stepThread stepDone stepItem
  dsimp only
  repeat' split
  all_goals rfl

theorem ActsOK.items {n : Nat} {h : Handler} {ws : List Val} {b : List Item} {as : List Act}
    (hok : ActsOK n (⟨h, ws, b⟩ :: as)) : ∀ x ∈ b, x.ok n h :=
  (Act.ok_iff n _).1 hok.1

theorem ActsOK.body {n : Nat} {h : Handler} {ws ws' : List Val} {b b' : List Item} {as : List Act}
    (hok : ActsOK n (⟨h, ws, b⟩ :: as)) (hb : ∀ x ∈ b', x.ok n h) :
    ActsOK n (⟨h, ws', b'⟩ :: as) :=
  ⟨(Act.ok_iff n _).2 hb, hok.2⟩

theorem ActsOK.rest {n : Nat} {h : Handler} {ws ws' : List Val} {it : Item} {rest : List Item}
    {as : List Act} (hok : ActsOK n (⟨h, ws, it :: rest⟩ :: as)) :
    ActsOK n (⟨h, ws', rest⟩ :: as) :=
  hok.body fun x hx => hok.items x (.tail _ hx)

theorem ActsOK.idx {n i : Nat} {h : Handler} {ws : List Val} {it : Item} {rest : List Item}
    {as : List Act} (hok : ActsOK n (⟨h, ws, it :: rest⟩ :: as)) (hi : it.idx? = some i) :
    i < h.bound n ∧ h.bound n ≤ n :=
  ⟨(hok.items it (.head _)).1 i hi, ctxBound_le n _ hok⟩

theorem ActsOK.push {n : Nat} {h : Handler} {ws : List Val} {it : Item} {rest : List Item}
    {as : List Act} (hok : ActsOK n (⟨h, ws, it :: rest⟩ :: as)) {new : Handler} {f : Frame}
    {b : List Item} (hb : ∀ x ∈ b, x.within f.refs) (hf : f.wfAt (new.bound n) = true)
    (hle : new.bound n ≤ h.bound n) (ho : ∀ j, new.owns = some j → j < h.bound n) :
    ActsOK n (⟨new, [], b⟩ :: ⟨h, ws, rest⟩ :: as) :=
  ⟨(Act.ok_iff n _).2 fun x hx => (hb x hx).ok hf (Nat.le_refl _), hle, ho, hok.rest⟩

theorem actsOK_fail {n : Nat} {th : Thread} (e : ErrK) (hok : ActsOK n th.acts) :
    ActsOK n (th.fail e).acts := by
  unfold Thread.fail
  split
  · exact hok
  · rename_i a as hacts
    rw [hacts] at hok
    exact hok.body nofun

theorem actsOK_deliver {n : Nat} {th : Thread} (k : Cont) (v : Val) (hok : ActsOK n th.acts) :
    ActsOK n (th.deliver k v).acts := by
  unfold Thread.deliver
  cases k with
  | discard | ret => exact hok
  | collect =>
    simp only
    split
    · exact hok
    · rename_i a as hacts
      rw [hacts] at hok
      exact hok.body hok.items

theorem TStep.actsOK {cfg : Config} {cd : Codec} {var : Variant} (hwf : cfg.wf = true)
    {hs hs' : List HState} {th th' : Thread} {ntf : Option Nat}
    (h : TStep cfg cd var hs th hs' th' ntf) (hok : ActsOK cfg.frames.length th.acts) :
    ActsOK cfg.frames.length th'.acts := by
  cases h with
  | sleep => exact hok
  | next => exact hok.rest
  | fail => exact hok.body nofun
  | wait => exact hok.body (List.forall_mem_cons.2 ⟨⟨(hok.items _ (.head _)).1, nofun⟩,
      fun x hx => hok.items x (.tail _ hx)⟩)
  | fallback b hfb => exact hok.body (fallback_ok hwf hfb ((hok.items _ (.head _)).2 rfl))
  | deliver i k v | finish i k v => exact actsOK_deliver k _ hok.rest
  | startOp i silent c hi =>
    have hlt := hok.idx (i := i) (by rcases hi with rfl | rfl <;> rfl)
    exact hok.push (opBody_within _ _) (wf_frame hwf (by omega)) (Nat.le_of_lt hlt.1)
      (fun j hj => by cases hj; exact hlt.1)
  | startComp i k v =>
    have hlt := hok.idx (i := i) rfl
    exact hok.push (compBody_within _) (wf_frame hwf (by omega)) (Nat.le_of_lt hlt.1)
      (fun j hj => by cases hj; exact hlt.1)
  | startLoad f hf =>
    exact hok.push (opBody_within _ _) (wf_loading hwf hf)
      (Nat.le_of_eq ((hok.items _ (.head _)).2 rfl).symm) nofun
  | ret | drop | decoded | loadedOp | loadedComp => exact hok.2.2.2
  | dropFail | popFail => exact actsOK_fail _ hok.2.2.2
  | composed => exact actsOK_deliver _ _ hok.2.2.2
  | @loadFallback _ _ as _ _ b hl hfb =>
    cases as with
    | nil => trivial
    | cons p ps =>
      -- the activation below a load handler is as unrestricted as the handler itself
      have h1 := hok.2.1
      have h2 := ctxBound_le _ _ hok.2.2.2
      rw [Handler.bound_of_isLoad hl] at h1
      exact ActsOK.body hok.2.2.2 (fallback_ok hwf hfb (Nat.le_antisymm h2 h1))
  | loadNext f hf =>
    exact ⟨(Act.ok_iff _ _).2 fun x hx => (compBody_within f x hx).ok (wf_loading hwf hf)
      (Nat.le_refl _), hok.2.1, nofun, hok.2.2.2⟩

theorem rendering_set_iff {hs : List HState} {i : Nat} {s : HState} (hs' : s ≠ .rendering)
    (hi : getH hs i ≠ .rendering) (j : Nat) :
    getH (hs.set i s) j = .rendering ↔ getH hs j = .rendering := by
  rw [getH_set]
  split
  · rename_i h
    exact iff_of_false hs' (h.1 ▸ hi)
  · rfl

/-- A step of the repaired code seen from the handles: a handle becomes `Rendering` when the thread
comes to own it and stops being so when the thread gives it up (`count`), which it announces
(`keep`). -/
structure Shape (n : Nat) (hs : List HState) (th : Thread) (hs' : List HState) (th' : Thread)
    (ntf : Option Nat) : Prop where
  length : hs'.length = hs.length
  count : ∀ j, (if getH hs' j = .rendering then 1 else 0) + th.owned.count j =
    (if getH hs j = .rendering then 1 else 0) + th'.owned.count j
  keep : ∀ {i}, getH hs i = .rendering → ntf ≠ some i → getH hs' i = .rendering
  asleep : ∀ i, th'.asleep = some i →
    ntf = none ∧ getH hs' i = .rendering ∧ i < innerBound n th'

theorem Stores.rendering {hs hs' : List HState} (h : Stores .fixed hs hs') :
    hs'.length = hs.length ∧ ∀ j, getH hs' j = .rendering ↔ getH hs j = .rendering := by
  cases h with
  | same => exact ⟨rfl, fun _ => Iff.rfl⟩
  | set i s hs hi =>
    exact ⟨List.length_set .., rendering_set_iff (HState.ne_rendering_of_plain hs) (hi rfl)⟩

theorem TStep.shape {cfg : Config} {cd : Codec} {n : Nat} {hs hs' : List HState}
    {th th' : Thread} {ntf : Option Nat} (h : TStep cfg cd .fixed hs th hs' th' ntf)
    (hn : hs.length = n) (hok : ActsOK n th.acts)
    (hown : ∀ j ∈ th.owned, getH hs j = .rendering) : Shape n hs th hs' th' ntf := by
  have quiet : ∀ {hs' th'},
      (hs'.length = hs.length ∧ ∀ j, getH hs' j = .rendering ↔ getH hs j = .rendering) →
      th'.owned = th.owned → th'.asleep = none → Shape n hs th hs' th' none :=
    fun hw ho hsl => ⟨hw.1, fun j => by simp only [hw.2, ho], fun h _ => (hw.2 _).2 h,
      by simp [hsl]⟩
  have acq : ∀ {i th'}, i < hs.length → getH hs i ≠ .rendering → th'.owned = i :: th.owned →
      th'.asleep = none → Shape n hs th (hs.set i .rendering) th' none := by
    intro i th' hi hnr ho hsl
    refine ⟨List.length_set .., fun j => ?_, fun h _ => ?_, by simp [hsl]⟩
    · simp only [getH_set, ho, List.count_cons, beq_iff_eq]
      by_cases e : i = j
      · subst e; simp [hi, hnr]; omega
      · simp [e]
    · rw [getH_set]
      split
      · rfl
      · exact h
  have rel : ∀ {i st th'}, st ≠ .rendering → th.owned = i :: th'.owned → th'.asleep = none →
      Shape n hs th (hs.set i st) th' (some i) := by
    intro i st th' hst ho hsl
    have hr := hown i (ho ▸ .head _)
    have hi : i < hs.length := Nat.lt_of_not_le fun h => by simp [getH_of_ge hs i h] at hr
    refine ⟨List.length_set .., fun j => ?_, fun h hne => ?_, by simp [hsl]⟩
    · simp only [getH_set, ho, List.count_cons, beq_iff_eq]
      by_cases e : i = j
      · subst e; simp [hi, hst, hr]; omega
      · simp [e]
    · rw [getH_set, if_neg fun e => hne (congrArg some (And.left e))]
      exact h
  cases h with
  | sleep i hi hr =>
    exact ⟨rfl, fun _ => rfl, fun h _ => h, by rintro _ ⟨⟩; exact ⟨rfl, hr, (hok.idx hi).1⟩⟩
  | next _ hw | fail _ hw => exact quiet hw.rendering rfl rfl
  | wait | fallback | startLoad | ret | loadNext | loadedOp | loadedComp =>
    exact quiet Stores.same.rendering rfl rfl
  | deliver => exact quiet Stores.same.rendering (owned_deliver ..) (asleep_deliver ..)
  | finish i k v hd =>
    exact quiet ⟨List.length_set .., rendering_set_iff (by simp) (by simp [hd])⟩ (owned_deliver ..)
      (asleep_deliver ..)
  | startOp i silent c hi hnr =>
    have hlt := hok.idx (i := i) (by rcases hi with rfl | rfl <;> rfl)
    exact acq (by omega) hnr rfl rfl
  | startComp i k v hd =>
    have hlt := hok.idx (i := i) rfl
    exact acq (by omega) (by simp [hd]) rfl rfl
  | drop i silent c st hp => exact rel (HState.ne_rendering_of_plain hp) rfl rfl
  | dropFail i st e' ho hp =>
    exact rel (HState.ne_rendering_of_plain hp)
      (by rw [owned_fail]; simp [Thread.owned, ho]) (asleep_fail ..)
  | decoded => exact rel nofun rfl rfl
  | composed =>
    exact rel nofun (by rw [owned_deliver]; rfl) (asleep_deliver ..)
  | popFail e' hh =>
    rcases hh with hl | ⟨hv, _⟩
    · exact quiet Stores.same.rendering
        (by rw [owned_fail]; simp [Thread.owned, Handler.owns_of_isLoad hl])
        (asleep_fail ..)
    · cases hv
  | loadFallback b hl =>
    exact quiet Stores.same.rendering
      (by rw [owned_setBody]; simp [Thread.owned, Handler.owns_of_isLoad hl])
      (asleep_setBody ..)

/-- the scheme of `wTab` and `cleanTab`: an entry that looks only below itself may as well look
into the finished table -/
theorem tab_fix {α : Type} (T : Nat → List α) (g : Nat → (Nat → α) → α) (d : α) (h0 : T 0 = [])
    (hs : ∀ m, T (m + 1) = T m ++ [g m ((T m).getD · d)]) (n : Nat)
    (hg : ∀ i, i < n → ∀ look look', (∀ r, r < i → look r = look' r) → g i look = g i look')
    (i : Nat) (hi : i < n) : (T n).getD i d = g i ((T n).getD · d) := by
  have key : ∀ m, (T m).length = m ∧ ∀ r, r < m → (T m).getD r d = g r ((T r).getD · d) := by
    intro m
    induction m with
    | zero => simp [h0]
    | succ m ih =>
      obtain ⟨hl, ih⟩ := ih
      refine ⟨by simp [hs, hl], fun r hr => ?_⟩
      rw [hs, List.getD_eq_getElem?_getD]
      by_cases hrm : r < m
      · rw [List.getElem?_append_left (by omega), ← List.getD_eq_getElem?_getD]
        exact ih r hrm
      · obtain rfl : r = m := by omega
        simp [hl]
  rw [(key n).2 i hi]
  exact hg i hi _ _ fun r hr => by rw [(key i).2 r hr, (key n).2 r (by omega)]

theorem wItem_congr (look look' : Nat → Nat × Nat) (it : Item)
    (h : ∀ j, it.idx? = some j → look j = look' j) : wItem look it = wItem look' it := by
  cases it <;> simp [wItem, Item.idx?] at h ⊢ <;> simp [h]

theorem wBody_congr (look look' : Nat → Nat × Nat) (b : List Item)
    (h : ∀ it ∈ b, ∀ j, it.idx? = some j → look j = look' j) : wBody look b = wBody look' b := by
  unfold wBody
  congr 1
  exact List.map_congr_left fun it hit => wItem_congr look look' it (h it hit)

theorem wEntry_congr (inl : Bool) (look look' : Nat → Nat × Nat) (f : Frame) (i : Nat)
    (hwf : f.wfAt i = true) (h : ∀ r, r < i → look r = look' r) :
    wEntry inl look f = wEntry inl look' f := by
  have hr := (wfAt_iff f i).1 hwf
  simp only [wEntry]
  rw [wBody_congr look look' (opBody inl f) fun it hit j hj =>
      h j (hr j ((opBody_within inl f it hit).2.2 j hj)),
    wBody_congr look look' (compBody f) fun it hit j hj =>
      h j (hr j ((compBody_within f it hit).2.2 j hj))]

theorem wLook_eq (cfg : Config) (hwf : cfg.wf = true) (i : Nat) (hi : i < cfg.frames.length) :
    wLook cfg i = wEntry cfg.inline (wLook cfg) (frameOf cfg i) :=
  tab_fix (wTab cfg) (fun i look => wEntry cfg.inline look (frameOf cfg i)) (0, 0) rfl
    (fun _ => rfl) _ (fun i hi _ _ h => wEntry_congr _ _ _ _ i (wf_frame hwf hi) h) i hi

theorem wIt_pos (cfg : Config) (it : Item) : 1 ≤ wIt cfg it := by
  cases it <;> simp [wIt, wItem, wLoading] <;> omega

theorem sumNat_cons (x : Nat) (l : List Nat) : sumNat (x :: l) = x + sumNat l := rfl

theorem sumNat_append (l l' : List Nat) : sumNat (l ++ l') = sumNat l + sumNat l' := by
  induction l with
  | nil => simp [sumNat]
  | cons x l ih => simp [sumNat_cons, ih]; omega

def wB (cfg : Config) (b : List Item) : Nat := sumNat (b.map (wIt cfg))

theorem wB_cons (cfg : Config) (it : Item) (b : List Item) :
    wB cfg (it :: b) = wIt cfg it + wB cfg b := rfl

theorem wB_nil (cfg : Config) : wB cfg [] = 0 := rfl

theorem wB_eq (cfg : Config) (b : List Item) (h : ∀ it ∈ b, it ≠ .loadFrame) :
    wB cfg b = wBody (wLook cfg) b := by
  unfold wB wBody
  congr 1
  apply List.map_congr_left
  intro it hit
  have := h it hit
  cases it <;> first | rfl | contradiction

theorem wB_within (cfg : Config) {b : List Item} {refs : List Nat} (h : ∀ it ∈ b, it.within refs) :
    wB cfg b = wBody (wLook cfg) b :=
  wB_eq cfg b fun it hit => (h it hit).1

theorem wB_fallback (cfg : Config) {b : List Item} (h : fallbackBody cfg = some b) :
    wB cfg b = wFB cfg := by
  unfold wFB
  rw [h]
  apply wB_eq
  unfold fallbackBody at h
  split at h
  · cases h
    simp
  · cases h

def wActs (cfg : Config) (as : List Act) : Nat := sumNat (as.map (wAct cfg))

theorem wThread_mk (cfg : Config) (acts : List Act) (e : Option ErrK) (s : Option Nat)
    (r : Option Res) : wThread cfg ⟨acts, e, s, r⟩ = wActs cfg acts := rfl

theorem wActs_cons (cfg : Config) (h : Handler) (ws : List Val) (b : List Item) (as : List Act) :
    wActs cfg (⟨h, ws, b⟩ :: as) = 1 + wB cfg b + wExtra cfg h + wActs cfg as := rfl

theorem wLook_eq_wB (cfg : Config) (hwf : cfg.wf = true) {i : Nat} (hi : i < cfg.frames.length) :
    wLook cfg i = (1 + wB cfg (opBody cfg.inline (frameOf cfg i)),
      1 + wB cfg (compBody (frameOf cfg i))) := by
  rw [wLook_eq cfg hwf i hi, wB_within cfg (opBody_within _ _), wB_within cfg (compBody_within _)]
  rfl

theorem wThread_fail_le (cfg : Config) (th : Thread) (e : ErrK) :
    wThread cfg (th.fail e) ≤ wThread cfg th := by
  obtain ⟨_ | ⟨⟨h, ws, b⟩, as⟩, e₀, s, r⟩ := th
  · exact Nat.le_refl _
  · simp only [Thread.fail, wThread_mk, wActs_cons, wB_nil]
    omega

@[simp] theorem wThread_deliver (cfg : Config) (th : Thread) (k : Cont) (v : Val) :
    wThread cfg (th.deliver k v) = wThread cfg th := by
  obtain ⟨_ | ⟨⟨h, ws, b⟩, as⟩, e, s, r⟩ := th <;> cases k <;> rfl

theorem TStep.weight {cfg : Config} {cd : Codec} {var : Variant} (hwf : cfg.wf = true)
    {hs hs' : List HState} {th th' : Thread} {ntf : Option Nat}
    (h : TStep cfg cd var hs th hs' th' ntf) (hok : ActsOK cfg.frames.length th.acts)
    (hsl : th'.asleep = none) : wThread cfg th' < wThread cfg th := by
  -- Where the constants of `wItem`, `wLoading`, `wExtra` go: `rwi` pays for the step to `waitRwi`
  -- and the wait besides the activation it may start; `loadFrame` pays for entering `loadOp`, for
  -- the switch to `loadComp` and for the fallback; every handler pays `1` for its own step;
  -- popping, then failing or delivering in the activation below, is covered by that `1`.
  cases h with
  | sleep => cases hsl
  | @next _ _ it | @fail _ _ it =>
    have := wIt_pos cfg it
    simp only [wThread_mk, wActs_cons, wB_cons, wB_nil]
    omega
  | wait => simp only [wThread_mk, wActs_cons, wB_cons, wIt, wItem]; omega
  | fallback b hfb =>
    simp only [wThread_mk, wActs_cons, wB_cons, wB_fallback cfg hfb, wIt, wLoading]
    omega
  | @deliver _ _ _ _ _ _ i k | @finish _ _ _ _ _ _ i k =>
    have := wIt_pos cfg (.blend i k)
    simp only [wThread_deliver, wThread_mk, wActs_cons, wB_cons]
    omega
  | startOp i silent c hi =>
    have hlt := hok.idx (i := i) (by rcases hi with rfl | rfl <;> rfl)
    have := wLook_eq_wB cfg hwf (i := i) (by omega)
    simp only [wThread_mk, wActs_cons, wB_cons, wExtra]
    rcases hi with rfl | rfl <;> simp only [wIt, wItem, this] <;> omega
  | startComp i k v =>
    have hlt := hok.idx (i := i) rfl
    simp only [wThread_mk, wActs_cons, wB_cons, wExtra, wIt, wItem,
      wLook_eq_wB cfg hwf (i := i) (by omega)]
    omega
  | startLoad f hf =>
    simp only [wThread_mk, wActs_cons, wB_cons, wExtra, wIt, wLoading, hf, wEntry,
      ← wB_within cfg (opBody_within _ f), ← wB_within cfg (compBody_within f)]
    omega
  | ret | drop | decoded | loadedOp | loadedComp =>
    simp only [wThread_mk, wActs_cons]
    omega
  | @dropFail _ _ as _ r _ _ e' | @popFail _ _ as _ r e' =>
    have := wThread_fail_le cfg ⟨as, none, none, r⟩ e'
    simp only [wThread_mk, wActs_cons] at this ⊢
    omega
  | composed =>
    simp only [wThread_deliver, wThread_mk, wActs_cons]
    omega
  | @loadFallback h _ as _ _ b hl hfb =>
    have : wFB cfg + 1 ≤ wExtra cfg h := by cases h <;> simp_all [Handler.isLoad, wExtra] <;> omega
    rcases as with _ | ⟨⟨_, _, _⟩, _⟩ <;>
      simp only [Thread.setBody, wThread_mk, wActs_cons, wB_fallback cfg hfb] <;> omega
  | loadNext f hf =>
    simp only [wThread_mk, wActs_cons, wExtra, hf, wEntry, ← wB_within cfg (compBody_within f)]
    omega

def chanRefs (f : Frame) : List Nat := f.chans.filterMap (·.1)

def cleanEntry (cd : Codec) (b : Nat → Val) (i : Nat) (f : Frame) : Val × Val :=
  let d := cd.dec i (f.opRefs.map b)
  let p := cd.pre i d
  (d, if f.skip then p else cd.comp i p ((chanRefs f).map b))

theorem cleanEntry_congr (cd : Codec) (b b' : Nat → Val) (i : Nat) (f : Frame)
    (hwf : f.wfAt i = true) (h : ∀ r, r < i → b r = b' r) :
    cleanEntry cd b i f = cleanEntry cd b' i f := by
  have hr : ∀ r ∈ f.refs, b r = b' r := fun r hr => h r ((wfAt_iff f i).1 hwf r hr)
  have e1 : f.opRefs.map b = f.opRefs.map b' :=
    List.map_congr_left fun r hr' => hr r (by simp [Frame.refs, hr'])
  have e2 : (chanRefs f).map b = (chanRefs f).map b' :=
    List.map_congr_left fun r hr' => hr r (by
      simp only [Frame.refs, List.mem_append]; exact .inl (.inr hr'))
  simp only [cleanEntry, e1, e2]

theorem clean_eq (cfg : Config) (cd : Codec) (hwf : cfg.wf = true) (i : Nat)
    (hi : i < cfg.frames.length) :
    (cleanDone cfg cd i, cleanBlended cfg cd i) =
      cleanEntry cd (cleanBlended cfg cd) i (frameOf cfg i) :=
  tab_fix (cleanTab cfg cd) (fun i look => cleanEntry cd (fun q => (look q).2) i (frameOf cfg i))
    (0, 0) rfl (fun _ => rfl) _
    (fun i hi _ _ h => cleanEntry_congr cd _ _ i _ (wf_frame hwf hi) fun r hr => by rw [h r hr])
    i hi

theorem cleanBlended_eq (cfg : Config) (cd : Codec) (hwf : cfg.wf = true) (i : Nat)
    (hi : i < cfg.frames.length) :
    cleanBlended cfg cd i =
      if (frameOf cfg i).skip then cd.pre i (cleanDone cfg cd i)
      else cd.comp i (cd.pre i (cleanDone cfg cd i))
        ((chanRefs (frameOf cfg i)).map (cleanBlended cfg cd)) := by
  obtain ⟨h1, h2⟩ := Prod.mk.inj (clean_eq cfg cd hwf i hi)
  rw [h1]
  simpa [cleanEntry, chanRefs] using h2

def Cont.gives (k : Cont) (v : Val) : List Val :=
  match k with
  | .collect => [v]
  | _ => []

/-- the image an item will add to the accumulator of its activation -/
def Item.gives (cfg : Config) (cd : Codec) : Item → List Val
  | .blend r .collect => [cleanBlended cfg cd r]
  | _ => []

def pend (cfg : Config) (cd : Codec) (b : List Item) : List Val := b.flatMap (Item.gives cfg cd)

theorem pend_append (cfg : Config) (cd : Codec) (b b' : List Item) :
    pend cfg cd (b ++ b') = pend cfg cd b ++ pend cfg cd b' := List.flatMap_append

theorem pend_blend (cfg : Config) (cd : Codec) (r : Nat) (k : Cont) (rest : List Item) :
    pend cfg cd (.blend r k :: rest) = k.gives (cleanBlended cfg cd r) ++ pend cfg cd rest := by
  cases k <;> rfl

theorem pend_cons_other (cfg : Config) (cd : Codec) (it : Item) (rest : List Item)
    (h : ∀ r k, it ≠ .blend r k) : pend cfg cd (it :: rest) = pend cfg cd rest := by
  cases it <;> first | rfl | exact absurd rfl (h _ _)

theorem pend_opBody (cfg : Config) (cd : Codec) (inl : Bool) (f : Frame) :
    pend cfg cd (opBody inl f) = f.opRefs.map (cleanBlended cfg cd) := by
  cases inl <;>
    simp [pend, opBody, refCall, Item.gives, List.flatMap_append, List.flatMap_assoc,
      List.map_eq_flatMap]

theorem pend_compBody (cfg : Config) (cd : Codec) (f : Frame) :
    pend cfg cd (compBody f) = (chanRefs f).map (cleanBlended cfg cd) := by
  have hc : ∀ cs : List (Option Nat × Bool),
      pend cfg cd (cs.flatMap chanItems) = (cs.filterMap (·.1)).map (cleanBlended cfg cd) := by
    intro cs
    induction cs with
    | nil => rfl
    | cons c cs ih =>
      obtain ⟨_ | r, _ | _⟩ := c <;> simp_all [pend, chanItems, refCall, Item.gives]
  have hp : pend cfg cd (f.pre.flatMap (refCall .discard)) = [] := by
    simp [pend, refCall, Item.gives, List.flatMap_assoc]
  rw [compBody, pend_append, pend_append, hp, hc]
  cases f.reset <;> simp [pend, resetItems, Item.gives, chanRefs]

section Values
variable (cfg : Config) (cd : Codec) (P : Val → Prop)

def HsVal (hs : List HState) : Prop :=
  ∀ i, (∀ v, getH hs i = .done v → v = cleanDone cfg cd i) ∧
       (∀ v, getH hs i = .blended v → v = cleanBlended cfg cd i)

/-- `P` holds of everything `render_loading_keyframe` may return -/
def LoadP : Prop :=
  (∀ idx, cfg.inProgressKf = some idx → P (cleanBlended cfg cd idx)) ∧
  (∀ v, cleanLoading cfg cd = some v → P v)

def Item.valOK (h : Handler) (it : Item) : Prop :=
  (∀ r k, it = .blend r k → k = .ret → P (cleanBlended cfg cd r)) ∧
  (it = .loadFrame → h = .top ∧ LoadP cfg cd P)

/-- what a handle may hold at index `i` -/
def cleanAt (i : Nat) : HState → Prop
  | .done v => v = cleanDone cfg cd i
  | .blended v => v = cleanBlended cfg cd i
  | _ => True

/-- What the handler needs of `full` = images collected so far ++ image the child will deliver ++
images still to come: that the image it will store or return is the clean one. -/
def HandOK (h : Handler) (full : List Val) : Prop :=
  match h with
  | .top => True
  | .op i _ _ => cd.dec i full = cleanDone cfg cd i
  | .comp i v k => cd.comp i v full = cleanBlended cfg cd i ∧ (k = .ret → P (cleanBlended cfg cd i))
  | .loadOp => ∀ f, cfg.loading = some f → full = f.opRefs.map (cleanBlended cfg cd)
  | .loadComp v => P (cd.comp cfg.frames.length v full)

def Handler.gives : Handler → List Val
  | .comp j _ k => k.gives (cleanBlended cfg cd j)
  | _ => []

/-- The activation `a` when `d` is in flight to its accumulator from the activation above. `ex`: an
error is travelling to the handler of `a`; then its body has been dropped and its accumulator does
not matter. -/
structure AccOK (ex : Bool) (d : List Val) (a : Act) : Prop where
  items : ∀ it ∈ a.body, it.valOK cfg cd P a.h
  load : a.h.isLoad = true → LoadP cfg cd P
  hand : ex = true ∧ a.body = [] ∨ HandOK cfg cd P a.h (a.ws ++ d ++ pend cfg cd a.body)

/-- below a load handler sits the caller itself -/
def AccsOK : Bool → List Val → List Act → Prop
  | _, _, [] => True
  | ex, d, a :: rest =>
    AccOK cfg cd P ex d a ∧ (a.h.isLoad = true → ∀ p ∈ rest.head?, p.h = .top) ∧
      AccsOK false (a.h.gives cfg cd) rest

/-- The value invariant of `th` just after an activation was popped, or a `blend` item taken off,
that hands `d` to the innermost activation. -/
def ThreadValIn (d : List Val) (th : Thread) : Prop :=
  (∀ v, th.result = some (.ok v) → P v) ∧ AccsOK cfg cd P th.err.isSome d th.acts

def ThreadVal (th : Thread) : Prop := ThreadValIn cfg cd P [] th

variable {cfg cd P} {h : Handler} {ws : List Val} {b b₀ rest : List Item} {it : Item}
  {as : List Act} {e : Option ErrK} {s : Option Nat} {r : Option Res} {d : List Val}

theorem within_valOK {refs : List Nat} {b : List Item} (hb : ∀ it ∈ b, it.within refs)
    (h : Handler) : ∀ it ∈ b, it.valOK cfg cd P h :=
  fun it hit => ⟨fun r _ e hk => absurd (hk ▸ e) ((hb it hit).2.1 r), fun e => absurd e (hb it hit).1⟩

theorem callBody_valOK {idx : Nat} (hP : P (cleanBlended cfg cd idx)) (h : Handler) :
    ∀ it ∈ [Item.rwi idx, .blend idx .ret, .mayFail], it.valOK cfg cd P h := by
  simp [Item.valOK, hP]

theorem fallback_valOK (hL : LoadP cfg cd P) {b : List Item} (hfb : fallbackBody cfg = some b)
    (h : Handler) : ∀ it ∈ b, it.valOK cfg cd P h := by
  unfold fallbackBody at hfb
  split at hfb
  · rename_i idx hk
    cases hfb
    exact callBody_valOK (hL.1 idx hk) h
  · cases hfb

theorem hsVal_set {hs : List HState} {i : Nat} {st : HState} (hH : HsVal cfg cd hs)
    (hc : cleanAt cfg cd i st) : HsVal cfg cd (hs.set i st) := by
  intro j
  rw [getH_set]
  split
  · rename_i hij
    rw [← hij.1]
    exact ⟨fun v e => by subst e; exact hc, fun v e => by subst e; exact hc⟩
  · exact hH j

theorem cleanAt_plain {i : Nat} {st : HState} (hp : st.plain = true) : cleanAt cfg cd i st := by
  cases st <;> first | trivial | cases hp

theorem Stores.hsVal {var : Variant} {hs hs' : List HState} (hw : Stores var hs hs')
    (hH : HsVal cfg cd hs) : HsVal cfg cd hs' := by
  cases hw with
  | same => exact hH
  | set i s hp => exact hsVal_set hH (cleanAt_plain hp)

theorem ThreadVal.head (hT : ThreadVal cfg cd P ⟨⟨h, ws, it :: rest⟩ :: as, e, s, r⟩) :
    it.valOK cfg cd P h :=
  hT.2.1.items it (.head _)

theorem ThreadVal.hand (hT : ThreadVal cfg cd P ⟨⟨h, ws, it :: rest⟩ :: as, e, s, r⟩) :
    HandOK cfg cd P h (ws ++ pend cfg cd (it :: rest)) := by
  simpa using hT.2.1.hand.resolve_left (fun h => nomatch h.2)

theorem ThreadVal.full (hT : ThreadVal cfg cd P ⟨⟨h, ws, []⟩ :: as, none, s, r⟩) :
    HandOK cfg cd P h ws := by
  simpa [pend] using hT.2.1.hand.resolve_left (fun h => nomatch h.1)

theorem ThreadVal.pop (hT : ThreadVal cfg cd P ⟨⟨h, ws, b⟩ :: as, e, s, r⟩) :
    ThreadValIn cfg cd P (h.gives cfg cd) ⟨as, none, s, r⟩ :=
  ⟨hT.1, hT.2.2.2⟩

theorem tv_setBody (b : List Item) (hT : ThreadValIn cfg cd P d ⟨⟨h, ws, b₀⟩ :: as, e, s, r⟩)
    (hb : ∀ it ∈ b, it.valOK cfg cd P h) (hh : HandOK cfg cd P h (ws ++ pend cfg cd b)) :
    ThreadVal cfg cd P ⟨⟨h, ws, b⟩ :: as, e, s, r⟩ :=
  ⟨hT.1, ⟨hb, hT.2.1.load, .inr (by simpa using hh)⟩, hT.2.2⟩

theorem tv_fail {th : Thread} (e : ErrK) (hT : ThreadValIn cfg cd P d th) :
    ThreadVal cfg cd P (th.fail e) := by
  obtain ⟨_ | ⟨a, as⟩, e₀, s, r⟩ := th
  · exact ⟨hT.1, trivial⟩
  · exact ⟨hT.1, ⟨nofun, hT.2.1.load, .inl ⟨rfl, rfl⟩⟩, hT.2.2⟩

theorem tv_deliver {th : Thread} (k : Cont) (v : Val) (hT : ThreadValIn cfg cd P (k.gives v) th)
    (hk : k = .ret → P v) : ThreadVal cfg cd P (th.deliver k v) := by
  cases k with
  | discard => exact hT
  | ret => exact ⟨fun w hw => by cases hw; exact hk rfl, hT.2⟩
  | collect =>
    obtain ⟨_ | ⟨a, as⟩, e₀, s, r⟩ := th
    · exact hT
    · exact ⟨hT.1, ⟨hT.2.1.items, hT.2.1.load, hT.2.1.hand.imp_right fun hh => by
        simpa [Cont.gives] using hh⟩, hT.2.2⟩

/-- the first item leaves the body and puts `d` in flight: nothing (`d = []`), the image a `blend`
item hands on, or what the activation it enters will deliver -/
theorem tv_step (hT : ThreadVal cfg cd P ⟨⟨h, ws, it :: rest⟩ :: as, e, s, r⟩)
    (hd : d ++ pend cfg cd rest = pend cfg cd (it :: rest)) (ex : Bool) :
    (∀ v, r = some (.ok v) → P v) ∧ AccsOK cfg cd P ex d (⟨h, ws, rest⟩ :: as) :=
  ⟨hT.1, ⟨fun x hx => hT.2.1.items x (.tail _ hx), hT.2.1.load,
    .inr (by simpa [List.append_assoc, hd] using hT.hand)⟩, hT.2.2⟩

theorem tv_push {new : Handler} {refs : List Nat} {p : Act}
    (hT : (∀ v, r = some (.ok v) → P v) ∧ AccsOK cfg cd P false (new.gives cfg cd) (p :: as))
    (hnb : ∀ x ∈ b, x.within refs) (hnh : HandOK cfg cd P new (pend cfg cd b))
    (hload : new.isLoad = true → p.h = .top ∧ LoadP cfg cd P) :
    ThreadVal cfg cd P ⟨⟨new, [], b⟩ :: p :: as, e, s, r⟩ :=
  ⟨hT.1, ⟨within_valOK hnb _, fun hl => (hload hl).2, .inr (by simpa using hnh)⟩,
    fun hl _ hq => by cases hq; exact (hload hl).1, hT.2⟩

theorem TStep.val {var : Variant} (hwf : cfg.wf = true) {hs hs' : List HState} {th th' : Thread}
    {ntf : Option Nat} (h : TStep cfg cd var hs th hs' th' ntf)
    (hok : ActsOK cfg.frames.length th.acts) (hH : HsVal cfg cd hs) (hT : ThreadVal cfg cd P th) :
    HsVal cfg cd hs' ∧ ThreadVal cfg cd P th' := by
  cases h with
  | sleep => exact ⟨hH, hT⟩
  | next hnb hw => exact ⟨hw.hsVal hH, tv_step hT (pend_cons_other cfg cd _ _ hnb).symm _⟩
  | fail e' hw => exact ⟨hw.hsVal hH, tv_fail e' hT⟩
  | wait i =>
    exact ⟨hH, tv_setBody _ hT (List.forall_mem_cons.2 ⟨⟨nofun, nofun⟩,
      fun x hx => hT.2.1.items x (.tail _ hx)⟩) hT.hand⟩
  | fallback b hfb =>
    obtain ⟨htop, hL⟩ := hT.head.2 rfl
    exact ⟨hH, tv_setBody b hT (fallback_valOK hL hfb _) (htop ▸ trivial)⟩
  | deliver i k v hb =>
    cases (hH i).2 v hb
    exact ⟨hH, tv_deliver k _ (tv_step hT (pend_blend ..).symm _) (hT.head.1 i k rfl)⟩
  | finish i k v hd hskip =>
    cases (hH i).1 v hd
    have hcb : cd.pre i (cleanDone cfg cd i) = cleanBlended cfg cd i := by
      rw [cleanBlended_eq cfg cd hwf i (by have := hok.idx (i := i) rfl; omega), hskip]; rfl
    rw [hcb]
    exact ⟨hsVal_set hH rfl, tv_deliver k _ (tv_step hT (pend_blend ..).symm _) (hT.head.1 i k rfl)⟩
  | @startOp _ _ it rest _ _ _ i silent c hi =>
    have hlt := hok.idx (i := i) (by rcases hi with rfl | rfl <;> rfl)
    exact ⟨hsVal_set hH trivial, tv_push
      (tv_step hT (pend_cons_other cfg cd it rest (by rcases hi with rfl | rfl <;> simp)).symm _)
      (opBody_within _ _)
      (by rw [pend_opBody]; exact (congrArg Prod.fst (clean_eq cfg cd hwf i (by omega))).symm) nofun⟩
  | @startComp _ _ rest _ _ _ i k v hd hskip =>
    cases (hH i).1 v hd
    exact ⟨hsVal_set hH trivial, tv_push (tv_step hT (pend_blend ..).symm _) (compBody_within _)
      ⟨by rw [pend_compBody, cleanBlended_eq cfg cd hwf i (by have := hok.idx (i := i) rfl; omega),
          hskip]; rfl, hT.head.1 i k rfl⟩ nofun⟩
  | startLoad f hf =>
    obtain ⟨htop, hL⟩ := hT.head.2 rfl
    exact ⟨hH, tv_push (tv_step hT rfl _) (opBody_within _ _)
      (fun f' hf' => by cases hf.symm.trans hf'; exact pend_opBody cfg cd _ _)
      fun _ => ⟨htop, hL⟩⟩
  | @ret _ _ e => exact ⟨hH, by cases e; exact hT.1; exact nofun, hT.pop.2⟩
  | drop i silent c st hp => exact ⟨hsVal_set hH (cleanAt_plain hp), hT.pop⟩
  | dropFail i st e' ho hp => exact ⟨hsVal_set hH (cleanAt_plain hp), tv_fail _ hT.pop⟩
  | decoded => exact ⟨hsVal_set hH hT.full, hT.pop⟩
  | composed i v k =>
    obtain ⟨hv, hk⟩ := hT.full
    rw [hv]
    exact ⟨hsVal_set hH rfl, tv_deliver k _ hT.pop hk⟩
  | popFail e' => exact ⟨hH, tv_fail _ hT.pop⟩
  | @loadFallback h _ as _ _ b hl hfb =>
    have hp := hT.pop
    rw [show h.gives cfg cd = [] by cases h <;> first | rfl | cases hl] at hp
    rcases as with _ | ⟨⟨ph, _, _⟩, _⟩
    · exact ⟨hH, hp⟩
    · exact ⟨hH, tv_setBody b hp (fallback_valOK (hT.2.1.load hl) hfb _)
        (by rw [show ph = .top from hT.2.2.1 hl _ rfl]; trivial)⟩
  | loadedOp f hf hskip =>
    refine ⟨hH, fun v hv => ?_, hT.pop.2⟩
    cases hv
    exact (hT.2.1.load rfl).2 _ (by simp [cleanLoading, hf, hskip, hT.full f hf])
  | loadedComp v => exact ⟨hH, fun w hw => by cases hw; exact hT.full, hT.pop.2⟩
  | loadNext f hf hskip =>
    exact ⟨hH, hT.1, ⟨within_valOK (compBody_within _) _, fun _ => hT.2.1.load rfl,
      .inr ((hT.2.1.load rfl).2 _ (by simp [cleanLoading, hf, hskip, hT.full f hf, pend_compBody, chanRefs]))⟩,
      hT.2.2⟩

end Values

/-- what a successful call may return -/
def OpClean (cfg : Config) (cd : Codec) : Op → Val → Prop
  | .renderKeyframe k, v => ∃ idx, cfg.keyframes[k]? = some idx ∧ v = cleanBlended cfg cd idx
  | .renderLoading, v =>
    cleanLoading cfg cd = some v ∨ ∃ idx, cfg.inProgressKf = some idx ∧ v = cleanBlended cfg cd idx
  | .requestRegion, _ => False

theorem tv_top {cfg : Config} {cd : Codec} {P : Val → Prop} {b : List Item}
    (hb : ∀ it ∈ b, it.valOK cfg cd P .top) (e : Option ErrK) :
    ThreadVal cfg cd P ⟨[⟨.top, [], b⟩], e, none, none⟩ :=
  ⟨nofun, ⟨hb, nofun, .inr trivial⟩, nofun, trivial⟩

theorem tv_start (cfg : Config) (cd : Codec) (op : Op) :
    ThreadVal cfg cd (OpClean cfg cd op) (startThread cfg op) := by
  cases op with
  | renderKeyframe k =>
    simp only [startThread]
    split
    · exact tv_top (callBody_valOK ⟨_, ‹_›, rfl⟩ _) _
    · exact tv_top (by simp) _
  | renderLoading =>
    exact tv_top (List.forall_mem_singleton.2 ⟨nofun, fun _ => ⟨rfl, fun idx h => .inr ⟨idx, h, rfl⟩,
      fun v h => .inl h⟩⟩) _
  | requestRegion => exact ⟨nofun, trivial⟩

end Jxl.RenderState
