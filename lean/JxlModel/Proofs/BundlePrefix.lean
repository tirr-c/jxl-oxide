import JxlModel.Proofs.Bundle
import JxlModel.Model.Feed
/-!
# Prefix stability of the generic bundle parser

C09 / C11 treat the header-level parsers as abstract functions constrained by `Feed.PrefixStable`
(an `Ok` on a buffer is the same `Ok` on every extension, a hard error stays that hard error; only
`unexpected_eof` may change). Here that hypothesis is *proved* for the generic parser of
`Model/Bundle.lean`, for every description (so for all the regenerated `Gen/Headers.lean`
descriptions, whatever the source says): by mutual induction over field types and field lists.
-/
namespace Jxl.Bundle

/-- `r'` (a result on `s ++ t`) continues `r` (the result on `s`): an `ok` is the same `ok` with `t`
still unread, any error other than end-of-data is the same error. `rest.length ≤ s.length` is
there because with it the count of whole bytes consumed is the same on the longer buffer
(`PrefixStable.ok_ext` in `bundleRes_stable`), and `s.length ≤ total` stays true for the next
reader. -/
def Ext {α : Type} (s t : Bits) (r r' : Except Err (α × Bits)) : Prop :=
  match r with
  | .ok (v, rest) => rest.length ≤ s.length ∧ r' = .ok (v, rest ++ t)
  | .error .eof => True
  | .error e => r' = .error e

theorem Ext.ok_iff {α : Type} {s t : Bits} {v : α} {rest : Bits} {r' : Except Err (α × Bits)} :
    Ext s t (.ok (v, rest)) r' ↔ rest.length ≤ s.length ∧ r' = .ok (v, rest ++ t) := Iff.rfl

theorem Ext.error {α : Type} (s t : Bits) (e : Err) : Ext (α := α) s t (.error e) (.error e) := by
  cases e <;> simp [Ext]

theorem Ext.eof {α : Type} (s t : Bits) (r' : Except Err (α × Bits)) : Ext s t (.error .eof) r' :=
  trivial

theorem Ext.pure {α : Type} (s t : Bits) (v : α) : Ext s t (.ok (v, s)) (.ok (v, s ++ t)) :=
  ⟨Nat.le_refl _, rfl⟩

/-- Every composite reader is a `match` on the result of a first reader; applied to that reader's
`Ext` fact this leaves the continuation on an `ok`, where the `match`es of the goal reduce. -/
@[elab_as_elim]
theorem Ext.cases {α : Type} {s t : Bits}
    {motive : Except Err (α × Bits) → Except Err (α × Bits) → Prop}
    {r r' : Except Err (α × Bits)} (h : Ext s t r r')
    (ok : ∀ v rest, rest.length ≤ s.length → motive (.ok (v, rest)) (.ok (v, rest ++ t)))
    (eof : ∀ r', motive (.error .eof) r')
    (error : ∀ e, motive (.error e) (.error e)) : motive r r' := by
  match r, h with
  | .ok (v, rest), ⟨hl, h2⟩ => subst h2; exact ok v rest hl
  | .error .eof, _ => exact eof r'
  | .error (.invalid k), h => subst h; exact error _
  | .error (.stuck k), h => subst h; exact error _

theorem Ext.mono {α : Type} {s s' t : Bits} {r r' : Except Err (α × Bits)} (h : Ext s' t r r')
    (hl : s'.length ≤ s.length) : Ext s t r r' :=
  h.cases (fun _ _ hl' => ⟨Nat.le_trans hl' hl, rfl⟩) (Ext.eof s t) (Ext.error s t)

theorem rd_ext (n : Nat) (s t : Bits) : Ext s t (rd n s) (rd n (s ++ t)) := by
  unfold rd
  rw [takeBits_eq, takeBits_eq]
  by_cases h : n ≤ s.length
  · have h' : n ≤ (s ++ t).length := by rw [List.length_append]; omega
    rw [if_pos h, if_pos h', List.take_append_of_le_length h, List.drop_append_of_le_length h]
    exact ⟨by rw [List.length_drop]; omega, rfl⟩
  · rw [if_neg h]
    trivial

/-- As a rule for `exact` this does not fit the model's readers: while the scrutinee is stuck, the
unifier compares the two matchers by their unfolded heads, and this one is polymorphic in `α` where
the model's are compiled at `Nat` / `Val`. The proofs below use `Ext.cases`, whose motive is free. -/
theorem ext_bind {α β : Type} {s t : Bits} {r r' : Except Err (α × Bits)}
    (f f' : α → Bits → Except Err (β × Bits)) (h : Ext s t r r')
    (hf : ∀ v rest, r = .ok (v, rest) → Ext rest t (f v rest) (f' v (rest ++ t))) :
    Ext s t (match (generalizing := false) r with | .ok (v, rest) => f v rest | .error e => .error e)
      (match (generalizing := false) r' with | .ok (v, rest) => f' v rest | .error e => .error e) := by
  revert hf
  exact h.cases (fun v rest hl hf => (hf v rest rfl).mono hl) (fun _ _ => trivial)
    (fun e _ => Ext.error s t e)

theorem Dist.read_ext (d : Dist) (s t : Bits) : Ext s t (d.read s) (d.read (s ++ t)) := by
  cases d with
  | const c => exact Ext.pure s t c
  | bits off n =>
    simp only [Dist.read]
    exact (rd_ext n s t).cases (fun v r hl => ⟨hl, rfl⟩) (Ext.eof s t) (Ext.error s t)

theorem readU32_ext (d0 d1 d2 d3 : Dist) (s t : Bits) :
    Ext s t (readU32 d0 d1 d2 d3 s) (readU32 d0 d1 d2 d3 (s ++ t)) := by
  simp only [readU32]
  exact (rd_ext 2 s t).cases (fun k r hl => (Dist.read_ext _ r t).mono hl) (Ext.eof s t) (Ext.error s t)

theorem readU64Loop_ext : ∀ (fuel shift value : Nat) (s t : Bits),
    Ext s t (readU64Loop fuel shift value s) (readU64Loop fuel shift value (s ++ t))
  | 0, shift, value, s, t => Ext.pure s t value
  | fuel+1, shift, value, s, t => by
    simp only [readU64Loop]
    refine (rd_ext 1 s t).cases (fun b r hl => ?_) (Ext.eof s t) (Ext.error s t)
    cases b with
    | zero => exact ⟨hl, rfl⟩
    | succ b =>
      simp only
      split
      · exact (rd_ext 4 r t).cases (fun x r' hl' => ⟨Nat.le_trans hl' hl, rfl⟩) (Ext.eof s t)
          (Ext.error s t)
      · exact (rd_ext 8 r t).cases
          (fun x r' hl' => (readU64Loop_ext fuel (shift + 8) (value + x * 2 ^ shift) r' t).mono
            (Nat.le_trans hl' hl))
          (Ext.eof s t) (Ext.error s t)

theorem readU64_ext (s t : Bits) : Ext s t (readU64 s) (readU64 (s ++ t)) := by
  unfold readU64
  refine (rd_ext 2 s t).cases (fun k r hl => ?_) (Ext.eof s t) (Ext.error s t)
  match k with
  | 0 => exact ⟨hl, rfl⟩
  | 1 =>
    simp only
    exact (rd_ext 4 r t).cases (fun v r' hl' => ⟨Nat.le_trans hl' hl, rfl⟩) (Ext.eof s t) (Ext.error s t)
  | 2 =>
    simp only
    exact (rd_ext 8 r t).cases (fun v r' hl' => ⟨Nat.le_trans hl' hl, rfl⟩) (Ext.eof s t) (Ext.error s t)
  | k+3 =>
    simp only
    exact (rd_ext 12 r t).cases
      (fun v r' hl' => (readU64Loop_ext 7 12 v r' t).mono (Nat.le_trans hl' hl))
      (Ext.eof s t) (Ext.error s t)

/-- `bound` stands for `total`: `parseTy_ext` holds for inputs that end at or before `total`, and the
inputs of the later repetitions are rests of the first -/
theorem parseN_ext (p p' : Bits → Except Err (Val × Bits)) (t : Bits) (bound : Nat)
    (h : ∀ s, s.length ≤ bound → Ext s t (p s) (p' (s ++ t))) :
    ∀ (n : Nat) (s : Bits), s.length ≤ bound → Ext s t (parseN p n s) (parseN p' n (s ++ t))
  | 0, s, _ => Ext.pure s t []
  | n+1, s, hb => by
    simp only [parseN]
    refine (h s hb).cases (fun v r hl => ?_) (Ext.eof s t) (Ext.error s t)
    simp only
    exact (parseN_ext p p' t bound h n r (by omega)).cases
      (fun vs r' hl' => ⟨Nat.le_trans hl' hl, rfl⟩) (Ext.eof s t) (Ext.error s t)

mutual
theorem parseTy_ext : ∀ (ty : FieldTy) (total : Nat) (sc : Env) (s t : Bits), s.length ≤ total →
    Ext s t (parseTy total sc ty s) (parseTy (total + t.length) sc ty (s ++ t)) := by
  intro ty total sc s t hb
  cases ty <;> simp only [parseTy]
  case const => exact Ext.pure s t _
  case u | cu | bool =>
    exact (rd_ext _ s t).cases (fun v r hl => ⟨hl, rfl⟩) (Ext.eof s t) (Ext.error s t)
  case u32 =>
    exact (readU32_ext _ _ _ _ s t).cases (fun v r hl => ⟨hl, rfl⟩) (Ext.eof s t) (Ext.error s t)
  case u64 => exact (readU64_ext s t).cases (fun v r hl => ⟨hl, rfl⟩) (Ext.eof s t) (Ext.error s t)
  case f16 =>
    refine (rd_ext 16 s t).cases (fun v r hl => ?_) (Ext.eof s t) (Ext.error s t)
    dsimp only
    split
    · exact ⟨hl, rfl⟩
    · exact Ext.error s t _
  case enumOf ty valid =>
    refine (parseTy_ext ty total sc s t hb).cases (fun v r hl => ?_) (Ext.eof s t) (Ext.error s t)
    cases v with
    | nat x =>
      dsimp only
      split
      · exact ⟨hl, rfl⟩
      · exact Ext.error s t _
    | _ => exact Ext.error s t _
  case signed ty | signed64 ty =>
    refine (parseTy_ext ty total sc s t hb).cases (fun v r hl => ?_) (Ext.eof s t) (Ext.error s t)
    cases v with
    | nat x => exact ⟨hl, rfl⟩
    | _ => exact Ext.error s t _
  case bundle ctx fs =>
    cases evalEnv sc ctx with
    | none => exact Ext.error s t _
    | some c =>
      dsimp only
      exact (parseFields_ext fs total c [] s t hb).cases (fun e r hl => ⟨hl, rfl⟩)
        (Ext.eof s t) (Ext.error s t)
  case vec ty len =>
    cases evalNat sc len with
    | none => exact Ext.error s t _
    | some n =>
      dsimp only
      exact (parseN_ext _ _ t total (fun s hs => parseTy_ext ty total sc s t hs) n s hb).cases
        (fun vs r hl => ⟨hl, rfl⟩) (Ext.eof s t) (Ext.error s t)
  case arr ty n =>
    exact (parseN_ext _ _ t total (fun s hs => parseTy_ext ty total sc s t hs) n s hb).cases
      (fun vs r hl => ⟨hl, rfl⟩) (Ext.eof s t) (Ext.error s t)
  case zeroPad =>
    -- the padding is counted from the same absolute position
    have hp : total + t.length - (s ++ t).length = total - s.length := by
      simp only [List.length_append]; omega
    rw [hp]
    refine (rd_ext (padLen (total - s.length)) s t).cases (fun v r hl => ?_) (Ext.eof s t) (Ext.error s t)
    dsimp only
    split
    · exact ⟨hl, rfl⟩
    · exact Ext.error s t _
  case assert e kind =>
    match evalBool sc e with
    | some true => exact Ext.pure s t _
    | some false => exact Ext.error s t _
    | none => exact Ext.error s t _
  case skip n =>
    cases evalNat sc n with
    | none => exact Ext.error s t _
    | some n =>
      dsimp only
      by_cases hn : n ≤ s.length
      · have hn' : n ≤ (s ++ t).length := by simp only [List.length_append]; omega
        rw [if_pos hn, if_pos hn', List.drop_append_of_le_length hn]
        exact ⟨by rw [List.length_drop]; omega, rfl⟩
      · rw [if_neg hn]
        trivial
  case ext => exact Ext.error s t _
theorem parseFields_ext : ∀ (fs : List Field) (total : Nat) (ctx acc : Env) (s t : Bits),
    s.length ≤ total →
    Ext s t (parseFields total ctx fs acc s) (parseFields (total + t.length) ctx fs acc (s ++ t))
  | [], total, ctx, acc, s, t, _ => by
    simp only [parseFields]
    exact Ext.pure s t acc
  | .mk name ty cond dflt :: fs, total, ctx, acc, s, t, hb => by
    simp only [parseFields]
    match evalBool (acc ++ ctx) cond with
    | none => exact Ext.error s t _
    | some true =>
      exact (parseTy_ext ty total (acc ++ ctx) s t hb).cases
        (fun v r hl => (parseFields_ext fs total ctx (acc ++ [(name, v)]) r t (by omega)).mono hl)
        (Ext.eof s t) (Ext.error s t)
    | some false =>
      simp only
      cases defaultOf (acc ++ ctx) ty dflt with
      | none => exact Ext.error s t _
      | some v => exact parseFields_ext fs total ctx (acc ++ [(name, v)]) s t hb
end

theorem parseAt_ext (b : Bundle) (ctx : Env) (pos : Nat) (s t : Bits) :
    Ext s t (parseAt b ctx pos s) (parseAt b ctx pos (s ++ t)) := by
  unfold parseAt
  rw [List.length_append, ← Nat.add_assoc]
  exact parseFields_ext b _ ctx [] s t (Nat.le_add_left _ _)

open Jxl.Feed (Res PrefixStable)
open Jxl.Container (Bytes)

/-- the bits of a byte buffer, LSB first within each byte (as `Bitstream` reads them) -/
def bitsOfBytes (a : Bytes) : Bits := a.flatMap fun b => toBits 8 b.toNat

theorem bitsOfBytes_append (a b : Bytes) : bitsOfBytes (a ++ b) = bitsOfBytes a ++ bitsOfBytes b := by
  simp [bitsOfBytes]

theorem bitsOfBytes_length : ∀ (a : Bytes), (bitsOfBytes a).length = 8 * a.length
  | [] => rfl
  | b :: a => by
    have ih := bitsOfBytes_length a
    simp only [bitsOfBytes] at ih
    simp only [bitsOfBytes, List.flatMap_cons, List.length_append, toBits_length, ih, List.length_cons]
    omega

/-- A header-level parser in the sense of `Model/Feed.lean`, made of a bundle description: parse
`b` at the start of the buffer (the description ends with its `ZeroPadToByte` where the format has
one); `used` = whole bytes consumed; `unexpected_eof` ↦ `needMore`; anything else ↦ `err`. -/
def bundleRes (b : Bundle) (ctx : Env) (a : Bytes) : Res Env :=
  match parse b ctx (bitsOfBytes a) with
  | .ok (e, r) => .ok e (a.length - r.length / 8)
  | .error .eof => .needMore
  | .error _ => .err

theorem bundleRes_stable (b : Bundle) (ctx : Env) : PrefixStable (bundleRes b ctx) := by
  have key : ∀ a c : Bytes, Ext (bitsOfBytes a) (bitsOfBytes c) (parse b ctx (bitsOfBytes a))
      (parse b ctx (bitsOfBytes (a ++ c))) := fun a c => by
    rw [bitsOfBytes_append]
    exact parseAt_ext b ctx 0 _ _
  refine ⟨fun a c v n => ?_, fun a v n h => ?_, fun a c => ?_⟩
  · unfold bundleRes
    refine (key a c).cases (fun e rest hl h => ?_) (fun _ h => nomatch h) (fun e h => ?_)
    · -- whole bytes consumed: the unread bits grow by the 8 bits of every appended byte
      simp only [Res.ok.injEq, List.length_append, bitsOfBytes_length] at h hl ⊢
      exact ⟨h.1, by omega⟩
    · cases e <;> exact nomatch h
  · unfold bundleRes at h
    split at h
    · simp only [Res.ok.injEq] at h
      omega
    · exact nomatch h
    · exact nomatch h
  · unfold bundleRes
    refine (key a c).cases (fun e rest _ h => nomatch h) (fun _ h => nomatch h) (fun e h => ?_)
    cases e
    · exact nomatch h
    · rfl
    · rfl

end Jxl.Bundle
