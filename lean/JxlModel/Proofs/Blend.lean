import JxlModel.Model.Blend
import JxlModel.Proofs.Util
import Mathlib.Tactic.Ring
import Mathlib.Algebra.Order.Field.Basic
/-!
For C05: kernel laws over a linearly ordered field, reference bookkeeping (`Book`), the lazy
renderer against the sequential compositor, pixel canvases, the patch-aware fold
-/
namespace Jxl.Blend

section Field
set_option linter.unusedSectionVars false
variable {K : Type} [Field K] [LinearOrder K] [IsStrictOrderedRing K]

@[reducible] def fieldScalar : Scalar K where
  zero := 0
  one := 1
  add a b := a + b
  sub a b := a - b
  mul a b := a * b
  recip x := x⁻¹
  isPos x := decide (0 < x)
  clamp01 x := if x < 0 then 0 else if 1 < x then 1 else x
  ofSample bits v := (v : K) / ((2 : K) ^ bits - 1)

attribute [local instance] fieldScalar

theorem clamp01_eq (x : K) : (Scalar.clamp01 x : K) = max 0 (min x 1) := by
  show (if x < 0 then 0 else if 1 < x then 1 else x) = _
  split
  · rename_i h
    rw [max_eq_left]
    exact le_trans (min_le_left _ _) (le_of_lt h)
  · rename_i h
    split
    · rename_i h1
      rw [min_eq_right (le_of_lt h1), max_eq_right zero_le_one]
    · rename_i h1
      rw [min_eq_left (not_lt.mp h1), max_eq_right (not_lt.mp h)]

theorem clamp01_range (x : K) : 0 ≤ (Scalar.clamp01 x : K) ∧ (Scalar.clamp01 x : K) ≤ 1 := by
  rw [clamp01_eq]
  exact ⟨le_max_left _ _, max_le zero_le_one (min_le_right _ _)⟩

theorem clamp01_id (x : K) (h0 : 0 ≤ x) (h1 : x ≤ 1) : (Scalar.clamp01 x : K) = x := by
  rw [clamp01_eq, min_eq_left h1, max_eq_right h0]

theorem clampIf_eq (c : Bool) (a : K) :
    (Scalar.clampIf c a : K) = if c then max 0 (min a 1) else a := by
  unfold Scalar.clampIf
  split
  · exact clamp01_eq a
  · rfl

theorem ite_clamp_of_mem (c : Bool) {a : K} (h0 : 0 ≤ a) (h1 : a ≤ 1) :
    (if c then max 0 (min a 1) else a) = a := by
  split
  · rw [min_eq_left h1, max_eq_right h0]
  · rfl

theorem recipOrZero_eq (x : K) : (Scalar.recipOrZero x : K) = if 0 < x then x⁻¹ else 0 := by
  unfold Scalar.recipOrZero
  show (if decide (0 < x) = true then x⁻¹ else 0) = _
  simp only [decide_eq_true_eq]

theorem apply_mixAlpha (c : Bool) (b n ba na : K) :
    (Kernel.mixAlpha c false).apply b n ba na =
      1 - (1 - (if c then max 0 (min n 1) else n)) * (1 - b) := by
  show b + Scalar.clampIf c n * (1 - b) = _
  rw [clampIf_eq]
  ring

theorem apply_skip (b n ba na : K) : Kernel.skip.apply b n ba na = b := rfl

end Field

section Book
variable {V : Type}
open Spec Impl

theorem getElem?_hdrs (C : Cfg V) {n : Nat} (h : n < C.hdrs.length) : C.hdrs[n]? = some (C.hdr n) := by
  unfold Cfg.hdr
  rw [List.getD_eq_getElem?_getD, List.getElem?_eq_getElem h, Option.getD_some]

theorem stateAfter_succ (C : Cfg V) {n : Nat} (h : n < C.hdrs.length) :
    stateAfter C (n + 1) = step C (stateAfter C n) (C.hdr n) := by
  unfold stateAfter run
  rw [List.take_add_one, getElem?_hdrs C h, List.foldl_append]
  rfl

theorem ctxAfter_succ (C : Cfg V) {n : Nat} (h : n < C.hdrs.length) :
    ctxAfter C (n + 1) = preserve (ctxAfter C n) (C.hdr n) := by
  unfold ctxAfter ctxOf
  rw [List.take_add_one, getElem?_hdrs C h, List.foldl_append]
  rfl

theorem stateAfter_min (C : Cfg V) (n : Nat) : stateAfter C n = stateAfter C (min n C.hdrs.length) := by
  unfold stateAfter
  rw [← List.take_eq_take_min]

theorem ctxAfter_min (C : Cfg V) (n : Nat) : ctxAfter C n = ctxAfter C (min n C.hdrs.length) := by
  unfold ctxAfter
  rw [← List.take_eq_take_min]

/-- The bookkeeping of the renderer after `n` frames in closed form, and the Spec state it denotes:
slot `sl` names the last frame saved there, whose canvas the Spec holds. -/
structure Book (C : Cfg V) (n : Nat) (c : Ctx) (s : State V) : Prop where
  nframes : c.nframes = n
  count : s.count = n
  reference : ∀ sl, c.reference sl = slotFrame C n sl
  slots : ∀ sl, s.slots sl = (c.reference sl).map (valOf C)
  keyframes : c.keyframes = (List.range n).filter fun i => (C.hdr i).isKeyframe
  keys : s.keys = c.keyframes.map (valOf C)

theorem book_after (C : Cfg V) : ∀ n, n ≤ C.hdrs.length → Book C n (ctxAfter C n) (stateAfter C n)
  | 0, _ => ⟨rfl, rfl, fun _ => rfl, fun _ => rfl, rfl, rfl⟩
  | n + 1, hn => by
    have B := book_after C n (Nat.le_of_succ_le hn)
    rw [stateAfter_succ C hn, ctxAfter_succ C hn]
    have hv : C.compose (stateAfter C n).count (((C.hdr n).chanSources C.img).map (stateAfter C n).slots)
        = valOf C n := by
      rw [B.count]
      rfl
    refine ⟨congrArg (· + 1) B.nframes, congrArg (· + 1) B.count, fun sl => ?_, fun sl => ?_, ?_, ?_⟩
    all_goals simp only [step, preserve, hv, B.nframes, slotFrame, Bool.and_eq_true, beq_iff_eq]
    · by_cases h1 : (C.hdr n).canReference = true
      · rw [if_pos h1]
        unfold upd
        by_cases h2 : sl = (C.hdr n).saveAsRef % 4
        · rw [if_pos h2, if_pos ⟨h1, h2.symm⟩]
        · rw [if_neg h2, if_neg (fun h => h2 h.2.symm), B.reference]
      · rw [if_neg h1, if_neg (fun h => h1 h.1), B.reference]
    · split
      · unfold upd
        split
        · rfl
        · exact B.slots sl
      · exact B.slots sl
    · rw [List.range_succ, List.filter_append, ← B.keyframes]
      simp only [List.filter_cons, List.filter_nil]
      split
      · rfl
      · rw [List.append_nil]
    · split
      · rw [List.map_append, B.keys]
        rfl
      · exact B.keys

theorem book_after_min (C : Cfg V) (n : Nat) :
    Book C (min n C.hdrs.length) (ctxAfter C n) (stateAfter C n) := by
  rw [ctxAfter_min, stateAfter_min]
  exact book_after C _ (Nat.min_le_right _ _)

theorem keys_eq (C : Cfg V) : (run C C.hdrs).keys = (ctxOf C.hdrs).keyframes.map (valOf C) := by
  have h := (book_after C C.hdrs.length (Nat.le_refl _)).keys
  unfold stateAfter ctxAfter at h
  rwa [List.take_length] at h

theorem slotFrame_lt (C : Cfg V) (s : Nat) : ∀ n j, slotFrame C n s = some j → j < n
  | 0, _, h => nomatch h
  | n + 1, j, h => by
    rw [slotFrame] at h
    split at h
    · cases h
      exact Nat.lt_succ_self n
    · exact Nat.lt_succ_of_lt (slotFrame_lt C s n j h)

theorem refOf_lt (C : Cfg V) (i s j : Nat) (h : refOf C i s = some j) : j < i := by
  unfold refOf at h
  rw [(book_after_min C i).reference] at h
  exact Nat.lt_of_lt_of_le (slotFrame_lt C s _ j h) (Nat.min_le_left _ _)

end Book

section Lazy
variable {V : Type}
open Spec Impl

/-- every cached composition is the Spec value of its frame -/
def Inv (C : Cfg V) (st : St V) : Prop := ∀ j v, st.get j = .blended v → v = valOf C j

theorem Inv.init (C : Cfg V) : Inv C St.init := by
  intro j v h
  cases h

theorem Inv.set {C : Cfg V} {st : St V} (h : Inv C st) (i : Nat) {x : HState V}
    (hx : ∀ v, x = .blended v → v = valOf C i) : Inv C (st.set i x) := by
  intro j v hj
  unfold St.set at hj
  simp only at hj
  split at hj
  · rename_i hji
    rw [hji]
    exact hx v hj
  · exact h j v hj

theorem Inv.drop {C : Cfg V} {st : St V} (h : Inv C st) (drop : Nat → Bool) :
    Inv C ⟨fun j => if drop j then .none else st.get j⟩ := by
  intro j v hj
  simp only at hj
  split at hj
  · cases hj
  · exact h j v hj

/-- From every state whose caches are right, the call `m` answers `b` and leaves such a state. -/
def Yields (C : Cfg V) {β : Type} (m : St V → β × St V) (b : β) : Prop :=
  ∀ st, Inv C st → (m st).1 = b ∧ Inv C (m st).2

theorem runF_inv (C : Cfg V) : ∀ n i st, Inv C st → Inv C (runF C n i st)
  | 0, _, _, h => h
  | n + 1, i, st, h => by
    unfold runF
    split
    · refine Inv.set ?_ i nofun
      refine List.foldlRecOn _ _ h fun st' hst' s _ => ?_
      split
      · exact runF_inv C n _ _ hst'
      · exact hst'
    · exact h

theorem chanLoop_spec (C : Cfg V) (steal : Nat → Nat → Bool) (rec : Nat → St V → V × St V) (i n : Nat)
    (hrec : ∀ j, j < n → Yields C (rec j) (valOf C j)) (hi : i ≤ n) :
    ∀ (srcs : List Nat) (c : Nat), Yields C (chanLoop C steal rec i c srcs) (srcs.map (stateAfter C i).slots)
  | [], _, _, h => ⟨rfl, h⟩
  | s :: rest, c, st, h => by
    have ih := chanLoop_spec C steal rec i n hrec hi rest (c + 1)
    rw [List.map_cons, (book_after_min C i).slots s]
    unfold chanLoop
    split
    · rename_i hj
      rw [show (ctxAfter C i).reference s = none from hj]
      exact ⟨congrArg _ (ih st h).1, (ih st h).2⟩
    · rename_i j hj
      obtain ⟨r1, r2⟩ := hrec j (Nat.lt_of_lt_of_le (refOf_lt C i s j hj) hi) st h
      -- a stolen buffer leaves its handle empty
      have h2 := ih (if canOverwrite C i c s j && steal i c then (rec j st).2.set j .none else (rec j st).2)
        (by split; exact r2.set j nofun; exact r2)
      rw [show (ctxAfter C i).reference s = some j from hj]
      exact ⟨congrArg₂ List.cons (congrArg some r1) h2.1, h2.2⟩

theorem blendBody_spec (C : Cfg V) (steal : Nat → Nat → Bool) (rec : Nat → St V → V × St V) (i n : Nat)
    (hrec : ∀ j, j < n → Yields C (rec j) (valOf C j)) (hi : i ≤ n) :
    Yields C (blendBody C steal rec i) (valOf C i) := by
  intro st h
  have cache : ∀ {st' : St V} {bases}, Inv C st' → bases = (C.sources i).map (stateAfter C i).slots →
      C.compose i bases = valOf C i ∧ Inv C (st'.set i (.blended (C.compose i bases))) :=
    fun h' e => ⟨e ▸ rfl, h'.set i fun _ e' => HState.blended.inj e' ▸ e ▸ rfl⟩
  unfold blendBody
  simp only
  split
  · rename_i hskip
    refine cache h ?_
    unfold Cfg.sources FrameHdr.chanSources
    rw [if_pos hskip]
    rfl
  · have h2 : Inv C ((usedRefs C i).foldl (fun st j => (rec j st).2) st) :=
      List.foldlRecOn _ _ h fun st' hst' j hj =>
        (hrec j (Nat.lt_of_lt_of_le (List.mem_range.1 (List.mem_filter.1 hj).1) hi) st' hst').2
    obtain ⟨c1, c2⟩ := chanLoop_spec C steal rec i n hrec hi (C.sources i) 0 _ h2
    refine cache ?_ c1
    -- whatever the header says about saving, at most one handle is emptied
    split
    · split
      · split
        · exact c2.set _ nofun
        · exact c2
      · exact c2
    · exact c2

theorem blendF_spec (C : Cfg V) (steal : Nat → Nat → Bool) :
    ∀ n i, i < n → Yields C (blendF C steal n i) (valOf C i)
  | n + 1, i, hi, st, h => by
    unfold blendF
    split
    · rename_i v hb
      exact ⟨h i v hb, h⟩
    · exact blendBody_spec C steal _ i n (blendF_spec C steal n) (Nat.le_of_lt_succ hi) _
        (runF_inv C (n + 1) i st h)

theorem renderKeyframe_spec (C : Cfg V) (steal : Nat → Nat → Bool) (k : Nat) :
    Yields C (renderKeyframe C steal k) (canvasAt C k) := by
  intro st h
  unfold renderKeyframe canvasAt
  rw [keys_eq, List.getElem?_map]
  split
  · rename_i hk
    rw [hk]
    exact ⟨rfl, h⟩
  · rename_i idx hk
    rw [hk]
    obtain ⟨h1, h2⟩ := blendF_spec C steal (idx + 1) idx (Nat.lt_succ_self idx) st h
    exact ⟨congrArg some h1, h2⟩

theorem renderMany_spec (C : Cfg V) (steal : Nat → Nat → Bool) :
    ∀ ks, Yields C (renderMany C steal ks) (ks.map (canvasAt C))
  | [], _, h => ⟨rfl, h⟩
  | k :: ks, st, h =>
    have ⟨h1, h2⟩ := renderKeyframe_spec C steal k st h
    have ⟨h3, h4⟩ := renderMany_spec C steal ks _ h2
    ⟨congrArg₂ List.cons h1 h3, h4⟩

end Lazy
end Jxl.Blend

namespace Jxl.Blend.Px
variable {α : Type} [Scalar α]

theorem Plane.get_ofFn (w h : Nat) (f : Nat → Nat → α) (x y : Nat) (hx : x < w) (hy : y < h) :
    (Plane.ofFn w h f).get x y = f x y := by
  unfold Plane.get Plane.ofFn
  simp only [hx, hy, and_self, if_true]
  exact getD_ofFn_raster w h f _ hx hy

open Spec

def noPatch (f : Frame α) : FrameP α := { frame := f, patches := [] }

theorem applyPatches_nil (img : ImgInfo) (srcOf : Nat → List (Plane α)) (chans : List (Plane α)) :
    applyPatches img srcOf [] chans = chans := rfl

omit [Scalar α] in
theorem cutAtLastP_noPatch (fs : List (Frame α)) :
    cutAtLastP (fs.map noPatch) = (cutAtLast fs).map noPatch := by
  induction fs with
  | nil => rfl
  | cons f fs ih =>
    simp only [List.map_cons, cutAtLastP, cutAtLast, noPatch]
    split
    · simp [noPatch]
    · simp only [List.map_cons, List.cons.injEq]
      exact ⟨rfl, ih⟩

def SameCanvases (s : State (Canvas α)) (p : PState α) : Prop := s.slots = p.slots ∧ s.keys = p.keys

/-- `hc`: the compositor looks the frame up at its own index -/
theorem stepP_noPatch (img : ImgInfo) (C : Cfg (Canvas α)) (f : Frame α) (s : State (Canvas α)) (p : PState α)
    (hC : C.img = img) (hc : C.compose s.count = blendFrame img id f) (h : SameCanvases s p) :
    SameCanvases (step C s f.hdr) (stepP img p (noPatch f)) := by
  obtain ⟨h1, h2⟩ := h
  unfold SameCanvases step stepP noPatch
  simp only [applyPatches_nil, hc, hC, h1, h2]
  exact ⟨trivial, trivial⟩

/-- `hcomp`: the compositor finds the frames that are left at the indices from its count on -/
theorem fold_noPatch (img : ImgInfo) (C : Cfg (Canvas α)) (hC : C.img = img) :
    ∀ (fs : List (Frame α)) (s : State (Canvas α)) (p : PState α),
      (∀ k, C.compose (s.count + k) = blendFrame img id (fs.getD k {})) → SameCanvases s p →
      SameCanvases ((fs.map (·.hdr)).foldl (step C) s) ((fs.map noPatch).foldl (stepP img) p)
  | [], _, _, _, h => h
  | f :: fs, s, p, hcomp, h =>
    fold_noPatch img C hC fs _ _ (fun k => Nat.add_right_comm s.count 1 k ▸ hcomp (k + 1))
      (stepP_noPatch img C f s p hC (hcomp 0) h)

theorem applyTarget_dims (img : ImgInfo) (src : List (Plane α)) (p : PatchRef) (t : PatchTarget)
    (chans : List (Plane α)) (c : Nat) (hc : c < chans.length) :
    ((applyTarget img src p t chans).getD c {}).w = (chans.getD c {}).w ∧
    ((applyTarget img src p t chans).getD c {}).h = (chans.getD c {}).h := by
  unfold applyTarget
  rw [getD_map_range _ _ _ _ hc]
  exact ⟨rfl, rfl⟩

theorem applyTarget_length (img : ImgInfo) (src : List (Plane α)) (p : PatchRef) (t : PatchTarget)
    (chans : List (Plane α)) : (applyTarget img src p t chans).length = chans.length := by
  unfold applyTarget
  rw [List.length_map, List.length_range]

end Jxl.Blend.Px
