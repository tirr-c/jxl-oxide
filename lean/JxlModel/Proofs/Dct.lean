import Mathlib.Analysis.SpecialFunctions.Trigonometric.Basic
import JxlModel.Proofs.DctArray
/-!
# The recursive DCT of `generic/dct.rs` over exact reals

The inverse DCT of length `N` at sample `j` is the cosine sum `S N c θ_j`, `θ_j = (2j+1)π/(2N)`. A sum
of length `2m` splits into its even frequencies, a sum of length `m` at the doubled angle, and its odd
ones, which become such a sum of the running-summed odd coefficients divided by `2cos θ`; the leftover
boundary term vanishes at the sample angles. At `θ_{2m-1-j} = π - θ_j` the doubled angle has only moved
by a full turn and `cos θ` has changed sign. That is one level of the code's recursion; its special
cases for lengths 2 and 4 are that level written out.
-/
open Finset Real

namespace Jxl.Dct

noncomputable instance instScalarReal : Scalar ℝ where
  zero := 0
  one := 1
  add := (· + ·)
  sub := (· - ·)
  mul := (· * ·)
  div := (· / ·)
  half := 1 / 2
  sqrt2 := √2
  cosPi a b := Real.cos (a * π / b)

@[simp] theorem s_zero : (Scalar.zero : ℝ) = 0 := rfl
@[simp] theorem s_one : (Scalar.one : ℝ) = 1 := rfl
@[simp] theorem s_add (x y : ℝ) : Scalar.add x y = x + y := rfl
@[simp] theorem s_sub (x y : ℝ) : Scalar.sub x y = x - y := rfl
@[simp] theorem s_mul (x y : ℝ) : Scalar.mul x y = x * y := rfl
@[simp] theorem s_div (x y : ℝ) : Scalar.div x y = x / y := rfl
@[simp] theorem s_half : (Scalar.half : ℝ) = 1 / 2 := rfl
@[simp] theorem s_sqrt2 : (Scalar.sqrt2 : ℝ) = √2 := rfl
@[simp] theorem s_cosPi (a b : ℕ) : (Scalar.cosPi a b : ℝ) = Real.cos (a * π / b) := rfl

theorem sqrt2_sq : √2 * √2 = 2 := Real.mul_self_sqrt (by norm_num)

theorem sumRange_eq (n : ℕ) (f : ℕ → ℝ) : sumRange n f = ∑ i ∈ range n, f i := by
  induction n with
  | zero => simp [sumRange]
  | succ n ih => simp [sumRange, ih, Finset.sum_range_succ]

theorem ofNatS_real (N : ℕ) : (ofNatS N : ℝ) = N := by
  induction N with
  | zero => simp [ofNatS]
  | succ n ih => simp [ofNatS, ih]

noncomputable def wt (n : ℕ) : ℝ := if n = 0 then 1 else √2

theorem wt_zero : wt 0 = 1 := if_pos rfl

theorem wt_succ (n : ℕ) : wt (n + 1) = √2 := if_neg n.succ_ne_zero

theorem wt_of_ne_zero {n : ℕ} (h : n ≠ 0) : wt n = √2 := if_neg h

theorem wt_two_mul (n : ℕ) : wt (2 * n) = wt n := by
  rcases n with _ | n
  · rfl
  · rw [wt_succ, Nat.mul_succ, wt_succ]

noncomputable def S (N : ℕ) (c : ℕ → ℝ) (θ : ℝ) : ℝ := ∑ n ∈ range N, wt n * c n * Real.cos (n * θ)

noncomputable def theta (N j : ℕ) : ℝ := (2 * j + 1) * π / (2 * N)

theorem S_congr {N : ℕ} {c c' : ℕ → ℝ} (θ : ℝ) (h : ∀ i < N, c i = c' i) : S N c θ = S N c' θ := by
  unfold S
  exact Finset.sum_congr rfl fun i hi => by rw [h i (Finset.mem_range.mp hi)]

theorem S_tab (N : ℕ) (c : ℕ → ℝ) (θ : ℝ) : S N (rd (tab N c)) θ = S N c θ :=
  S_congr θ fun _ hi => rd_tab _ _ _ hi

/-- the shape of `idctDef` -/
theorem S_succ (M : ℕ) (c : ℕ → ℝ) (θ : ℝ) :
    S (M + 1) c θ = c 0 + √2 * ∑ n ∈ range M, c (n + 1) * Real.cos ((n + 1 : ℕ) * θ) := by
  rw [S, Finset.sum_range_succ', Finset.mul_sum, add_comm]
  congr 1
  · rw [wt_zero, one_mul, Nat.cast_zero, zero_mul, Real.cos_zero, mul_one]
  · exact Finset.sum_congr rfl fun n _ => by rw [wt_succ, mul_assoc]

theorem S_one (c : ℕ → ℝ) (θ : ℝ) : S 1 c θ = c 0 := by
  rw [S_succ, Finset.sum_range_zero, mul_zero, add_zero]

theorem cosPi_theta (n N j : ℕ) :
    (Scalar.cosPi (n * (2 * j + 1)) (2 * N) : ℝ) = Real.cos (n * theta N j) := by
  rw [s_cosPi, theta]
  congr 1
  push_cast
  ring

theorem idctDef_eq_S (N : ℕ) (hN : 0 < N) (c : ℕ → ℝ) (j : ℕ) :
    idctDef N c j = S N c (theta N j) := by
  obtain ⟨M, rfl⟩ : ∃ M, N = M + 1 := ⟨N - 1, by omega⟩
  rw [S_succ, idctDef, sumRange_eq, Nat.add_sub_cancel]
  simp only [cosPi_theta, s_add, s_mul, s_sqrt2]

theorem cos_N_theta (N j : ℕ) (hN : 0 < N) : Real.cos ((N : ℝ) * theta N j) = 0 := by
  have hN' : (N : ℝ) ≠ 0 := Nat.cast_ne_zero.mpr hN.ne'
  have h : (N : ℝ) * theta N j = π / 2 + j * π := by
    rw [theta, mul_div_assoc', mul_comm (N : ℝ), mul_div_mul_right _ _ hN']
    ring
  rw [h, Real.cos_add_nat_mul_pi, Real.cos_pi_div_two, mul_zero]

theorem theta_double (m j : ℕ) : theta m j = 2 * theta (2 * m) j := by
  unfold theta; push_cast; ring

theorem cos_theta_pos (m j : ℕ) (hj : j < m) : 0 < Real.cos (theta (2 * m) j) := by
  have hd : (0 : ℝ) < (2 * m : ℕ) := Nat.cast_pos.mpr (by omega)
  have h0 : (0 : ℝ) < (2 * j + 1 : ℕ) / (2 * m : ℕ) := div_pos (Nat.cast_pos.mpr (by omega)) hd
  have h1 : ((2 * j + 1 : ℕ) : ℝ) / (2 * m : ℕ) < 1 :=
    (div_lt_one hd).mpr (Nat.cast_lt.mpr (by omega))
  have hθ : theta (2 * m) j = (2 * j + 1 : ℕ) / (2 * m : ℕ) * (π / 2) := by
    unfold theta; push_cast; ring
  rw [hθ]
  generalize ((2 * j + 1 : ℕ) : ℝ) / (2 * m : ℕ) = r at h0 h1
  have hl := mul_lt_mul_of_pos_right h1 pi_div_two_pos
  rw [one_mul] at hl
  exact Real.cos_pos_of_mem_Ioo
    ⟨(neg_lt_zero.mpr pi_div_two_pos).trans (mul_pos h0 pi_div_two_pos), hl⟩

theorem theta_reflect (N j j' : ℕ) (h : j + j' + 1 = N) : theta N j = π - theta N j' := by
  have hN : (N : ℝ) ≠ 0 := Nat.cast_ne_zero.mpr (by omega)
  have hc : (N : ℝ) = j + j' + 1 := by exact_mod_cast h.symm
  rw [theta, theta, eq_sub_iff_add_eq, ← add_div, div_eq_iff (mul_ne_zero two_ne_zero hN), hc]
  ring

theorem cos_nat_mul_reflect (n : ℕ) (θ : ℝ) :
    Real.cos ((n : ℝ) * (π - θ)) = (-1) ^ n * Real.cos (n * θ) := by
  rw [mul_sub, Real.cos_nat_mul_pi_sub]

/-- an odd frequency at `θ` becomes two neighbouring frequencies of the half-length transform at the
doubled angle (both directions turn on this) -/
theorem two_cos_mul_cos_odd (e : ℕ) (θ : ℝ) :
    2 * Real.cos θ * Real.cos ((2 * e + 1 : ℕ) * θ) =
      Real.cos ((e + 1 : ℕ) * (2 * θ)) + Real.cos ((e : ℝ) * (2 * θ)) := by
  have h1 : ((e + 1 : ℕ) : ℝ) * (2 * θ) = (2 * e + 1 : ℕ) * θ + θ := by push_cast; ring
  have h2 : (e : ℝ) * (2 * θ) = (2 * e + 1 : ℕ) * θ - θ := by push_cast; ring
  rw [h1, h2, Real.cos_add, Real.cos_sub]
  ring

/-- the odd half after the running sum and the `√2` on the first entry: `input1` of the model's
`istep` as a function of the coefficients -/
noncomputable def oddIn (c : ℕ → ℝ) (i : ℕ) : ℝ :=
  if i = 0 then c 1 * √2 else c (2 * i + 1) + c (2 * i - 1)

/-- `two_cos_mul_cos_odd` on every odd term; the last summand is what that leaves over at the last odd
coefficient, and it vanishes at the sample angles. -/
theorem two_cos_mul_S (m : ℕ) (c : ℕ → ℝ) (θ : ℝ) :
    2 * Real.cos θ * S (2 * (m + 1)) c θ =
      2 * Real.cos θ * S (m + 1) (fun i => c (2 * i)) (2 * θ) + S (m + 1) (oddIn c) (2 * θ) +
        √2 * c (2 * m + 1) * Real.cos ((m + 1 : ℕ) * (2 * θ)) := by
  induction m with
  | zero =>
    simp only [S, Finset.sum_range_succ, Finset.sum_range_zero, wt_zero, wt_succ, oddIn, if_true,
      Nat.cast_zero, zero_mul, Real.cos_zero, mul_zero, zero_add, Nat.cast_one, one_mul, mul_one]
    rw [Real.cos_two_mul]; ring
  | succ m ih =>
    have ho : oddIn c (m + 1) = c (2 * (m + 1) + 1) + c (2 * m + 1) := if_neg m.succ_ne_zero
    have h2 : ((2 * (m + 1) : ℕ) : ℝ) * θ = ((m + 1 : ℕ) : ℝ) * (2 * θ) := by push_cast; ring
    unfold S at ih ⊢
    rw [Nat.mul_succ 2 (m + 1), Finset.sum_range_succ, Finset.sum_range_succ,
      Finset.sum_range_succ (n := m + 1), Finset.sum_range_succ (n := m + 1), ho, h2, wt_two_mul,
      wt_succ, wt_succ]
    linear_combination ih + (√2 * c (2 * (m + 1) + 1)) * two_cos_mul_cos_odd (m + 1) θ

/-- Length `2(k+1)`, not `2m`: the boundary term is at the last odd coefficient, which length 0 does
not have. -/
theorem S_halve (k : ℕ) (c : ℕ → ℝ) (θ : ℝ) (hc : Real.cos θ ≠ 0)
    (hb : Real.cos ((k + 1 : ℕ) * (2 * θ)) = 0) :
    S (2 * (k + 1)) c θ =
      S (k + 1) (fun i => c (2 * i)) (2 * θ) +
        S (k + 1) (oddIn c) (2 * θ) * (1 / (2 * Real.cos θ)) := by
  have h := two_cos_mul_S k c θ
  rw [hb, mul_zero, add_zero] at h
  field_simp
  linear_combination h

theorem cos_double_reflect (n : ℕ) (θ : ℝ) :
    Real.cos ((n : ℝ) * (2 * (π - θ))) = Real.cos (n * (2 * θ)) := by
  rw [show (n : ℝ) * (2 * (π - θ)) = n * (2 * π) - n * (2 * θ) by ring, Real.cos_nat_mul_two_pi_sub]

theorem S_double_reflect (N : ℕ) (c : ℕ → ℝ) (θ : ℝ) : S N c (2 * (π - θ)) = S N c (2 * θ) :=
  Finset.sum_congr rfl fun n _ => by rw [cos_double_reflect]

theorem S_step (m : ℕ) (c : ℕ → ℝ) (j : ℕ) (hj : j < m) :
    S (2 * m) c (theta (2 * m) j) =
      S m (fun i => c (2 * i)) (theta m j) +
        S m (oddIn c) (theta m j) * (1 / (2 * Real.cos (theta (2 * m) j))) ∧
    S (2 * m) c (π - theta (2 * m) j) =
      S m (fun i => c (2 * i)) (theta m j) -
        S m (oddIn c) (theta m j) * (1 / (2 * Real.cos (theta (2 * m) j))) := by
  obtain ⟨k, rfl⟩ : ∃ k, m = k + 1 := ⟨m - 1, by omega⟩
  have hc := (cos_theta_pos (k + 1) j hj).ne'
  have hb := theta_double (k + 1) j ▸ cos_N_theta (k + 1) j k.succ_pos
  rw [theta_double (k + 1) j]
  refine ⟨S_halve k c _ hc hb, ?_⟩
  -- the same equation at the reflected angle, where the cosine changes sign
  rw [S_halve k c _ (by rwa [Real.cos_pi_sub, neg_ne_zero]) (by rwa [cos_double_reflect]),
    S_double_reflect, S_double_reflect, Real.cos_pi_sub]
  ring

def ComputesIdct (N : ℕ) (f : Array ℝ → Array ℝ) : Prop :=
  ∀ c : Array ℝ, ∀ j < N, rd (f c) j = S N (rd c) (theta N j)

theorem secHalf_real (n i : ℕ) :
    (secHalf n i : ℝ) = 1 / (2 * Real.cos (theta n i)) := by
  simp only [secHalf, theta, s_div, s_one, s_mul, s_add, s_cosPi, one_add_one_eq_two, Nat.cast_add,
    Nat.cast_mul, Nat.cast_ofNat, Nat.cast_one]

/-- `fun i => rd c (2 * i)` and `oddIn (rd c)` are `input0` and `input1` of `istep` up to unfolding,
which the two `exact`s see through. -/
theorem istep_computes (m : ℕ) (rec : Array ℝ → Array ℝ) (hrec : ComputesIdct m rec) :
    ComputesIdct (2 * m) (istep (2 * m) rec) := by
  intro c j hj
  unfold istep
  rw [rd_tab _ _ _ hj, Nat.mul_div_cancel_left m two_pos]
  by_cases hlt : j < m
  · rw [if_pos hlt, hrec _ j hlt, hrec _ j hlt, S_tab, S_tab, secHalf_real]
    exact (S_step m (rd c) j hlt).1.symm
  · have hj' : 2 * m - 1 - j < m := by omega
    rw [if_neg hlt, hrec _ _ hj', hrec _ _ hj', S_tab, S_tab, secHalf_real,
      theta_reflect (2 * m) j (2 * m - 1 - j) (by omega)]
    exact (S_step m (rd c) _ hj').2.symm

theorem sqrt2_mul_secHalf_two : √2 * (secHalf 2 0 : ℝ) = 1 := by
  have h4 : theta 2 0 = π / 4 := by unfold theta; push_cast; ring
  rw [secHalf_real, h4, Real.cos_pi_div_four, mul_div_cancel₀ _ two_ne_zero,
    mul_one_div_cancel (Real.sqrt_ne_zero'.mpr two_pos)]

/-- the code's special cases for lengths 2 and 4 are `istep` written out (`sec_half(2)[0] = 1/√2`
undoing the `√2` for length 2) -/
theorem idct_succ (k : ℕ) (c : Array ℝ) (j : ℕ) (hj : j < 2 ^ (k + 1)) :
    rd (idct (k + 1) c) j = rd (istep (2 ^ (k + 1)) (idct k) c) j := by
  match k with
  | 0 =>
    obtain rfl | rfl : j = 0 ∨ j = 1 := by omega
    all_goals
      simp only [idct, idct2, istep, rd_lit2, rd_tab, Nat.reducePow, Nat.reduceAdd, Nat.reduceDiv,
        Nat.reduceLT, Nat.reduceSub, if_true, if_false, s_mul, s_sqrt2, mul_assoc,
        sqrt2_mul_secHalf_two, mul_one]
  | 1 =>
    obtain rfl | rfl | rfl | rfl : j = 0 ∨ j = 1 ∨ j = 2 ∨ j = 3 := by omega
    all_goals
      simp only [idct, idct4, idct2, istep, rd_lit4, rd_lit2, rd_tab, Nat.reducePow, Nat.reduceAdd,
        Nat.reduceDiv, Nat.reduceLT, Nat.reduceSub, if_true, if_false, one_ne_zero, s_add, s_sub,
        s_mul]
      ring
  | k + 2 => rfl

theorem idct_computes : ∀ k : ℕ, ComputesIdct (2 ^ k) (idct (α := ℝ) k)
  | 0 => fun c j hj => by
    obtain rfl : j = 0 := Nat.lt_one_iff.mp hj
    exact (rd_tab 1 (rd c) 0 Nat.one_pos).trans (S_one _ _).symm
  | k + 1 => fun c j hj => by
    rw [idct_succ k c j hj]
    rw [Nat.pow_succ'] at hj ⊢
    exact istep_computes _ _ (idct_computes k) c j hj

end Jxl.Dct
