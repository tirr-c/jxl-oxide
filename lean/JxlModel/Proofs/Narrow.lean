import JxlModel.Model.Modular.Narrow
import JxlModel.Proofs.Chan
/-! The arithmetic behind property C12 (`Props/C12.lean`). Truncation `wrap n` as a ring
homomorphism; `tendency` is exact when its numerator fits; the two combinators that lift "the step
agrees under its listed values" to maps and folds (`map_congr_of_trace`, `foldl_congr_of_trace`); what
one lane of the vector squeeze kernels computes (`tendencyMag`). -/
namespace Jxl.Modular

theorem wrap_emod (n : Nat) (v : Int) : wrap n v % (2 : Int) ^ n = v % (2 : Int) ^ n := by
  unfold wrap
  simp only []
  split
  · rw [Int.sub_emod, Int.emod_self, Int.sub_zero, Int.emod_emod, Int.emod_emod]
  · rw [Int.emod_emod]

theorem wrap_congr (n : Nat) (a b : Int) (h : a % (2 : Int) ^ n = b % (2 : Int) ^ n) :
    wrap n a = wrap n b := by
  unfold wrap
  simp only [h]

theorem wrap_idem (n : Nat) (v : Int) : wrap n (wrap n v) = wrap n v :=
  wrap_congr n _ _ (wrap_emod n v)

theorem wrap_add_left (n : Nat) (a b : Int) : wrap n (wrap n a + b) = wrap n (a + b) := by
  apply wrap_congr
  rw [Int.add_emod, wrap_emod, ← Int.add_emod]

theorem wrap_add_right (n : Nat) (a b : Int) : wrap n (a + wrap n b) = wrap n (a + b) := by
  apply wrap_congr
  rw [Int.add_emod, wrap_emod, ← Int.add_emod]

theorem wrap_sub_left (n : Nat) (a b : Int) : wrap n (wrap n a - b) = wrap n (a - b) := by
  apply wrap_congr
  rw [Int.sub_emod, wrap_emod, ← Int.sub_emod]

theorem wrap_sub_right (n : Nat) (a b : Int) : wrap n (a - wrap n b) = wrap n (a - b) := by
  apply wrap_congr
  rw [Int.sub_emod, wrap_emod, ← Int.sub_emod]

theorem wrap_mul_left (n : Nat) (a b : Int) : wrap n (wrap n a * b) = wrap n (a * b) := by
  apply wrap_congr
  rw [Int.mul_emod, wrap_emod, ← Int.mul_emod]

theorem wrap_mul_right (n : Nat) (a b : Int) : wrap n (a * wrap n b) = wrap n (a * b) := by
  apply wrap_congr
  rw [Int.mul_emod, wrap_emod, ← Int.mul_emod]

theorem wrap_wrap_of_le (m n : Nat) (h : m ≤ n) (v : Int) : wrap m (wrap n v) = wrap m v := by
  apply wrap_congr
  have hd : (2 : Int) ^ m ∣ (2 : Int) ^ n := by
    obtain ⟨k, rfl⟩ := Nat.exists_eq_add_of_le h
    exact ⟨(2 : Int) ^ k, by rw [Int.pow_add]⟩
  rw [← Int.emod_emod_of_dvd (wrap n v) hd, wrap_emod, Int.emod_emod_of_dvd v hd]

theorem I16_iff_inRange (v : Int) : I16 v ↔ inRange 16 v = true := by
  simp only [I16, inRange, Bool.and_eq_true, decide_eq_true_eq, Nat.reduceSub, Int.reducePow, Nat.reduceLT, true_and]
  omega

theorem I32_iff_inRange (v : Int) : I32 v ↔ inRange 32 v = true := by
  simp only [I32, inRange, Bool.and_eq_true, decide_eq_true_eq, Nat.reduceSub, Int.reducePow, Nat.reduceLT, true_and]
  omega

theorem wrap16_of_I16 (v : Int) (h : I16 v) : wrap 16 v = v :=
  wrap_of_inRange ((I16_iff_inRange v).mp h)

theorem wrap32_of_I32 (v : Int) (h : I32 v) : wrap 32 v = v :=
  wrap_of_inRange ((I32_iff_inRange v).mp h)

theorem wrap16_of_natAbs_le (v : Int) (h : v.natAbs ≤ 32767) : wrap 16 v = v :=
  wrap16_of_I16 v (by unfold I16; omega)

theorem I16_wrap16 (v : Int) : I16 (wrap 16 v) := by
  unfold I16 wrap
  simp only []
  omega

theorem I32_wrap32 (v : Int) : I32 (wrap 32 v) := by
  unfold I32 wrap
  simp only []
  omega

theorem I32_of_I16 {v : Int} (h : I16 v) : I32 v := by
  unfold I16 at h; unfold I32; omega

theorem allI16_iff (l : List Int) : allI16 l = true ↔ ∀ v ∈ l, I16 v := by
  simp [allI16]

theorem tdiv_bounds_nonneg (N k : Int) (hk : 0 < k) (h : 0 ≤ N) :
    0 ≤ Int.tdiv N k ∧ k * Int.tdiv N k ≤ N ∧ N < k * Int.tdiv N k + k := by
  have h1 := Int.tdiv_nonneg h (Int.le_of_lt hk)
  have h2 := Int.mul_tdiv_add_tmod N k
  have h3 := Int.tmod_nonneg k h
  have h4 := Int.tmod_lt_of_pos N hk
  omega

theorem tdiv_bounds_nonpos (N k : Int) (hk : 0 < k) (h : N ≤ 0) :
    Int.tdiv N k ≤ 0 ∧ N ≤ k * Int.tdiv N k ∧ k * Int.tdiv N k - k < N := by
  have := tdiv_bounds_nonneg (-N) k hk (by omega)
  rw [Int.neg_tdiv, Int.mul_neg] at this
  omega

/-- When the numerator is an `i16`, every intermediate of the wrapping computation lies between `0`
and the numerator, so no wrap changes anything. `hfit` is all the proof needs of the width, which is
why one proof serves `i16` and `i32`. -/
theorem tendency_exact {n : Nat} (hfit : ∀ x, I16 x → wrap n x = x) (a b c : Int)
    (h : I16 (tendencyNum a b c)) : tendency n a b c = tendencyG id a b c := by
  show tendencyG (wrap n) a b c = _
  have hf : ∀ x : Int, x.natAbs ≤ 32767 → wrap n x = x := fun x hx => hfit x (by unfold I16; omega)
  unfold tendencyNum at h
  unfold tendencyG tdiv
  -- the partial products `4a`, `3c` may overflow: the numerator is formed modulo `2^n`
  simp only [wrap_sub_left, wrap_sub_right, wrap_add_left, wrap_mul_right, id]
  split at h
  · rename_i h1
    simp only [h1, and_self, if_true, hfit _ h]
    have hx := tdiv_bounds_nonneg (4 * a - 3 * c - b + 6) 12 (by decide) (by omega)
    generalize Int.tdiv (4 * a - 3 * c - b + 6) 12 = x at hx ⊢
    unfold I16 at h
    simp (disch := omega) only [hf]
  · split at h
    · rename_i h1 h2
      simp only [h1, h2, and_self, if_true, if_false, hfit _ h]
      have hx := tdiv_bounds_nonpos (4 * a - 3 * c - b - 6) 12 (by decide) (by omega)
      generalize Int.tdiv (4 * a - 3 * c - b - 6) 12 = x at hx ⊢
      unfold I16 at h
      simp (disch := omega) only [hf]
    · rename_i h1 h2
      simp only [h1, h2, if_false]

/-! Each sample operation is `wrap sb` of an integer that does not depend on `sb`, so the narrow
result is the truncation of the wide one. -/

theorem sUnpack_trunc (tok : Nat) : sUnpack 16 tok = wrap 16 (sUnpack 32 tok) :=
  (wrap_wrap_of_le 16 32 (by decide) _).symm

theorem sAdd_trunc (a b : Int) : sAdd 16 a b = wrap 16 (sAdd 32 a b) :=
  (wrap_wrap_of_le 16 32 (by decide) _).symm

theorem sMulAdd_trunc (a m o : Int) : sMulAdd 16 a m o = wrap 16 (sMulAdd 32 a m o) :=
  (wrap_wrap_of_le 16 32 (by decide) _).symm

theorem sFromI32_trunc (v : Int) : sFromI32 16 v = wrap 16 (sFromI32 32 v) :=
  (wrap_wrap_of_le 16 32 (by decide) _).symm

theorem gradClamped_I16 (n w nw : Int) (hn : I16 n) (hw : I16 w) : I16 (gradClamped n w nw) := by
  unfold gradClamped clamp
  unfold I16 at *
  omega

theorem wideSamples_of_decode (leafOf : LeafOf) (prev : List Chan) (n : Nat) (ps : PState)
    (toks : List Nat) (vs : List Int) (rest : List Nat) (ps' : PState)
    (h : decodeSamples 32 leafOf prev n ps toks = some (vs, rest, ps')) :
    wideSamples leafOf prev n ps toks = vs := by
  induction n generalizing ps toks vs rest ps' with
  | zero => simp [decodeSamples] at h; simp [wideSamples, h.1]
  | succ n ih =>
    unfold decodeSamples at h
    unfold wideSamples
    simp only [] at h ⊢
    split at h
    · rename_i leaf tok rest' hl
      rw [hl]
      simp only []
      split at h
      · rename_i vs' toks' ps'' hd
        simp only [Option.some.injEq, Prod.mk.injEq] at h
        rw [ih _ _ _ _ _ hd, ← h.1]
      · simp at h
    · simp at h

theorem wideSamples_subset_trace (leafOf : LeafOf) (prev : List Chan) (n : Nat) (ps : PState)
    (toks : List Nat) : ∀ v ∈ wideSamples leafOf prev n ps toks, v ∈ decodeTrace leafOf prev n ps toks := by
  induction n generalizing ps toks with
  | zero => simp [wideSamples]
  | succ n ih =>
    unfold wideSamples decodeTrace
    simp only []
    split
    · intro v hv
      simp only [List.mem_cons] at hv
      simp only [List.mem_append]
      cases hv with
      | inl h => left; subst h; simp [sampleTrace, sampleOf]
      | inr h => right; exact ih _ _ v h
    · simp

theorem paletteValue_width (pal : Chan) (nbColours bitDepth : Nat) (index : Int) (c : Nat) :
    ∃ t : Int, (∀ sb, paletteValue sb pal nbColours bitDepth index c = t) ∨
      (∀ sb, paletteValue sb pal nbColours bitDepth index c = wrap sb t) := by
  unfold paletteValue
  by_cases h1 : 0 ≤ index ∧ index < nbColours
  · exact ⟨_, .inl fun _ => if_pos h1⟩
  · by_cases h2 : index ≥ nbColours
    · by_cases h3 : index - nbColours < 64
      · exact ⟨_, .inr fun _ => by rw [if_neg h1, if_pos h2]; exact if_pos h3⟩
      · exact ⟨_, .inr fun _ => by rw [if_neg h1, if_pos h2]; exact if_neg h3⟩
    · by_cases h3 : c ≥ 3
      · exact ⟨_, .inl fun _ => by rw [if_neg h1, if_neg h2]; exact if_pos h3⟩
      · exact ⟨_, .inr fun _ => by rw [if_neg h1, if_neg h2]; exact if_neg h3⟩

theorem map_congr_of_trace {α β : Type} (f g : α → β) (tr : α → List Int)
    (hstep : ∀ x, (∀ v ∈ tr x, I16 v) → f x = g x) (l : List α)
    (h : ∀ v ∈ l.flatMap tr, I16 v) : l.map f = l.map g :=
  List.map_congr_left fun x hx => hstep x fun v hv => h v (List.mem_flatMap.mpr ⟨x, hx, hv⟩)

theorem foldl_congr_of_trace {σ α : Type} (f g : σ → α → σ) (tr : σ → α → List Int)
    (hstep : ∀ s x, (∀ v ∈ tr s x, I16 v) → f s x = g s x) (l : List α) (s : σ)
    (h : ∀ v ∈ foldTrace g tr l s, I16 v) : l.foldl f s = l.foldl g s := by
  induction l generalizing s with
  | nil => rfl
  | cons x xs ih =>
    simp only [foldTrace, List.forall_mem_append] at h
    rw [List.foldl_cons, List.foldl_cons, hstep s x h.1]
    exact ih _ h.2

theorem paletteDeltaPass_eq_fold (sb : SBits) (dPred : Nat) (wp : Wp) (isDelta : Nat → Nat → Bool) (c : Chan) :
    paletteDeltaPass sb dPred wp isDelta c =
      ((List.range (c.w * c.h)).foldl (paletteDeltaStep sb dPred isDelta c.w)
        (PState.reset c.w (if dPred == 6 then some wp else none), c)).2 := rfl

theorem inverseOne_squeeze_eq_fold (sb : SBits) (bitDepth : Nat) (wp : Wp) (chans : List Chan)
    (ps : List SqueezeParam) :
    inverseOne sb bitDepth wp chans (.squeeze ps) = ps.reverse.foldl (squeezeInvStep sb) chans := rfl

/-! The scalar `tendency` has two mirrored branches, a lane of the vector squeeze kernels computes a
magnitude and then a sign; both give `± tendencyMag |a-b| |b-c|` on a monotone triple and `0`
otherwise. -/

/-- magnitude of `tendency` on a monotone triple, from `p = |a-b|` and `r = |b-c|`: the quotient
`(4p + 3r + 6) / 12`, clamped as the code clamps it -/
def tendencyMag (p r : Int) : Int :=
  let t := (4 * p + 3 * r + 6) / 12
  let x := if t - t % 2 > 2 * p then 2 * p + 1 else t
  if x + x % 2 > 2 * r then 2 * r else x

theorem tendencyMag_bounds (p r : Int) (hp : 0 ≤ p) (hr : 0 ≤ r) :
    0 ≤ tendencyMag p r ∧ tendencyMag p r ≤ 2 * r := by
  unfold tendencyMag
  simp only []
  have ht : 0 ≤ (4 * p + 3 * r + 6) / 12 := by omega
  generalize (4 * p + 3 * r + 6) / 12 = t at ht
  omega

theorem tendencyG_id_falling (a b c : Int) (h1 : a ≥ b ∧ b ≥ c) :
    tendencyG id a b c = tendencyMag (a - b) (b - c) := by
  have e : Int.tdiv (4 * a - 3 * c - b + 6) 12 = (4 * (a - b) + 3 * (b - c) + 6) / 12 := by
    rw [Int.tdiv_eq_ediv_of_nonneg (by omega)]
    congr 1
    omega
  simp only [tendencyG, if_pos h1, id, tdiv, e]
  rfl

theorem tendencyG_id_rising (a b c : Int) (h1 : ¬ (a ≥ b ∧ b ≥ c)) (h2 : a ≤ b ∧ b ≤ c) :
    tendencyG id a b c = -tendencyMag (b - a) (c - b) := by
  have e : Int.tdiv (4 * a - 3 * c - b - 6) 12 = -((4 * (b - a) + 3 * (c - b) + 6) / 12) := by
    have : 4 * a - 3 * c - b - 6 = -(4 * (b - a) + 3 * (c - b) + 6) := by omega
    rw [this, Int.neg_tdiv, Int.tdiv_eq_ediv_of_nonneg (by omega)]
  simp only [tendencyG, if_neg h1, if_pos h2, id, tdiv, e, tendencyMag]
  generalize (4 * (b - a) + 3 * (c - b) + 6) / 12 = t
  -- at each of the two clamping steps the mirrored test is equivalent (`-t % 2 = t % 2`) and the
  -- selected values are negatives of each other
  have s1 : (if -t + -t % 2 < 2 * (a - b) then 2 * (a - b) - 1 else -t)
      = -(if t - t % 2 > 2 * (b - a) then 2 * (b - a) + 1 else t) := by
    omega
  rw [s1]
  generalize (if t - t % 2 > 2 * (b - a) then 2 * (b - a) + 1 else t) = x
  omega

/-- the left side is the `skip` of `tendencyVec` -/
theorem tendencyVec_skip_eq (u v : Int) :
    (decide (u < 0) != decide (v < 0) && decide (u ≠ 0) && decide (v ≠ 0))
      = decide ((u < 0 ∧ 0 < v) ∨ (0 < u ∧ v < 0)) := by
  rw [Bool.eq_iff_iff]
  simp only [Bool.and_eq_true, bne_iff_ne, ne_eq, decide_eq_decide, decide_eq_true_eq]
  omega

/-- the quotient the lane forms from `p = |a-b|`, `|a-c| = p + r` and `r = |b-c|` is
`(4p + 3r + 6) / 12` (`mulhi` by `0x5556`, the high half of the product with 21846, is the division
by 3 on non-negative lane values); nothing wraps while that numerator fits -/
theorem tendencyVecCore_eq (p r : Int) (hp : 0 ≤ p) (hr : 0 ≤ r) (hN : 4 * p + 3 * r + 6 ≤ 32768) :
    tendencyVecCore p (p + r) r = tendencyMag p r := by
  obtain ⟨hq, f1, f2⟩ : (p * 21846 / 65536 + (p + r + 2)) / 4 = (4 * p + 3 * r + 6) / 12 ∧
      I16 (p + r + 2) ∧ I16 (p * 21846 / 65536 + (p + r + 2)) := by
    unfold I16
    omega
  -- the lane's first clamping test, and the one `tendencyMag` has from the scalar code
  have hc : ∀ t : Int, t > 2 * p + t % 2 ↔ t - t % 2 > 2 * p := by omega
  unfold tendencyVecCore tendencyMag
  simp only [wrap16_of_I16 _ f1, wrap16_of_I16 _ f2, hq]
  -- every remaining wrapped value lies between 0 and the numerator; `hq`, `f1`, `f2` go first, or
  -- each `omega` call would take their quotients apart again
  clear hq f1 f2
  simp (disch := omega) only [wrap16_of_natAbs_le, hc]

/-- no hypothesis on `a - c`: under these it fits as well, or is not used -/
theorem tendencyVec_eq_exact (a b c : Int) (hab : I16 (a - b)) (hbc : I16 (b - c))
    (h : I16 (tendencyNum a b c)) : tendencyVec a b c = tendencyG id a b c := by
  unfold tendencyNum at h
  unfold tendencyVec
  simp only []
  rw [wrap16_of_I16 _ hab, wrap16_of_I16 _ hbc, tendencyVec_skip_eq]
  simp only [decide_eq_true_eq]
  unfold I16 at hab hbc h
  -- in each case `omega` decides every `if` (`↓`: before looking inside, so that the branch not
  -- taken is never simplified) and bounds every wrapped value
  by_cases h1 : a ≥ b ∧ b ≥ c
  · -- falling: each difference is its own absolute value, no skip, no negation
    rw [if_pos h1] at h
    have e : a - c = a - b + (b - c) := by omega
    simp (disch := omega) only [↓if_neg, e, wrap16_of_natAbs_le, tendencyVecCore_eq,
      tendencyG_id_falling a b c h1]
  · by_cases h2 : a ≤ b ∧ b ≤ c
    · -- rising: each absolute value is the negated difference, no skip, the magnitude is negated
      rw [if_neg h1, if_pos h2] at h
      rw [tendencyG_id_rising a b c h1 h2, ← Int.neg_sub a b, ← Int.neg_sub b c]
      have habs : ∀ x : Int, x ≤ 0 → (if x < 0 then -x else x) = -x := by omega
      have e : -(a - c) = -(a - b) + -(b - c) := by omega
      have hm := tendencyMag_bounds (-(a - b)) (-(b - c)) (by omega) (by omega)
      simp (disch := omega) only [↓if_neg, ↓if_pos, habs, e, wrap16_of_natAbs_le, tendencyVecCore_eq]
    · -- skip: the differences have strictly opposite signs, both sides are `0`
      simp (disch := omega) only [↓if_neg, ↓if_pos, tendencyG]

theorem tendencyVec_eq_wide (a b c : Int) (hab : I16 (a - b)) (hbc : I16 (b - c))
    (h : I16 (tendencyNum a b c)) : tendencyVec a b c = tendency 32 a b c := by
  rw [tendencyVec_eq_exact a b c hab hbc h,
    tendency_exact (fun x hx => wrap32_of_I32 x (I32_of_I16 hx)) a b c h]

end Jxl.Modular
