import JxlModel.Proofs.RenderConc
/-!
# One caller alone (C08)

The sequential semantics (`runThread`, `runOp`, `runHist`) is the interleaving semantics with a
single thread: the caller's invariant `SeqInv` is `CntInv` of the one-thread system and its steps
keep it by `cntInv_step`. Alone, the caller never sleeps: it would be waiting for itself.
-/
namespace Jxl.RenderState

def SeqInv (n : Nat) (hs : List HState) (th : Thread) : Prop :=
  CntInv n { hs := hs, ths := [th] }

theorem SeqInv.ok {n : Nat} {hs : List HState} {th : Thread} (h : SeqInv n hs th) :
    ActsOK n th.acts :=
  h.sysInv.ok 0 th rfl

theorem SeqInv.hasOwner {n : Nat} {hs : List HState} {th : Thread} (h : SeqInv n hs th) {i : Nat}
    (hi : getH hs i = .rendering) : i ∈ th.owned := by
  have := h.cnt i
  simp only [List.flatMap_cons, List.flatMap_nil, List.append_nil, if_pos hi] at this
  exact List.count_pos_iff.1 (this ▸ Nat.one_pos)

theorem SeqInv.awake {n : Nat} {hs : List HState} {th : Thread} (h : SeqInv n hs th) :
    th.asleep = none := by
  cases hsl : th.asleep with
  | none => rfl
  | some i =>
    exact absurd hsl
      (h.sysInv.owner_awake (t := 0) rfl (h.hasOwner (h.sysInv.sleepers 0 th i rfl hsl).1))

theorem seqInv_start (cfg : Config) (hwf : cfg.wf = true) (hs : List HState)
    (hq : Quiescent cfg.frames.length hs) (op : Op) :
    SeqInv cfg.frames.length hs (startThread cfg op) :=
  cntInv_start hq (List.forall_mem_singleton.2 (startThread_ok cfg hwf op)) false

theorem seqInv_step {cfg : Config} {cd : Codec} (hwf : cfg.wf = true) {hs hs' : List HState}
    {th th' : Thread} {ntf : Option Nat} (hinv : SeqInv cfg.frames.length hs th)
    (hst : TStep cfg cd .fixed hs th hs' th' ntf) : SeqInv cfg.frames.length hs' th' := by
  have hshape := hst.shape hinv.len hinv.ok (hinv.sysInv.own 0 th rfl)
  -- its own `notify_all` does not concern the caller
  have hw : wakeIf ntf th' = th' := by
    cases hsl : th'.asleep with
    | none => cases ntf <;> simp [wakeIf, hsl]
    | some i => rw [(hshape.asleep i hsl).1]; rfl
  have := cntInv_step (t := 0) hinv rfl (hst.actsOK hwf hinv.ok) hshape false
  unfold SeqInv
  simpa [hw] using this

theorem run_spec (cfg : Config) (cd : Codec) (orc : Nat → Choice) (hwf : cfg.wf = true)
    {P : Val → Prop} :
    ∀ (fuel k : Nat) (hs : List HState) (th : Thread), SeqInv cfg.frames.length hs th →
      (∀ hs' r, runThread cfg cd .fixed orc fuel k hs th = .finished hs' r →
        Quiescent cfg.frames.length hs' ∧ (HsVal cfg cd hs → ThreadVal cfg cd P th →
          HsVal cfg cd hs' ∧ ∀ v, r = some (.ok v) → P v)) ∧
      (∀ hs' i, runThread cfg cd .fixed orc fuel k hs th ≠ .hang hs' i) ∧
      (wThread cfg th + 1 ≤ fuel →
        ∃ hs' r, runThread cfg cd .fixed orc fuel k hs th = .finished hs' r)
  | 0, _, _, _, _ => by simp [runThread]
  | fuel + 1, k, hs, th, hinv => by
    unfold runThread
    split
    · rename_i hacts
      refine ⟨fun hs' r h => ?_, nofun, fun _ => ⟨_, _, rfl⟩⟩
      cases h
      exact ⟨⟨hinv.len, fun i hi => by simpa [Thread.owned, hacts] using hinv.hasOwner hi⟩,
        fun hH hT => ⟨hH, hT.1⟩⟩
    · rename_i a as hacts
      have hst := stepThread_spec cfg cd .fixed (orc k) hs th (by simp [hacts]) hinv.awake
      have hinv' := seqInv_step hwf hinv hst
      have ih := run_spec cfg cd orc hwf (P := P) fuel (k + 1) _ _ hinv'
      have hw := hst.weight hwf hinv.ok hinv'.awake
      simp only [hinv.awake]
      exact ⟨fun hs' r h => ⟨(ih.1 hs' r h).1, fun hH hT =>
          (ih.1 hs' r h).2 (hst.val hwf hinv.ok hH hT).1 (hst.val hwf hinv.ok hH hT).2⟩,
        ih.2.1, fun hf => ih.2.2 (by omega)⟩

theorem getH_resetCache (cfg : Config) (hs : List HState) (i : Nat) :
    getH (resetCache cfg hs) i = if (frameOf cfg i).refOnly then getH hs i else .none := by
  simp only [resetCache, getH, List.getD_eq_getElem?_getD, List.getElem?_map]
  by_cases hi : i < hs.length
  · simp [List.getElem?_range hi]
  · simp [List.getElem?_eq_none (by simpa using hi : (List.range hs.length).length ≤ i),
      List.getElem?_eq_none (by simpa using hi : hs.length ≤ i)]

theorem runOp_spec (cfg : Config) (cd : Codec) (orc : Nat → Choice) (hwf : cfg.wf = true)
    (fuel : Nat) (hs : List HState) (hq : Quiescent cfg.frames.length hs) (op : Op) :
    (∀ hs' r, runOp cfg cd .fixed orc fuel hs op = .finished hs' r →
      Quiescent cfg.frames.length hs' ∧ (HsVal cfg cd hs →
        HsVal cfg cd hs' ∧ ∀ v, r = some (.ok v) → OpClean cfg cd op v)) ∧
    (∀ hs' i, runOp cfg cd .fixed orc fuel hs op ≠ .hang hs' i) ∧
    (opFuel cfg op ≤ fuel → ∃ hs' r, runOp cfg cd .fixed orc fuel hs op = .finished hs' r) := by
  have main := fun op => run_spec cfg cd orc hwf (P := OpClean cfg cd op) fuel 0 hs _
    (seqInv_start cfg hwf hs hq op)
  cases op with
  | requestRegion =>
    refine ⟨fun hs' r h => ?_, nofun, fun _ => ⟨_, _, rfl⟩⟩
    cases h
    refine ⟨⟨by simp [resetCache, hq.1], fun i => ?_⟩, fun hH => ⟨fun i => ?_, nofun⟩⟩ <;>
      rw [getH_resetCache] <;> split
    · exact hq.2 i
    · simp
    · exact hH i
    · exact ⟨nofun, nofun⟩
  | renderKeyframe | renderLoading =>
    exact ⟨fun hs' r h => ⟨((main _).1 hs' r h).1,
      fun hH => ((main _).1 hs' r h).2 hH (tv_start cfg cd _)⟩, (main _).2⟩

theorem runHist_spec (cfg : Config) (cd : Codec) (hwf : cfg.wf = true) (fuel : Nat) :
    ∀ (hist : List (Op × (Nat → Choice))) (hs : List HState), Quiescent cfg.frames.length hs →
      (∀ hs' rs, runHist cfg cd .fixed fuel hs hist = some (hs', rs) →
        Quiescent cfg.frames.length hs' ∧ (HsVal cfg cd hs → HsVal cfg cd hs' ∧
          ∀ (j : Nat) (op : Op) (orc : Nat → Choice) (r : Option Res),
            hist[j]? = some (op, orc) → rs[j]? = some r →
            ∀ v, r = some (Res.ok v) → OpClean cfg cd op v)) ∧
      ((∀ p ∈ hist, opFuel cfg p.1 ≤ fuel) →
        ∃ hs' rs, runHist cfg cd .fixed fuel hs hist = some (hs', rs))
  | [], hs, hq => ⟨fun hs' rs h => by cases h; exact ⟨hq, fun hH => ⟨hH, by simp⟩⟩,
      fun _ => ⟨hs, [], rfl⟩⟩
  | (op, orc) :: rest, hs, hq => by
    have hop := runOp_spec cfg cd orc hwf fuel hs hq op
    refine ⟨fun hs' rs h => ?_, fun hf => ?_⟩
    · simp only [runHist] at h
      split at h
      · rename_i hs1 r1 hrun
        obtain ⟨hq1, hv1⟩ := hop.1 hs1 r1 hrun
        split at h
        · rename_i hs2 rs2 hrest
          obtain ⟨hq2, hv2⟩ := (runHist_spec cfg cd hwf fuel rest hs1 hq1).1 hs2 rs2 hrest
          cases h
          refine ⟨hq2, fun hH => ⟨(hv2 (hv1 hH).1).1, fun j op' orc' r hj hr => ?_⟩⟩
          cases j with
          | zero =>
            simp only [List.getElem?_cons_zero, Option.some.injEq, Prod.mk.injEq] at hj hr
            rw [← hj.1, ← hr]
            exact (hv1 hH).2
          | succ j => exact (hv2 (hv1 hH).1).2 j op' orc' r (by simpa using hj) (by simpa using hr)
        · cases h
      · cases h
    · obtain ⟨hs1, r1, hrun⟩ := hop.2.2 (hf (op, orc) (by simp))
      obtain ⟨hs2, rs2, hrest⟩ := (runHist_spec cfg cd hwf fuel rest hs1 (hop.1 hs1 r1 hrun).1).2
        (fun p hp => hf p (by simp [hp]))
      exact ⟨hs2, r1 :: rs2, by simp [runHist, hrun, hrest]⟩

end Jxl.RenderState
