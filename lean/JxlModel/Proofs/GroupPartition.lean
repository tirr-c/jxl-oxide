import JxlModel.Model.Enc.Frame
import JxlModel.Proofs.Chan
/-! Group partition (property C03): `groupPieceChans` / `pasteGroups` (`Model/Enc/Frame.lean`) are the
split of the non-global channels into group pieces (as `prepare_groups`, jxl-modular/src/image.rs)
that the reference encoder applies, and the reassembly of the decoded pieces. A group's sub-image
holds only the channels whose rectangle in it is not empty, so `pasteChan` finds a channel's piece at
the number of earlier channels that are kept: where the image of `l[i]` stands in `l.filterMap f`. -/
namespace Jxl.Enc
open Jxl.Modular

theorem getD_filterMap_countP {α β} (f : α → Option β) (p : α → Bool) (l : List α) (i : Nat) (a : α)
    (v d : β) (hi : l[i]? = some a) (hf : f a = some v) (hp : ∀ b, p b = true ↔ (f b).isSome = true) :
    (l.filterMap f).getD ((l.take i).countP p) d = v := by
  obtain ⟨h, rfl⟩ := List.getElem?_eq_some_iff.mp hi
  have hl : l.filterMap f = (l.take i).filterMap f ++ v :: (l.drop (i + 1)).filterMap f := by
    rw [← List.filterMap_cons_some hf, ← List.filterMap_append, List.getElem_cons_drop,
      List.take_append_drop]
  rw [hl, List.countP_congr fun b _ => hp b, ← List.length_filterMap_eq_countP]
  exact getD_append_add _ _ d 0

theorem length_filter_range_getD {α} (p : α → Bool) (l : List α) (d : α) (i : Nat) (hi : i ≤ l.length) :
    ((List.range i).filter fun j => p (l.getD j d)).length = (l.take i).countP p := by
  rw [← map_getD_range (l.take i) d (List.length_take_of_le hi), List.countP_map,
    List.countP_eq_length_filter]
  congr 1
  exact List.filter_congr fun j hj => congrArg p (getD_take l i j d (List.mem_range.mp hj)).symm

/-- hypotheses of `C03_group_partition_reassembles`; for channels of the natural shape
`C03_group_columns_cover` gives the non-zero group cell and the covering of the width -/
def groupLayoutOk (groupDim gcols : Nat) (restCh : List (ChanInfo × Chan)) : Bool :=
  restCh.all fun p =>
    p.2.wf && p.2.w == p.1.w && p.2.h == p.1.h &&
      decide (0 < groupDim / 2 ^ p.1.hshift.toNat) && decide (0 < groupDim / 2 ^ p.1.vshift.toNat) &&
      decide (p.1.w ≤ gcols * (groupDim / 2 ^ p.1.hshift.toNat))

end Jxl.Enc
