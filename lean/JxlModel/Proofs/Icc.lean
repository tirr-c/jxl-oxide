import JxlModel.Model.Icc
import JxlModel.Proofs.Util
/-!
Helper lemmas for C18 (ICC decompression): the pieces a command is made of, each with its
encoder-side inverse: varint, header prediction, shuffles, the predicted-run loop.
-/
namespace Jxl.Icc

/-- `l` is a byte string. `planCovers` spells this `l.all (· < 256)` (`isBytes_of_all`); the C18
statements write the body out. -/
def IsBytes (l : List Nat) : Prop := ∀ b ∈ l, b < 256

theorem IsBytes.getD_lt {l : List Nat} (h : IsBytes l) (i : Nat) : l.getD i 0 < 256 :=
  getD_of_forall (P := (· < 256)) (by omega) h i

theorem isBytes_of_all {l : List Nat} (h : l.all (· < 256) = true) : IsBytes l :=
  fun b hb => by simpa using List.all_eq_true.mp h b hb

/-- one step down an `if` chain whose arms are all `≤ n`; the else-arm needs no help from the
negated condition in any of the chains here -/
theorem ite_le {c : Prop} [Decidable c] {a b n : Nat} (ha : c → a ≤ n) (hb : b ≤ n) :
    (if c then a else b) ≤ n := by
  split
  · exact ha ‹_›
  · exact hb

theorem length_slice (l : List Nat) (off n : Nat) (h : off + n ≤ l.length) :
    (slice l off n).length = n := by
  simp [slice]; omega

theorem IsBytes.slice {l : List Nat} (h : IsBytes l) (off n : Nat) : IsBytes (slice l off n) := by
  intro b hb
  exact h b (List.mem_of_mem_drop (List.mem_of_mem_take hb))

theorem take_add_slice (l : List Nat) (pos k : Nat) : l.take (pos + k) = l.take pos ++ slice l pos k := by
  simp [slice, List.take_add]

theorem slice_add (l : List Nat) (off a b : Nat) :
    slice l off (a + b) = slice l off a ++ slice l (off + a) b := by
  simp [slice, List.take_add, List.drop_drop]

theorem take_toArray_append_slice (l : List Nat) (pos k : Nat) :
    (l.take pos).toArray ++ (slice l pos k).toArray = (l.take (pos + k)).toArray := by
  rw [List.append_toArray, take_add_slice]

theorem size_take_toArray (l : List Nat) (pos : Nat) (h : pos ≤ l.length) :
    (l.take pos).toArray.size = pos := by simp; omega

theorem slice_succ (l : List Nat) (off n : Nat) (h : off < l.length) :
    slice l off (n + 1) = l.getD off 0 :: slice l (off + 1) n := by
  simp only [slice]
  rw [List.drop_eq_getElem_cons h, List.take_succ_cons]
  simp [List.getD_eq_getElem?_getD, h]

theorem slice_four (l : List Nat) (off : Nat) (h : off + 4 ≤ l.length) :
    slice l off 4 = [l.getD off 0, l.getD (off + 1) 0, l.getD (off + 2) 0, l.getD (off + 3) 0] := by
  rw [slice_succ _ _ _ (by omega), slice_succ _ _ _ (by omega), slice_succ _ _ _ (by omega),
    slice_succ _ _ _ (by omega)]
  simp [slice]

theorem readVarintAux_enc (more shift acc n : Nat) (rest : List Nat) (h : n < 128 ^ (more + 1)) :
    readVarintAux (more + 1) shift acc (encVarintAux more n ++ rest) = .ok (acc + n * 2 ^ shift, rest) := by
  fun_induction encVarintAux more n generalizing shift acc with
  | case1 n =>
    have h' : n < 128 := h
    rw [List.singleton_append, readVarintAux, Nat.mod_mod, if_pos (Nat.mod_lt _ (by decide)),
      Nat.mod_eq_of_lt h']
  | case2 more n hn =>
    rw [List.singleton_append, readVarintAux, if_pos hn, Nat.mod_eq_of_lt hn]
  | case3 more n hn ih =>
    have hlt : n / 128 < 128 ^ (more + 1) := Nat.div_lt_of_lt_mul (by rwa [Nat.pow_succ, Nat.mul_comm] at h)
    rw [List.cons_append, readVarintAux, if_neg (by omega), ih _ _ hlt,
      show (n % 128 + 128) % 128 = n % 128 by omega]
    -- `n = n % 128 + n / 128 * 128`, times `2 ^ shift`
    rw [Nat.add_assoc, Nat.pow_add, Nat.mul_comm (2 ^ shift), ← Nat.mul_assoc, ← Nat.add_mul]
    exact congrArg (fun v => Except.ok (acc + v * 2 ^ shift, rest)) (Nat.mod_add_div' n 128)

theorem readVarint_encVarint (n : Nat) (rest : List Nat) (h : n < 2 ^ 63) :
    readVarint (encVarint n ++ rest) = .ok (n, rest) := by
  have := readVarintAux_enc 8 0 0 n rest (by simpa using h)
  simpa [readVarint, encVarint] using this

theorem length_encVarintAux (more n : Nat) : (encVarintAux more n).length ≤ more + 1 := by
  fun_induction encVarintAux more n with
  | case1 | case2 => simp
  | case3 more n hn ih => simp; omega

theorem length_encVarint (n : Nat) : (encVarint n).length ≤ 9 := length_encVarintAux 8 n

theorem length_encodeHeader (p : List Nat) : (encodeHeader p).length = min p.length 128 := by
  simp [encodeHeader]

theorem getD_encodeHeader (p : List Nat) (i : Nat) (hi : i < min p.length 128) :
    (encodeHeader p).getD i 0 = (p.getD i 0 + 256 - predictHeader i p.length p) % 256 := by
  simp [encodeHeader, List.getD_eq_getElem?_getD, hi]

theorem getD_encodeHeader_of_pred_zero (p : List Nat) (hb : IsBytes p) (i : Nat) (hi : i < 128)
    (hz : predictHeader i p.length p = 0) : (encodeHeader p).getD i 0 = p.getD i 0 := by
  by_cases h : i < p.length
  · rw [getD_encodeHeader p i (by omega), hz]
    have := hb.getD_lt i
    omega
  · rw [getD_of_length_le _ _ _ (Nat.le_of_not_lt h),
      getD_of_length_le _ _ _ (by rw [length_encodeHeader]; omega)]

theorem predictHeader_zero (idx size : Nat) (p : List Nat)
    (h : idx = 4 ∨ idx = 5 ∨ idx = 6 ∨ idx = 7 ∨ idx = 40) : predictHeader idx size p = 0 := by
  rcases h with rfl | rfl | rfl | rfl | rfl <;> rfl

theorem predictHeader_41_of_S (size : Nat) (p : List Nat) (h : p.getD 40 0 = 83) :
    predictHeader 41 size p = 0 := by
  unfold predictHeader
  rw [h]
  rfl

theorem predictHeaderV_congr (idx size h40 h41 h41' hLook hLook' : Nat)
    (h1 : h40 = 83 → h41 = h41') (h2 : 80 ≤ idx ∧ idx ≤ 83 → hLook = hLook') :
    predictHeaderV idx size h40 h41 hLook = predictHeaderV idx size h40 h41' hLook' := by
  have e1 : predictHeaderV idx size h40 h41 hLook = predictHeaderV idx size h40 h41' hLook := by
    by_cases h : h40 = 83
    · rw [h1 h]
    · simp [predictHeaderV, h]
  rw [e1]
  by_cases h : 80 ≤ idx ∧ idx ≤ 83
  · rw [h2 h]
  · simp [predictHeaderV, h]

theorem isBytes_be32 (v : Nat) : IsBytes (be32 v) := by
  intro b hb
  simp [be32] at hb
  omega

theorem predictHeader_lt (idx size : Nat) (p : List Nat) (hb : IsBytes p) :
    predictHeader idx size p < 256 := by
  have h1 := (isBytes_be32 (size % 4294967296)).getD_lt idx
  have h2 := IsBytes.getD_lt (by decide : ∀ b ∈ mntrRgbXyz, b < 256) (idx - 12)
  have h3 := IsBytes.getD_lt (by decide : ∀ b ∈ acsp, b < 256) (idx - 36)
  have h4 := hb.getD_lt (4 + idx - 80)
  unfold predictHeader predictHeaderV
  refine Nat.lt_succ_of_le ?_
  repeat' apply ite_le
  all_goals omega

theorem length_shuffleW (w : Nat) (b : List Nat) : (shuffleW w b).length = b.length := by
  simp [shuffleW]

theorem length_unshuffleRow (w r : Nat) (x : List Nat) :
    (unshuffleRow w r x).length = (x.length + w - 1 - r) / w := by
  simp [unshuffleRow]

theorem getD_unshuffleRow (w r : Nat) (x : List Nat) (c : Nat)
    (hc : c < (x.length + w - 1 - r) / w) :
    (unshuffleRow w r x).getD c 0 = x.getD (c * w + r) 0 := by
  simp [unshuffleRow, List.getD_eq_getElem?_getD, hc]

/-- the rows of `unshuffle2`/`unshuffle4`, for any width -/
def unshuffleW (w : Nat) (x : List Nat) : List Nat :=
  (List.range w).flatMap fun r => unshuffleRow w r x

theorem rowLen_eq (w len r : Nat) (hr : r < w) :
    (len + w - 1 - r) / w = len / w + if r < len % w then 1 else 0 := by
  have hd := Nat.div_add_mod' len w
  have hm := Nat.mod_lt len (Nat.zero_lt_of_lt hr)
  split
  · rw [show len + w - 1 - r = (len / w + 1) * w + (len % w - 1 - r) by rw [Nat.succ_mul]; omega,
      mul_add_div_of_lt (by omega)]
  · rw [show len + w - 1 - r = len / w * w + (len % w + w - 1 - r) by omega,
      mul_add_div_of_lt (by omega)]
    rfl

/-- the first `r` rows together: where row `r` starts in `unshuffleW w x`, which is the offset
`shuffleW` adds to the column -/
theorem length_rows (w : Nat) (x : List Nat) : ∀ r, r ≤ w →
    ((List.range r).flatMap fun i => unshuffleRow w i x).length
      = r * (x.length / w) + min r (x.length % w)
  | 0, _ => by simp
  | r + 1, h => by
    rw [List.range_succ, List.flatMap_append, List.length_append, length_rows w x r (by omega)]
    simp only [List.flatMap_cons, List.flatMap_nil, List.append_nil, length_unshuffleRow]
    rw [rowLen_eq w _ r (by omega), Nat.succ_mul]
    split <;> omega

theorem getD_flatMap_range (f : Nat → List Nat) (n r c : Nat) (hr : r < n) (hc : c < (f r).length) :
    ((List.range n).flatMap f).getD (((List.range r).flatMap f).length + c) 0 = (f r).getD c 0 := by
  obtain ⟨k, rfl⟩ : ∃ k, n = r + 1 + k := ⟨n - (r + 1), by omega⟩
  rw [List.range_add, List.range_succ]
  simp only [List.flatMap_append, List.flatMap_cons, List.flatMap_nil, List.append_nil, List.append_assoc]
  rw [getD_append_add, getD_append_left _ _ _ _ hc]

theorem length_unshuffleW (w : Nat) (hw : 0 < w) (x : List Nat) : (unshuffleW w x).length = x.length := by
  rw [unshuffleW, length_rows w x w (Nat.le_refl _), Nat.min_eq_right (Nat.le_of_lt (Nat.mod_lt _ hw))]
  exact Nat.div_add_mod x.length w

theorem shuffleW_unshuffleW (w : Nat) (hw : 0 < w) (x : List Nat) : shuffleW w (unshuffleW w x) = x := by
  have hlen := length_unshuffleW w hw x
  apply List.ext_getElem
  · rw [length_shuffleW, hlen]
  · intro k _ hk
    have hr := Nat.mod_lt k hw
    have hc : k / w < (x.length + w - 1 - k % w) / w :=
      (Nat.le_div_iff_mul_le hw).2 (by have := Nat.div_add_mod' k w; rw [Nat.succ_mul]; omega)
    simp only [shuffleW, List.getElem_map, List.getElem_range, List.size_toArray, getD_toArray, hlen]
    rw [show k / w + k % w * (x.length / w) + min (k % w) (x.length % w)
        = ((List.range (k % w)).flatMap fun i => unshuffleRow w i x).length + k / w by
      rw [length_rows w x _ (Nat.le_of_lt hr)]; omega]
    rw [unshuffleW, getD_flatMap_range _ _ _ _ hr (by rw [length_unshuffleRow]; exact hc),
      getD_unshuffleRow _ _ _ _ hc, Nat.div_add_mod' k w]
    simp [List.getD_eq_getElem?_getD, hk]

theorem unshuffle2_eq (x : List Nat) : unshuffle2 x = unshuffleW 2 x := by
  simp [unshuffle2, unshuffleW, List.range_succ]

theorem unshuffle4_eq (x : List Nat) : unshuffle4 x = unshuffleW 4 x := by
  simp [unshuffle4, unshuffleW, List.range_succ]

theorem shuffleBy_unshuffleBy (width : Nat) (x : List Nat) : shuffleBy width (unshuffleBy width x) = x := by
  unfold shuffleBy unshuffleBy
  split
  · rw [unshuffle2_eq]; exact shuffleW_unshuffleW 2 (by decide) x
  · split
    · rw [unshuffle4_eq]; exact shuffleW_unshuffleW 4 (by decide) x
    · rfl

theorem length_unshuffleBy (width : Nat) (x : List Nat) : (unshuffleBy width x).length = x.length := by
  unfold unshuffleBy
  split
  · rw [unshuffle2_eq]; exact length_unshuffleW 2 (by decide) x
  · split
    · rw [unshuffle4_eq]; exact length_unshuffleW 4 (by decide) x
    · rfl

theorem beRead_congr (g g' : Nat → Nat) (w : Nat) : ∀ (off : Nat),
    (∀ i, off ≤ i → i < off + w → g i = g' i) → beRead g off w = beRead g' off w := by
  induction w with
  | zero => intro off _; rfl
  | succ w ih =>
    intro off h
    simp only [beRead]
    rw [h off (by omega) (by omega), ih (off + 1) (fun i h1 h2 => h i (by omega) (by omega))]

/-- The prediction only reads elements before the current one: orders 0..2 look at most three
strides back (`stride * 3 ≤ len`, which the decoder's `stride * 4 < len` check gives), and the
`width` bytes read at `len - stride` end before `len` because `width ≤ stride`. -/
theorem predictVal_congr (g g' : Nat → Nat) (len stride width order : Nat)
    (h : ∀ i, i < len → g i = g' i) (hw : width ≤ stride) (hs : stride * 3 ≤ len) :
    predictVal g len stride width order = predictVal g' len stride width order := by
  have e : ∀ j, j < 3 → beRead g (len - stride * (j + 1)) width = beRead g' (len - stride * (j + 1)) width :=
    fun j hj => beRead_congr g g' width _ (fun i _ h2 => h i (by
      have : stride * (j + 1) ≤ stride * 3 := Nat.mul_le_mul_left _ (by omega)
      have : stride ≤ stride * (j + 1) := Nat.le_mul_of_pos_right _ (by omega)
      omega))
  simp only [predictVal, e 0 (by decide), e 1 (by decide), e 2 (by decide)]

theorem pushChunk_residChunk (p width : Nat) (xs : List Nat) (hb : IsBytes xs) :
    ∀ (j : Nat) (l : List Nat),
    pushChunk p width j (residChunk p width j xs) l.toArray = (l ++ xs).toArray := by
  induction xs with
  | nil => intro j l; simp [pushChunk, residChunk]
  | cons x xs ih =>
    intro j l
    have hx : x < 256 := hb x (by simp)
    simp only [residChunk, pushChunk, List.push_toArray]
    rw [ih (fun b h => hb b (by simp [h])), List.append_assoc, List.singleton_append]
    congr 3
    omega

theorem length_residChunk (p width : Nat) (xs : List Nat) : ∀ (j : Nat),
    (residChunk p width j xs).length = xs.length := by
  induction xs with
  | nil => intro j; rfl
  | cons x xs ih => intro j; simp [residChunk, ih]

theorem extract_toArray (l : List Nat) (a k : Nat) :
    (l.toArray.extract a (a + k)).toList = slice l a k := by
  simp [slice]

theorem length_residLoop (profile : List Nat) (width order stride : Nat) (h0 : 0 < width)
    (fuel pos n : Nat) (hf : n ≤ fuel) (hl : pos + n ≤ profile.length) :
    (residLoop profile.toArray width order stride fuel pos n).length = n := by
  fun_induction residLoop profile.toArray width order stride fuel pos n with
  | case1 pos n => exact (Nat.le_zero.mp hf).symm
  | case2 fuel pos => rfl
  | case3 fuel pos n hn p k ih =>
    rw [List.length_append, length_residChunk, extract_toArray, length_slice _ _ _ (by omega),
      ih (by omega) (by omega)]
    omega

theorem take_drop_chunk (a b : List Nat) (w : Nat) (h : a.length = min w (a ++ b).length) :
    (a ++ b).take w = a ∧ (a ++ b).drop w = b := by
  rw [List.length_append] at h
  by_cases hw : a.length = w
  · exact ⟨List.take_left' hw, List.drop_left' hw⟩
  · have hb : b = [] := List.eq_nil_of_length_eq_zero (by omega)
    subst hb
    rw [List.append_nil]
    exact ⟨List.take_of_length_le (by omega), List.drop_of_length_le (by omega)⟩

theorem predLoop_residLoop (profile : List Nat) (hb : IsBytes profile) (width order stride : Nat)
    (h0 : 0 < width) (hw : width ≤ stride) (fuel pos n : Nat)
    (hf : n ≤ fuel) (hlen : pos + n ≤ profile.length) (hs : stride * 3 ≤ pos) :
    predLoop width order stride fuel (residLoop profile.toArray width order stride fuel pos n)
      (profile.take pos).toArray = (profile.take (pos + n)).toArray := by
  fun_induction residLoop profile.toArray width order stride fuel pos n with
  | case1 pos n => rw [Nat.le_zero.mp hf]; rfl
  | case2 fuel pos => rfl
  | case3 fuel pos n hn p k ih =>
    -- the decoder predicts from its output so far, the encoder from the profile: below `pos`
    -- they hold the same bytes
    have hp : predictVal (fun i => (profile.take pos).toArray.getD i 0)
        (profile.take pos).toArray.size stride width order = p := by
      rw [size_take_toArray _ _ (by omega)]
      exact predictVal_congr _ _ _ _ _ _ (fun i hi => by simp [hi]) hw hs
    rw [extract_toArray]
    have hchunk : (residChunk p width 0 (slice profile pos k)).length = k := by
      rw [length_residChunk, length_slice _ _ _ (by omega)]
    obtain ⟨ht, hd⟩ := take_drop_chunk (residChunk p width 0 (slice profile pos k))
      (residLoop profile.toArray width order stride fuel (pos + k) (n - k)) width
      (by rw [List.length_append, hchunk,
            length_residLoop profile width order stride h0 _ _ _ (by omega) (by omega)]; omega)
    rw [predLoop, if_neg (mt List.isEmpty_iff.mp
      (List.ne_nil_of_length_pos (by rw [List.length_append, hchunk]; omega)))]
    simp only [ht, hd, hp]
    rw [pushChunk_residChunk _ _ _ (hb.slice _ _), ← take_add_slice,
      ih (by omega) (by omega) (by omega)]
    congr 2
    omega

end Jxl.Icc
