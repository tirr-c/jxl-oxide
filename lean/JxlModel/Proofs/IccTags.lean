import JxlModel.Proofs.Icc
/-!
The tag list of C18: one round of the tag loop on the encoding of a tag command
(`tagLoop_encTagCmd`), and the tag loop on the encoder's tag section.
-/
namespace Jxl.Icc

theorem readBe32_lt (l : List Nat) (hb : IsBytes l) (off : Nat) : readBe32 l off < 4294967296 := by
  have h0 := hb.getD_lt off
  have h1 := hb.getD_lt (off + 1)
  have h2 := hb.getD_lt (off + 2)
  have h3 := hb.getD_lt (off + 3)
  unfold readBe32; omega

theorem be32_digits (a b c d : Nat) (ha : a < 256) (hb : b < 256) (hc : c < 256) (hd : d < 256) :
    be32 (a * 16777216 + b * 65536 + c * 256 + d) = [a, b, c, d] := by
  simp only [be32, List.cons.injEq, and_true]
  omega

theorem be32_readBe32 (l : List Nat) (hb : IsBytes l) (off : Nat) (h : off + 4 ≤ l.length) :
    be32 (readBe32 l off) = slice l off 4 := by
  rw [slice_four l off h]
  exact be32_digits _ _ _ _ (hb.getD_lt _) (hb.getD_lt _) (hb.getD_lt _) (hb.getD_lt _)

theorem slice_entry (l : List Nat) (hb : IsBytes l) (pos : Nat) (h : pos + 12 ≤ l.length) :
    slice l pos 12 = slice l pos 4 ++ be32 (readBe32 l (pos + 4)) ++ be32 (readBe32 l (pos + 8)) := by
  rw [be32_readBe32 l hb _ (by omega), be32_readBe32 l hb _ (by omega),
    show (12 : Nat) = 4 + (4 + 4) by rfl, slice_add, slice_add]
  simp [Nat.add_assoc]

theorem tagCmdByte_fields (c : TagCmd) (h : c.code ≤ 20) :
    tagCmdByte c % 64 = c.code ∧
    (tagCmdByte c / 64) % 2 = (if c.explicitStart then 1 else 0) ∧
    (tagCmdByte c / 128) % 2 = (if c.explicitSize then 1 else 0) := by
  unfold tagCmdByte
  cases c.explicitStart <;> cases c.explicitSize <;> simp <;> omega

theorem readU32_enc (n : Nat) (rest : List Nat) (h : n < 4294967296) :
    readU32 (encVarint n ++ rest) = .ok (n, rest) := by
  unfold readU32
  rw [readVarint_encVarint _ _ (Nat.lt_trans h (by decide))]
  simp only
  rw [Nat.mod_eq_of_lt h]

theorem tagOf_enc (profile : List Nat) (c : TagCmd) (pos : Nat)
    (hc1 : 1 ≤ c.code) (hc20 : c.code ≤ 20) (hlen12 : pos + 12 ≤ profile.length) (restD : List Nat) :
    tagOf c.code ((encTagCmd profile pos c).2 ++ restD)
      = .ok (tagOfCode profile pos c.code, restD) := by
  unfold tagOf tagOfCode encTagCmd
  by_cases h1 : c.code = 1
  · have hs := length_slice profile pos 4 (by omega)
    simp only [h1, if_true, List.length_append, hs]
    rw [if_neg (by omega), List.take_left' hs, List.drop_left' hs]
  · simp only [h1, if_false]
    rw [if_pos (by omega), List.nil_append]

theorem readTagStart_enc (c : TagCmd) (start ps pz : Nat) (hc20 : c.code ≤ 20)
    (hS : start < 4294967296) (hstart : c.explicitStart = true ∨ start = ps + pz) (rest : List Nat) :
    readTagStart (tagCmdByte c) ps pz ((if c.explicitStart then encVarint start else []) ++ rest)
      = .ok (start, rest) := by
  unfold readTagStart
  rw [(tagCmdByte_fields c hc20).2.1]
  cases hes : c.explicitStart with
  | false =>
    simp only [hes, Bool.false_eq_true, false_or, if_false, if_true, List.nil_append] at hstart ⊢
    rw [hstart]
  | true =>
    simp only [if_true]
    rw [if_neg (by omega), readU32_enc _ _ hS]

theorem readTagSize_enc (c : TagCmd) (sz pz : Nat) (tag : List Nat) (hc20 : c.code ≤ 20)
    (hZ : sz < 4294967296)
    (hsize : c.explicitSize = true ∨ sz = if isSize20Tag tag = true then 20 else pz)
    (rest : List Nat) :
    readTagSize (tagCmdByte c) pz tag ((if c.explicitSize then encVarint sz else []) ++ rest)
      = .ok (sz, rest) := by
  unfold readTagSize
  rw [(tagCmdByte_fields c hc20).2.2]
  cases hez : c.explicitSize with
  | false =>
    simp only [hez, Bool.false_eq_true, false_or, if_false, List.nil_append] at hsize ⊢
    rw [if_neg (by omega), hsize]
    split <;> rfl
  | true =>
    simp only [if_true]
    rw [readU32_enc _ _ hZ]

theorem tagLoop_encTagCmd (profile : List Nat) (hb : IsBytes profile) (c : TagCmd) (pos ps pz : Nat)
    (hok : tagCmdOk profile c pos ps pz = true) (restC restD : List Nat) (fuel : Nat) :
    tagLoop profile.length (fuel + 1)
      { cmds := (encTagCmd profile pos c).1 ++ restC, data := (encTagCmd profile pos c).2 ++ restD,
        out := (profile.take pos).toArray, prevStart := ps, prevSize := pz }
      = tagLoop profile.length fuel
          { cmds := restC, data := restD, out := (profile.take (pos + tagCmdLen c)).toArray,
            prevStart := readBe32 profile (pos + 4), prevSize := readBe32 profile (pos + 8) } := by
  simp only [tagCmdOk, Bool.and_eq_true, Bool.or_eq_true, decide_eq_true_eq, beq_iff_eq,
    bne_iff_ne, ne_eq, and_assoc] at hok
  obtain ⟨hc1, hc20, hlen, htag, hstart, hsize, hrange, h2, h3⟩ := hok
  have hmod := (tagCmdByte_fields c hc20).1
  have hlen12 : pos + 12 ≤ profile.length := by unfold tagCmdLen at hlen; split at hlen <;> omega
  have hentry : tagEntry c.code (tagOfCode profile pos c.code) (readBe32 profile (pos + 4))
      (readBe32 profile (pos + 8)) = slice profile pos (tagCmdLen c) := by
    unfold tagEntry tagCmdLen
    by_cases hc2 : c.code = 2
    · rw [if_pos (Or.inl hc2), if_pos hc2, show (36 : Nat) = 12 + 24 by rfl, slice_add,
        slice_entry profile hb pos hlen12, h2.resolve_left (not_not_intro hc2), ← htag]
    · by_cases hc3 : c.code = 3
      · rw [if_pos (Or.inr hc3), if_neg hc2, if_pos hc3, show (36 : Nat) = 12 + 24 by rfl, slice_add,
          slice_entry profile hb pos hlen12, h3.resolve_left (not_not_intro hc3), ← htag]
      · rw [if_neg hc2, if_neg hc3, if_neg (by omega), slice_entry profile hb pos hlen12, ← htag]
        simp
  rw [tagLoop]
  simp only [show (encTagCmd profile pos c).1 = tagCmdByte c :: encTagArgs profile pos c from rfl,
    List.cons_append, hmod, tagStep,
    tagOf_enc profile c pos hc1 hc20 hlen12 restD, encTagArgs, List.append_assoc,
    readTagStart_enc c _ ps pz hc20 (readBe32_lt profile hb _) hstart,
    readTagSize_enc c _ pz _ hc20 (readBe32_lt profile hb _) hsize]
  rw [if_neg (by omega), if_neg (by omega), hentry, take_toArray_append_slice]

/-- the two ways the tag loop ends: a `0` command, or the end of the command stream -/
theorem tagLoop_stop (size fuel : Nat) (s : TagSt) (term : Bool) (mc : List Nat)
    (hs : s.cmds = (if term then [0] else []) ++ mc) (h : term = true ∨ mc = []) :
    tagLoop size (fuel + 1) s = .ok { s with cmds := mc } := by
  rw [tagLoop, hs]
  cases term with
  | true => rfl
  | false =>
    obtain rfl : mc = [] := h.resolve_left Bool.false_ne_true
    cases s
    cases hs
    rfl

theorem tagLoop_encTagCmds (profile : List Nat) (hb : IsBytes profile) (term : Bool)
    (mc restD : List Nat) (hstop : term = true ∨ mc = []) :
    ∀ (cs : List TagCmd) (pos ps pz fuel posEnd : Nat),
      tagCmdsCover profile cs pos ps pz = some posEnd →
      ((encTagCmds profile pos cs).1 ++ ((if term then [0] else []) ++ mc)).length < fuel →
      (encTagCmds profile pos cs).2.2 = posEnd ∧
      ∃ ps' pz',
        tagLoop profile.length fuel
          { cmds := (encTagCmds profile pos cs).1 ++ ((if term then [0] else []) ++ mc),
            data := (encTagCmds profile pos cs).2.1 ++ restD,
            out := (profile.take pos).toArray, prevStart := ps, prevSize := pz }
        = .ok { cmds := mc, data := restD, out := (profile.take posEnd).toArray,
                prevStart := ps', prevSize := pz' }
  | [], pos, ps, pz, fuel + 1, posEnd, h, _ => by
    cases h
    exact ⟨rfl, ps, pz, tagLoop_stop _ _ _ term mc rfl hstop⟩
  | c :: cs, pos, ps, pz, fuel + 1, posEnd, h, hf => by
    simp only [tagCmdsCover] at h
    by_cases hok : tagCmdOk profile c pos ps pz = true
    · rw [if_pos hok] at h
      simp only [encTagCmds, List.append_assoc, List.length_append] at hf ⊢
      rw [tagLoop_encTagCmd profile hb c pos ps pz hok]
      exact tagLoop_encTagCmds profile hb term mc restD hstop cs _ _ _ fuel posEnd h
        (by simp only [encTagCmd, List.length_cons] at hf; simp only [List.length_append]; omega)
    · rw [if_neg hok] at h
      cases h

end Jxl.Icc
