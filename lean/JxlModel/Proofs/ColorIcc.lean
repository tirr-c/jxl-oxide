import JxlModel.Model.Color
import JxlModel.Proofs.Util
/-!
Lemmas for C19: the layout of the ICC profile `synth` writes, and what `parseRaw` and the tag scan
read back from it. No Mathlib here; the transfer curves over `ℝ` are in `Proofs/Color.lean`.
-/
namespace Jxl.Color

theorem ofBe_be32 (n : Nat) (h : n < 4294967296) : ofBe (be32 n) = n := by
  simp only [be32, ofBe, List.length_cons, List.length_nil]
  omega

theorem ofBe_be16 (n : Nat) (h : n < 65536) : ofBe (be16 n) = n := by
  simp only [be16, ofBe, List.length_cons, List.length_nil]
  omega

theorem ofU32_toU32 (v : Int) (h1 : -2147483648 ≤ v) (h2 : v < 2147483648) : ofU32 (toU32 v) = v := by
  unfold ofU32 toU32
  split <;> omega

theorem toU32_lt (v : Int) : toU32 v < 4294967296 := by
  unfold toU32; omega

theorem be32_length (n : Nat) : (be32 n).length = 4 := rfl

def I32 (v : Int) : Prop := -2147483648 ≤ v ∧ v < 2147483648

/-! The parser reads at numeric offsets into a profile that `synth` writes as a concatenation.
`Seg d k a` says that the bytes `a` stand at offset `k` of `d`; `seg_append` cuts a concatenation
into its segments (the offsets are sums of lengths), and every reader has one lemma from a segment. -/

def Seg (d : List Nat) (k : Nat) (a : List Nat) : Prop := (d.drop k).take a.length = a

theorem Seg.of_eq {d a : List Nat} (h : d = a) : Seg d 0 a := h ▸ List.take_length

theorem Seg.mid (pre a rest : List Nat) : Seg (pre ++ a ++ rest) pre.length a := by
  rw [Seg, List.append_assoc, List.drop_left' rfl, List.take_left' rfl]

theorem seg_append {d : List Nat} {k : Nat} {a b : List Nat} :
    Seg d k (a ++ b) ↔ Seg d k a ∧ Seg d (k + a.length) b := by
  unfold Seg
  rw [List.length_append, List.take_add, ← List.drop_drop]
  constructor
  · intro h
    have hl := congrArg List.length h
    simp only [List.length_append, List.length_take, List.length_drop] at hl
    exact List.append_inj h (by simp only [List.length_take, List.length_drop]; omega)
  · rintro ⟨h1, h2⟩
    rw [h1, h2]

theorem Seg.take {d a : List Nat} {k n : Nat} (h : Seg d k a) (hn : a.length = n) :
    (d.drop k).take n = a := hn ▸ h

theorem Seg.sub {d a : List Nat} {k : Nat} (h : Seg d k a) {m j n : Nat} (hm : m = k + j)
    (hn : n ≤ a.length - j) : (d.drop m).take n = (a.drop j).take n := by
  rw [hm, ← h, ← List.drop_drop, List.drop_take, List.take_take, Nat.min_eq_left (by simpa using hn)]

theorem Seg.trans {d a b : List Nat} {k j : Nat} (h : Seg d k a) (h' : Seg a j b) :
    Seg d (k + j) b := by
  have hl := congrArg List.length h'
  simp only [List.length_take, List.length_drop] at hl
  exact (h.sub rfl (by omega)).trans h'

theorem Seg.u32At_be32 {d : List Nat} {k n : Nat} (h : Seg d k (be32 n)) (hn : n < 4294967296) :
    u32At d k = n := by
  rw [Color.u32At, h.take (be32_length n), ofBe_be32 n hn]

theorem Seg.i32At {d : List Nat} {k : Nat} {v : Int} (h : Seg d k (beI32 v)) (hv : I32 v) :
    i32At d k = v := by
  rw [Color.i32At, h.take (n := 4) rfl, beI32, ofBe_be32 _ (toU32_lt v), ofU32_toU32 v hv.1 hv.2]

theorem Seg.getD {d : List Nat} {k b : Nat} (h : Seg d k [b]) : d.getD k 0 = b := by
  have := congrArg (·[0]?) h
  simpa [List.getD_eq_getElem?_getD] using congrArg (·.getD 0) this

theorem pad4_length_mod (l : List Nat) : (pad4 l).length % 4 = 0 := by
  simp only [pad4, List.length_append, List.length_replicate]; omega

theorem pad4_length_ge (l : List Nat) : l.length ≤ (pad4 l).length := by
  simp only [pad4, List.length_append]; omega

theorem pad4_append (a d : List Nat) (ha : a.length % 4 = 0) : pad4 (a ++ d) = a ++ pad4 d := by
  have e : (4 - (a.length + d.length) % 4) % 4 = (4 - d.length % 4) % 4 := by omega
  simp only [pad4, List.length_append, List.append_assoc, e]

def layoutTags : Nat → List Piece → List Tag
  | _, [] => []
  | off, (sigs, d) :: ps =>
    sigs.map (fun s => { sig := s, off := off, len := d.length }) ++
      layoutTags (off + (pad4 d).length) ps

def layoutData : List Piece → List Nat
  | [] => []
  | (_, d) :: ps => pad4 d ++ layoutData ps

theorem layoutData_length_mod (ps : List Piece) : (layoutData ps).length % 4 = 0 := by
  induction ps with
  | nil => rfl
  | cons p ps ih =>
    obtain ⟨sigs, d⟩ := p
    simp only [layoutData, List.length_append]
    have := pad4_length_mod d
    omega

theorem foldl_appendTags (ps : List Piece) (st : List Tag × List Nat) (h : st.2.length % 4 = 0) :
    ps.foldl (fun st p => appendTags st p.1 p.2) st =
      (st.1 ++ layoutTags st.2.length ps, st.2 ++ layoutData ps) := by
  induction ps generalizing st with
  | nil => simp [layoutTags, layoutData]
  | cons p ps ih =>
    obtain ⟨sigs, d⟩ := p
    rw [List.foldl_cons, ih _ (pad4_length_mod _)]
    simp only [appendTags, pad4_append _ _ h, layoutTags, layoutData, List.length_append,
      List.append_assoc]

theorem layout_eq (ps : List Piece) : layout ps = (layoutTags 0 ps, layoutData ps) :=
  foldl_appendTags ps ([], []) rfl

theorem layoutTags_ok (ps : List Piece) (off : Nat) (hoff : off % 4 = 0)
    (hsig : ∀ p ∈ ps, ∀ s ∈ p.1, s.length = 4) :
    ∀ t ∈ layoutTags off ps, t.sig.length = 4 ∧ t.off % 4 = 0 ∧ off ≤ t.off ∧
      t.off + t.len ≤ off + (layoutData ps).length := by
  induction ps generalizing off with
  | nil => intro t ht; cases ht
  | cons p ps ih =>
    obtain ⟨sigs, d⟩ := p
    intro t ht
    have hp := pad4_length_mod d
    have hg := pad4_length_ge d
    simp only [layoutData, List.length_append]
    rcases List.mem_append.mp ht with ht | ht
    · obtain ⟨s, hs, rfl⟩ := List.mem_map.mp ht
      exact ⟨hsig _ List.mem_cons_self s hs, hoff, Nat.le_refl _,
        Nat.add_le_add_left (Nat.le_trans hg (Nat.le_add_right ..)) off⟩
    · have := ih (off + (pad4 d).length) (by omega) (fun p hp => hsig p (List.mem_cons_of_mem _ hp)) t ht
      omega

theorem layoutTags_mem (ps : List Piece) (off : Nat) (sigs : List (List Nat)) (d : List Nat)
    (h : (sigs, d) ∈ ps) :
    ∃ o, ∀ s ∈ sigs, ({ sig := s, off := o, len := d.length } : Tag) ∈ layoutTags off ps := by
  induction ps generalizing off with
  | nil => cases h
  | cons p ps ih =>
    rcases List.mem_cons.mp h with rfl | h
    · exact ⟨off, fun s hs => List.mem_append_left _ (List.mem_map.mpr ⟨s, hs, rfl⟩)⟩
    · obtain ⟨o, ho⟩ := ih (off + (pad4 p.2).length) h
      exact ⟨o, fun s hs => List.mem_append_right _ (ho s hs)⟩

theorem csSig_length (cs : ColourSpace) : (csSig cs).length = 4 := by cases cs <;> rfl
theorem csSig_rgb : csSig .rgb = ascii "RGB " := rfl
theorem csSig_grey : csSig .grey = ascii "GRAY" := rfl

/-- `63 = 0x43 - 4` (intent), `12 = 0x10 - 4` (colour space signature): the size field is dropped -/
theorem header_facts (cs : ColourSpace) (ri : Intent) :
    ((header cs ri).drop 4).length = 124 ∧ Seg ((header cs ri).drop 4) 63 [ri.toNat] ∧
      Seg ((header cs ri).drop 4) 12 (csSig cs) := by
  cases cs <;> cases ri <;> exact ⟨rfl, rfl, rfl⟩

theorem tagTable_length (tags : List Tag) (h : ∀ t ∈ tags, t.sig.length = 4) :
    (tagTable tags).length = 4 + 12 * tags.length := by
  rw [tagTable, List.length_append, be32_length]
  exact congrArg (4 + ·) (length_flatMap_const _ 12 tags fun t ht => by
    simp only [List.length_append, be32_length, h t ht])

theorem trcData_ok (q : Quant) (tf : TransferFunction) (h1 : tf ≠ .unknown)
    (h2 : tf ≠ .gamma 0 true) : ∃ trc, trcData q tf = .ok trc := by
  cases tf with
  | gamma g inv =>
    simp only [trcData, gammaParam]
    cases inv with
    | false => exact ⟨_, rfl⟩
    | true =>
      have hg : g ≠ 0 := by intro h; subst h; exact h2 rfl
      simp [hg]
  | unknown => exact absurd rfl h1
  | _ => exact ⟨_, rfl⟩

def requiredSigs : ColourSpace → List (List Nat)
  | .rgb => [ascii "desc", ascii "cprt", ascii "wtpt", ascii "chad", ascii "rTRC", ascii "gTRC",
             ascii "bTRC", ascii "rXYZ", ascii "gXYZ", ascii "bXYZ"]
  | _ => [ascii "desc", ascii "cprt", ascii "wtpt", ascii "kTRC"]

/-- the signatures `pieces` writes before and after the optional `cicp` tag -/
def fixedSigs (cs : ColourSpace) : List (List Nat) × List (List Nat) :=
  if cs = .rgb then
    ([ascii "desc", ascii "cprt", ascii "wtpt", ascii "chad"],
     [ascii "rTRC", ascii "gTRC", ascii "bTRC", ascii "rXYZ", ascii "gXYZ", ascii "bXYZ"])
  else ([ascii "desc", ascii "cprt", ascii "wtpt"], [ascii "kTRC"])

theorem pieces_sigs (e : Enc) (q : Quant) (trc : List Nat) :
    (pieces e q trc).flatMap (·.1) =
      (fixedSigs e.cs).1 ++ (cicpPieces e).flatMap (·.1) ++ (fixedSigs e.cs).2 := by
  unfold pieces fixedSigs
  by_cases h : e.cs = .rgb <;> simp [h]

theorem cicp_sigs (e : Enc) : ∀ s ∈ (cicpPieces e).flatMap (·.1), s = ascii "cicp" := by
  unfold cicpPieces
  split <;> simp

/- With the payloads projected away, what is left of `pieces` is a closed list for each colour space:
the two facts about signatures are evaluations. -/
theorem sig_lengths (e : Enc) (q : Quant) (trc : List Nat) :
    ∀ p ∈ pieces e q trc, ∀ s ∈ p.1, s.length = 4 := by
  intro p hp s hs
  have h : s ∈ (pieces e q trc).flatMap (·.1) := List.mem_flatMap.mpr ⟨p, hp, hs⟩
  rw [pieces_sigs, List.mem_append, List.mem_append] at h
  have fixed : ∀ cs, ∀ s ∈ (fixedSigs cs).1 ++ (fixedSigs cs).2, s.length = 4 :=
    fun cs => by cases cs <;> decide
  rcases h with (h | h) | h
  · exact fixed _ s (List.mem_append_left _ h)
  · rw [cicp_sigs e s h]; rfl
  · exact fixed _ s (List.mem_append_right _ h)

theorem required_present (e : Enc) (q : Quant) (trc : List Nat) :
    ∀ s ∈ requiredSigs e.cs, ∃ p ∈ pieces e q trc, s ∈ p.1 := by
  intro s hs
  have fixed : ∀ cs, ∀ s ∈ requiredSigs cs, s ∈ (fixedSigs cs).1 ∨ s ∈ (fixedSigs cs).2 :=
    fun cs => by cases cs <;> decide
  apply List.mem_flatMap.mp
  rw [pieces_sigs, List.mem_append, List.mem_append]
  exact (fixed _ s hs).elim (fun h => .inl (.inl h)) .inr

def profileOf (e : Enc) (tags : List Tag) (data : List Nat) : List Nat :=
  be32 (132 + 12 * tags.length + data.length) ++ synthBody e tags data

theorem synthBody_length (e : Enc) (tags : List Tag) (data : List Nat)
    (h : ∀ t ∈ tags, t.sig.length = 4) :
    (synthBody e tags data).length + 4 = 132 + 12 * tags.length + data.length := by
  simp only [synthBody, List.length_append, (header_facts e.cs e.ri).1, tagTable_length tags h]
  omega

theorem profileOf_length (e : Enc) (tags : List Tag) (data : List Nat)
    (h : ∀ t ∈ tags, t.sig.length = 4) :
    (profileOf e tags data).length = 132 + 12 * tags.length + data.length := by
  rw [profileOf, List.length_append, be32_length, Nat.add_comm, synthBody_length e tags data h]

theorem u32At_profileOf (e : Enc) (tags : List Tag) (data : List Nat)
    (hL : 132 + 12 * tags.length + data.length < 4294967296) :
    u32At (profileOf e tags data) 0 = 132 + 12 * tags.length + data.length :=
  (Seg.mid [] _ _).u32At_be32 hL

theorem synth_eq (e : Enc) (q : Quant) (trc : List Nat) (hcs : e.cs = .rgb ∨ e.cs = .grey)
    (htrc : trcData q e.tf = .ok trc) :
    synth e q = .ok (profileOf e (layoutTags 0 (pieces e q trc)) (layoutData (pieces e q trc))) := by
  have hm : synthTags e q = .ok (layout (pieces e q trc)) := by
    unfold synthTags
    rw [if_neg (by rcases hcs with h | h <;> simp [h]), htrc]
    rcases hcs with h | h <;> rw [h]
  rw [synth, hm, layout_eq]
  simp only []
  rw [synthBody_length e _ _ fun t ht => (layoutTags_ok _ 0 rfl (sig_lengths e q trc) t ht).1]
  rfl

/-- the tags `parseRaw` finds in a profile laid out from `ps`: every signature with its piece's data -/
def expectedRaw (ps : List Piece) : List RawTag :=
  ps.flatMap fun p => p.1.map fun s => { sig := s, data := p.2 }

theorem slices (D : List Nat) (b : Nat) (ps : List Piece) (off k : Nat) (hk : k = off + b)
    (h : Seg D k (layoutData ps)) :
    (layoutTags off ps).map
        (fun t => ({ sig := t.sig, data := (D.drop (t.off + b)).take t.len } : RawTag)) =
      expectedRaw ps := by
  induction ps generalizing off k with
  | nil => rfl
  | cons p ps ih =>
    obtain ⟨sigs, d⟩ := p
    obtain ⟨h1, h2⟩ := seg_append.mp h
    simp only [layoutTags, expectedRaw, List.map_append, List.map_map, List.flatMap_cons,
      Function.comp_def]
    -- `pad4 d` is `d` and then zeros
    rw [← hk, (seg_append.mp h1).1.take rfl, ih _ _ (by omega) h2]
    rfl

theorem readTags_entries (d : List Nat) (b size : Nat) (hsize : size < 4294967296) (ts : List Tag)
    (pos : Nat) (hs : Seg d pos (ts.flatMap fun t => t.sig ++ be32 (t.off + b) ++ be32 t.len))
    (h : ∀ t ∈ ts, t.sig.length = 4 ∧ t.off + b + t.len ≤ size) :
    readTags d size ts.length pos =
      .ok (ts.map fun t => { sig := t.sig, data := (d.drop (t.off + b)).take t.len }) := by
  induction ts generalizing pos with
  | nil => rfl
  | cons t ts ih =>
    obtain ⟨⟨h1, h2⟩, h'⟩ := List.forall_mem_cons.mp h
    simp only [List.flatMap_cons, seg_append, List.length_append, h1, be32_length,
      Nat.reduceAdd] at hs
    obtain ⟨⟨⟨s1, s2⟩, s3⟩, s4⟩ := hs
    rw [List.length_cons, readTags, s2.u32At_be32 (by omega), s3.u32At_be32 (by omega),
      if_neg (by omega), ih (pos + 12) s4 h', s1.take h1]
    rfl

theorem intent_roundtrip (ri : Intent) : Intent.ofNat? ri.toNat = some ri := by
  cases ri <;> rfl

theorem parseRaw_layout (e : Enc) (ps : List Piece) (hsig : ∀ p ∈ ps, ∀ s ∈ p.1, s.length = 4)
    (hL : 132 + 12 * (layoutTags 0 ps).length + (layoutData ps).length < 4294967296) :
    parseRaw (profileOf e (layoutTags 0 ps) (layoutData ps)) =
      .ok { cs := csSig e.cs, ri := e.ri, tags := expectedRaw ps } := by
  have hok := layoutTags_ok ps 0 rfl hsig
  have hsig' := fun t ht => (hok t ht).1
  obtain ⟨hH, hri, hcs⟩ := header_facts e.cs e.ri
  have hlen := profileOf_length e _ (layoutData ps) hsig'
  have hs : Seg (profileOf e (layoutTags 0 ps) (layoutData ps)) 0 _ :=
    .of_eq (by rw [profileOf, synthBody])
  simp only [seg_append, List.length_append, be32_length, hH, tagTable_length _ hsig',
    Nat.zero_add, Nat.reduceAdd] at hs
  obtain ⟨s0, ⟨sH, sT⟩, sD⟩ := hs
  obtain ⟨sN, sE⟩ := seg_append.mp sT
  have hread := readTags_entries _ _ _ hL _ 0x84 sE fun t ht =>
    ⟨hsig' t ht, by have := hok t ht; omega⟩
  rw [slices _ _ ps 0 _ (by omega) sD] at hread
  unfold parseRaw
  rw [if_neg (by omega), s0.u32At_be32 hL, if_neg (by simp [hlen]), (sH.trans hri).getD,
    intent_roundtrip]
  simp only []
  rw [if_neg (by omega), sN.u32At_be32 (by omega), if_neg (by omega), hread,
    (sH.trans hcs).take (csSig_length e.cs)]
  rfl

theorem lit_para : ascii "para" = [112, 97, 114, 97] := by decide
theorem lit_curv : ascii "curv" = [99, 117, 114, 118] := by decide
theorem lit_cicp : ascii "cicp" = [99, 105, 99, 112] := by decide
theorem lit_desc : ascii "desc" = [100, 101, 115, 99] := by decide
theorem lit_cprt : ascii "cprt" = [99, 112, 114, 116] := by decide
theorem lit_wtpt : ascii "wtpt" = [119, 116, 112, 116] := by decide
theorem lit_chad : ascii "chad" = [99, 104, 97, 100] := by decide
theorem lit_rTRC : ascii "rTRC" = [114, 84, 82, 67] := by decide
theorem lit_gTRC : ascii "gTRC" = [103, 84, 82, 67] := by decide
theorem lit_bTRC : ascii "bTRC" = [98, 84, 82, 67] := by decide
theorem lit_kTRC : ascii "kTRC" = [107, 84, 82, 67] := by decide
theorem lit_rXYZ : ascii "rXYZ" = [114, 88, 89, 90] := by decide
theorem lit_gXYZ : ascii "gXYZ" = [103, 88, 89, 90] := by decide
theorem lit_bXYZ : ascii "bXYZ" = [98, 88, 89, 90] := by decide
theorem lit_TRC : ascii "TRC" = [84, 82, 67] := by decide
theorem lit_XYZ : ascii "XYZ" = [88, 89, 90] := by decide
theorem lit_RGB_ : ascii "RGB " = [82, 71, 66, 32] := by decide
theorem lit_GRAY : ascii "GRAY" = [71, 82, 65, 89] := by decide
theorem lit_CMYK : ascii "CMYK" = [67, 77, 89, 75] := by decide

theorem i32s_flatMap (l : List Int) (pre : List Nat) (h : ∀ v ∈ l, I32 v) :
    i32s (pre ++ l.flatMap beI32) pre.length l.length = l := by
  unfold i32s
  induction l generalizing pre with
  | nil => rfl
  | cons v l ih =>
    rw [List.length_cons, List.range_succ_eq_map, List.map_cons, List.map_map]
    congr 1
    · have := (Seg.mid pre (beI32 v) (l.flatMap beI32)).i32At (h v (by simp))
      simpa [List.flatMap_cons, List.append_assoc] using this
    · have hih := ih (pre ++ beI32 v) (fun w hw => h w (by simp [hw]))
      have hl : (pre ++ beI32 v).length = pre.length + 4 := by simp [beI32, be32_length]
      rw [hl] at hih
      refine Eq.trans ?_ hih
      apply List.map_congr_left
      intro k _
      simp only [Function.comp, List.flatMap_cons, List.append_assoc]
      congr 1
      omega

/-- The tags that hold s15Fixed16 numbers (`XYZ `: white point and colorants, `sf32`: `chad`) are a
type signature, four zero bytes and the numbers; this is all the parser reads of them. -/
theorem s15Tag_reads (ty : List Nat) (v : List Int) (hty : ty.length = 4) (hr : ∀ x ∈ v, I32 x) :
    (ty ++ [0, 0, 0, 0] ++ v.flatMap beI32).take 4 = ty ∧
    (ty ++ [0, 0, 0, 0] ++ v.flatMap beI32).length = 8 + 4 * v.length ∧
    i32s (ty ++ [0, 0, 0, 0] ++ v.flatMap beI32) 8 v.length = v := by
  refine ⟨by rw [List.append_assoc, List.take_left' hty], ?_, ?_⟩
  · simp only [List.length_append, hty, length_flatMap_const beI32 4 v fun _ _ => rfl,
      List.length_cons, List.length_nil]
  · have := i32s_flatMap v (ty ++ [0, 0, 0, 0]) hr
    rwa [List.length_append, hty] at this

theorem not_unsupported :
    ∀ s ∈ [ascii "desc", ascii "cprt", ascii "cicp"], unsupportedSigs.contains s = false := by
  decide +kernel

/-- what the read-back needs of the quantised numbers `synth` is given -/
structure Quant.WF (q : Quant) : Prop where
  chadLen : q.chad.length = 9
  chadRange : ∀ v ∈ q.chad, I32 v
  wtpt : ∃ a b c, q.wtpt = [a, b, c] ∧ I32 a ∧ I32 b ∧ I32 c
  rXYZ : ∃ a b c, q.rXYZ = [a, b, c] ∧ I32 a ∧ I32 b ∧ I32 c
  gXYZ : ∃ a b c, q.gXYZ = [a, b, c] ∧ I32 a ∧ I32 b ∧ I32 c
  bXYZ : ∃ a b c, q.bXYZ = [a, b, c] ∧ I32 a ∧ I32 b ∧ I32 c

/-- the TRC the parser ends up with: the `cicp` override wins when the tag is written -/
def recognisedTrc (e : Enc) (t : Trc) : Trc :=
  if cicpPieces e = [] then t else if e.tf = .pq then .pq else .hlg

section scan

/-! The hypotheses of the `tagStep_*` equations are in the form the callers have them (`Quant.WF`, the
`lit_*` equations), so that `scan_pieces` walks the tag list with `simp only`. -/

variable {f : FloatOps} {pq hlg : List Nat} {i : Info}

theorem tagStep_text {sig data : List Nat} (hsig : sig = ascii "desc" ∨ sig = ascii "cprt") :
    tagStep f pq hlg i { sig := sig, data := data } = .skip := by
  -- `↓`: while the signature is still written the way `not_unsupported` speaks of it
  rcases hsig with rfl | rfl <;>
    simp [tagStep, ↓not_unsupported, lit_desc, lit_cprt, lit_TRC, lit_XYZ, lit_chad, lit_wtpt,
      lit_cicp]

theorem xyzTag_reads {v : List Int} (h : ∃ a b c, v = [a, b, c] ∧ I32 a ∧ I32 b ∧ I32 c) :
    (xyzTag v).take 4 = ascii "XYZ " ∧ (xyzTag v).length = 20 ∧ i32s (xyzTag v) 8 3 = v := by
  obtain ⟨a, b, c, rfl, ha, hb, hc⟩ := h
  exact s15Tag_reads (ascii "XYZ ") [a, b, c] rfl (by simp [ha, hb, hc])

theorem tagStep_wtpt {v : List Int} (h : ∃ a b c, v = [a, b, c] ∧ I32 a ∧ I32 b ∧ I32 c)
    (hv : f.validXyz v = true) :
    tagStep f pq hlg i { sig := ascii "wtpt", data := xyzTag v } = .set { i with wtpt := v } := by
  obtain ⟨h1, h2, h3⟩ := xyzTag_reads h
  simp [tagStep, h1, h2, h3, hv, lit_wtpt, lit_TRC, lit_XYZ, lit_chad]

theorem tagStep_xyz {sig : List Nat} {ch idx : Nat} (hs : sig = [ch, 88, 89, 90])
    (hch : chIndex ch false = some idx) {v : List Int}
    (h : ∃ a b c, v = [a, b, c] ∧ I32 a ∧ I32 b ∧ I32 c) (hv : f.validXyz v = true) :
    tagStep f pq hlg i { sig := sig, data := xyzTag v } =
      .set { i with xyzs := i.xyzs.set idx (some v) } := by
  obtain ⟨h1, h2, h3⟩ := xyzTag_reads h
  simp [tagStep, hs, h1, h2, h3, hv, hch, lit_TRC, lit_XYZ]

theorem tagStep_trc {sig : List Nat} {ch idx : Nat} (hs : sig = [ch, 84, 82, 67])
    (hch : chIndex ch true = some idx) {d : List Nat} {t : Trc}
    (hd : 4 ≤ d.length) (ht : trcOfData pq hlg d = some (.ok t)) :
    tagStep f pq hlg i { sig := sig, data := d } = .set { i with trcs := i.trcs.set idx (some t) } := by
  simp [tagStep, hs, Nat.not_lt.mpr hd, ht, hch, lit_TRC]

theorem tagStep_chad {q : Quant} (wf : q.WF) (hv : f.validChad q.chad = true) :
    tagStep f pq hlg i { sig := ascii "chad", data := chadTag q } = .set { i with chad := some q.chad } := by
  have e : chadTag q = ascii "sf32" ++ [0, 0, 0, 0] ++ q.chad.flatMap beI32 := by
    rw [chadTag, List.take_of_length_le (Nat.le_of_eq wf.chadLen)]
  have h := s15Tag_reads (ascii "sf32") q.chad rfl wf.chadRange
  rw [wf.chadLen, ← e] at h
  simp [tagStep, h, hv, lit_chad, lit_TRC, lit_XYZ]

theorem tagStep_cicp {c : List Nat} (hc : c.length = 4) :
    tagStep f pq hlg i { sig := ascii "cicp", data := ascii "cicp" ++ [0, 0, 0, 0] ++ c } =
      .set { i with cicp := some c } := by
  simp [tagStep, ↓not_unsupported, hc, List.take_of_length_le, lit_cicp, lit_TRC, lit_XYZ, lit_chad, lit_wtpt]

theorem expectedRaw_sig (s : List Nat) (sigs : List (List Nat)) (d : List Nat) (ps : List Piece) :
    expectedRaw ((s :: sigs, d) :: ps) = { sig := s, data := d } :: expectedRaw ((sigs, d) :: ps) := rfl

theorem expectedRaw_done (d : List Nat) (ps : List Piece) : expectedRaw (([], d) :: ps) = expectedRaw ps := rfl

def cicpPayload (e : Enc) : Option (List Nat) :=
  (cicpPieces e).head?.map fun p => (p.2.drop 8).take 4

/-- 16, 18: the second payload byte, the one the parser's override looks at -/
theorem cicp_cases (e : Enc) :
    (cicpPieces e = [] ∧ ∀ t, recognisedTrc e t = t) ∨
    ∃ p k, (k = 16 ∧ (∀ t, recognisedTrc e t = .pq) ∨ k = 18 ∧ ∀ t, recognisedTrc e t = .hlg) ∧
      cicpPieces e = [([ascii "cicp"], ascii "cicp" ++ [0, 0, 0, 0] ++ [p, k, 0, 1])] := by
  obtain ⟨cs, wp, prim, tf, ri⟩ := e
  cases tf with
  | pq => cases prim with
    | custom r g b => exact .inl ⟨rfl, fun _ => rfl⟩
    | _ => exact .inr ⟨_, 16, .inl ⟨rfl, fun _ => rfl⟩, rfl⟩
  | hlg => cases prim with
    | custom r g b => exact .inl ⟨rfl, fun _ => rfl⟩
    | _ => exact .inr ⟨_, 18, .inr ⟨rfl, fun _ => rfl⟩, rfl⟩
  | _ => exact .inl ⟨rfl, fun _ => rfl⟩

theorem scan_cicp (e : Enc) (hi : i.cicp = none) (ps : List Piece) :
    scanTags f pq hlg i (expectedRaw (cicpPieces e ++ ps)) =
      scanTags f pq hlg { i with cicp := cicpPayload e } (expectedRaw ps) := by
  rcases cicp_cases e with ⟨h, -⟩ | ⟨p, k, -, h⟩
  · -- no tag: `{ i with cicp := i.cicp }` is `i`
    simp [cicpPayload, h, ← hi]
  · rw [cicpPayload, h]
    simp only [List.cons_append, List.nil_append, expectedRaw_sig, expectedRaw_done, scanTags,
      tagStep_cicp (c := [p, k, 0, 1]) rfl]
    -- left: `cicpPayload` on this piece, which computes
    rfl

theorem scan_pieces (e : Enc) {q : Quant} {trc : List Nat} {t : Trc} (wf : q.WF)
    (hd50 : f.validXyz d50Xyz = true) (hchad : f.validChad q.chad = true)
    (hw : f.validXyz q.wtpt = true) (hr : f.validXyz q.rXYZ = true)
    (hg : f.validXyz q.gXYZ = true) (hb : f.validXyz q.bXYZ = true)
    (hd : 4 ≤ trc.length) (ht : trcOfData pq hlg trc = some (.ok t)) :
    scanTags f pq hlg {} (expectedRaw (pieces e q trc)) = .ok
      (if e.cs = .rgb then
        { chad := some q.chad, wtpt := d50Xyz, trcs := [some t, some t, some t, none],
          xyzs := [some q.rXYZ, some q.gXYZ, some q.bXYZ], cicp := cicpPayload e }
      else { wtpt := q.wtpt, trcs := [none, none, none, some t], cicp := cicpPayload e }) := by
  have d50 : ∃ a b c, d50Xyz = [a, b, c] ∧ I32 a ∧ I32 b ∧ I32 c := ⟨_, _, _, rfl, by unfold I32; decide⟩
  -- one pass over the piece list: `expectedRaw_sig` exposes the next tag, `scanTags` takes the step that the
  -- `tagStep_*` equation names
  by_cases h : e.cs = .rgb <;>
    simp only [pieces, h, ↓reduceIte, List.cons_append, List.nil_append, expectedRaw_sig, expectedRaw_done,
      scanTags, tagStep_text (.inl rfl), tagStep_text (.inr rfl), tagStep_wtpt d50 hd50, tagStep_wtpt wf.wtpt hw,
      tagStep_chad wf hchad, scan_cicp, tagStep_trc lit_rTRC rfl hd ht, tagStep_trc lit_gTRC rfl hd ht,
      tagStep_trc lit_bTRC rfl hd ht, tagStep_trc lit_kTRC rfl hd ht, tagStep_xyz lit_rXYZ rfl wf.rXYZ hr,
      tagStep_xyz lit_gXYZ rfl wf.gXYZ hg, tagStep_xyz lit_bXYZ rfl wf.bXYZ hb] <;>
    rfl

end scan

/-! Recognition of named white points / primaries in exact arithmetic.
`IccProfileInfo::{white_point, primaries}` divide by the determinant of `chad` and by 65536
throughout; both cancel in the chromaticities, so the comparisons `|x - known| < 1e-4` can be
stated on integers (the adjugate, not the inverse). The named constants are the decimal values of
`consts.rs`; the `f32` constants of the code differ from them by less than 3e-8. -/

def gi (m : List Int) (i : Nat) : Int := m.getD i 0

def adj (m : List Int) : List Int :=
  [gi m 4 * gi m 8 - gi m 5 * gi m 7, gi m 7 * gi m 2 - gi m 8 * gi m 1, gi m 1 * gi m 5 - gi m 2 * gi m 4,
   gi m 5 * gi m 6 - gi m 3 * gi m 8, gi m 8 * gi m 0 - gi m 6 * gi m 2, gi m 2 * gi m 3 - gi m 0 * gi m 5,
   gi m 3 * gi m 7 - gi m 4 * gi m 6, gi m 6 * gi m 1 - gi m 7 * gi m 0, gi m 0 * gi m 4 - gi m 1 * gi m 3]

def det (m : List Int) : Int :=
  gi m 0 * (gi m 4 * gi m 8 - gi m 5 * gi m 7) + gi m 1 * (gi m 5 * gi m 6 - gi m 3 * gi m 8)
    + gi m 2 * (gi m 3 * gi m 7 - gi m 4 * gi m 6)

def mulVec (a v : List Int) : List Int :=
  [gi a 0 * gi v 0 + gi a 1 * gi v 1 + gi a 2 * gi v 2, gi a 3 * gi v 0 + gi a 4 * gi v 1 + gi a 5 * gi v 2,
   gi a 6 * gi v 0 + gi a 7 * gi v 1 + gi a 8 * gi v 2]

/-- `|num/den - p/q| < 1e-4` -/
def nearQ (num den p q : Int) : Bool := decide ((num * q - p * den).natAbs * 10000 < (den * q).natAbs)

/-- `(v * 1e6 + 0.5) as i32` for `v = num/den` -/
def microQ (num den : Int) : Int := (2 * 1000000 * num * den + den * den).tdiv (2 * den * den)

def xyNear (v : List Int) (px qx py qy : Int) : Bool :=
  let s := gi v 0 + gi v 1 + gi v 2
  nearQ (gi v 0) s px qx && nearQ (gi v 1) s py qy

def ratWhitePoint (chad wtpt : List Int) : WhitePoint :=
  let ill := mulVec (adj chad) wtpt
  let s := gi ill 0 + gi ill 1 + gi ill 2
  if xyNear ill 3127 10000 329 1000 then .d65
  else if xyNear ill 314 1000 351 1000 then .dci
  else if xyNear ill 1 3 1 3 then .e
  else .custom ⟨microQ (gi ill 0) s, microQ (gi ill 1) s⟩

def ratPrimaries (chad xr xg xb : List Int) : Primaries :=
  let a := adj chad
  let col (c : List Int) : List Int := mulVec a c
  let cols := [col xr, col xg, col xb]
  let close (k : List (Int × Int × Int × Int)) : Bool :=
    (List.range 3).all fun i =>
      let (px, qx, py, qy) := k.getD i (0, 1, 0, 1)
      xyNear (cols.getD i []) px qx py qy
  if close [(639998686, 1000000000, 330010138, 1000000000), (300003784, 1000000000, 600003357, 1000000000),
            (150002046, 1000000000, 59997204, 1000000000)] then .srgb
  else if close [(680, 1000, 320, 1000), (265, 1000, 690, 1000), (150, 1000, 60, 1000)] then .p3
  else if close [(708, 1000, 292, 1000), (170, 1000, 797, 1000), (131, 1000, 46, 1000)] then .bt2100
  else
    let c (i : Nat) : Customxy :=
      let v := cols.getD i []
      let s := gi v 0 + gi v 1 + gi v 2
      ⟨microQ (gi v 0) s, microQ (gi v 1) s⟩
    .custom (c 0) (c 1) (c 2)

/-- the parser's float part in exact arithmetic; the `validate_*` checks become "no division by
zero" -/
def ratOps : FloatOps where
  validXyz v := decide (gi v 0 + gi v 1 + gi v 2 ≠ 0)
  validChad m := decide (det m ≠ 0)
  whitePoint := ratWhitePoint
  primaries := ratPrimaries

/-- the quantised numbers `colour_encoding_to_icc` writes for the named white points and
primaries (read off profiles the implementation synthesised; no theorem, `#guard` or check compares
them with `quantOf`) -/
def namedChad : WhitePoint → List Int
  | .d65 => [68672, 1501, -3286, 1938, 64912, -1117, -605, 987, 49281]
  | .e => [65389, -272, -1924, -639, 66736, -559, -485, 881, 53686]
  | .dci => [70372, 2542, -2414, 3641, 63175, -938, -280, 346, 56565]
  | .custom _ => identityChad

def namedWtpt : WhitePoint → List Int
  | .d65 => [62289, 65536, 71372]
  | .e => [65536, 65536, 65536]
  | .dci => [58628, 65536, 62549]
  | .custom _ => d50Xyz

def namedColorants : WhitePoint → Primaries → List (List Int)
  | .d65, .srgb => [[28575, 14581, 912], [25238, 46983, 6363], [9378, 3973, 46806]]
  | .d65, .bt2100 => [[44136, 18287, -126], [10857, 44259, 1965], [8199, 2990, 52243]]
  | .d65, .p3 => [[33758, 15806, -68], [19134, 45366, 2745], [10299, 4364, 51405]]
  | .e, .srgb => [[32378, 16769, 1234], [21770, 44979, 6500], [9043, 3789, 46346]]
  | .e, .bt2100 => [[46053, 18967, -86], [8900, 43585, 1964], [8239, 2985, 52204]]
  | .e, .p3 => [[36815, 17356, -39], [16358, 43983, 2777], [10018, 4197, 51345]]
  | .dci, .srgb => [[26151, 13217, 931], [27990, 48623, 7223], [9050, 3696, 45927]]
  | .dci, .bt2100 => [[42681, 17746, -81], [12248, 44855, 1844], [8262, 2935, 52319]]
  | .dci, .p3 => [[31860, 14856, -51], [21223, 46552, 2834], [10108, 4129, 51300]]
  | _, _ => [[0, 0, 0], [0, 0, 0], [0, 0, 0]]

def isNamedWp : WhitePoint → Bool | .custom _ => false | _ => true
def isNamedPrim : Primaries → Bool | .custom .. => false | _ => true

def namedQuant (e : Enc) (pqLut hlgLut : List Nat) : Quant :=
  { chad := namedChad e.wp, wtpt := namedWtpt e.wp,
    rXYZ := (namedColorants e.wp e.prim).getD 0 [], gXYZ := (namedColorants e.wp e.prim).getD 1 [],
    bXYZ := (namedColorants e.wp e.prim).getD 2 [], pqLut, hlgLut }

def isNamedTf : TransferFunction → Bool
  | .bt709 | .linear | .srgb | .dci | .pq | .hlg => true
  | _ => false

instance (v : Int) : Decidable (I32 v) := inferInstanceAs (Decidable (_ ∧ _))

theorem namedQuant_wf (e : Enc) (pqLut hlgLut : List Nat) : (namedQuant e pqLut hlgLut).WF := by
  obtain ⟨cs, wp, prim, tf, ri⟩ := e
  constructor
  · cases wp <;> rfl
  -- `decide` refuses the goal for the free `pqLut`, which the evaluation never meets
  · cases wp <;> exact of_decide_eq_true rfl
  · cases wp <;> exact ⟨_, _, _, rfl, by decide⟩
  all_goals cases wp <;> cases prim <;> exact ⟨_, _, _, rfl, by decide⟩

/-- The first five conjuncts are what `C19_parse_synth_enum_fields` asks for, the last three what it
answers with; nine closed evaluations. -/
theorem named_reads (e : Enc) (pq hlg : List Nat) (hwp : isNamedWp e.wp = true)
    (hprim : isNamedPrim e.prim = true) :
    ratOps.validChad (namedQuant e pq hlg).chad = true ∧
    ratOps.validXyz (namedQuant e pq hlg).wtpt = true ∧
    ratOps.validXyz (namedQuant e pq hlg).rXYZ = true ∧
    ratOps.validXyz (namedQuant e pq hlg).gXYZ = true ∧
    ratOps.validXyz (namedQuant e pq hlg).bXYZ = true ∧
    ratOps.whitePoint (namedQuant e pq hlg).chad d50Xyz = e.wp ∧
    ratOps.whitePoint identityChad (namedQuant e pq hlg).wtpt = e.wp ∧
    ratOps.primaries (namedQuant e pq hlg).chad (namedQuant e pq hlg).rXYZ (namedQuant e pq hlg).gXYZ
      (namedQuant e pq hlg).bXYZ = e.prim := by
  obtain ⟨cs, wp, prim, tf, ri⟩ := e
  -- to `namedChad wp` etc.: closed terms once `wp` and `prim` are constructors
  simp only [namedQuant]
  cases wp with
  | custom xy => cases hwp
  | _ => cases prim with
    | custom r g b => cases hprim
    | _ => decide

theorem trc_bt709 (pq hlg : List Nat) :
    trcOfData pq hlg (para 3 bt709Params) = some (.ok .bt709) := by rfl

theorem trc_srgb (pq hlg : List Nat) :
    trcOfData pq hlg (para 3 srgbParams) = some (.ok .srgb) := by rfl

theorem trc_linear (pq hlg : List Nat) :
    trcOfData pq hlg (ascii "curv" ++ [0, 0, 0, 0, 0, 0, 0, 0]) = some (.ok .linear) := by rfl

theorem trc_dci (pq hlg : List Nat) :
    trcOfData pq hlg (para 0 [dciGamma]) = some (.ok .dci) := by rfl

theorem trc_lut (pq hlg lut : List Nat) (hlen : lut.length = 4096) :
    trcOfData pq hlg (curvLut lut) =
      if lut.flatMap be16 = pq.flatMap be16 then some (.ok .pq)
      else if lut.flatMap be16 = hlg.flatMap be16 then some (.ok .hlg) else none := by
  have hl := length_flatMap_const be16 2 lut fun _ _ => rfl
  rw [curvLut, hlen]
  -- of the table's bytes only their number, `2 * 4096`, enters the parser's decisions
  generalize lut.flatMap be16 = body at hl ⊢
  simp [trcOfData, be32, lit_curv, lit_para, hl, hlen]

theorem trc_named (q : Quant) (hpq : q.pqLut.length = 4096) (hhlg : q.hlgLut.length = 4096)
    (hne : q.hlgLut.flatMap be16 ≠ q.pqLut.flatMap be16) (tf : TransferFunction)
    (htf : isNamedTf tf = true) :
    ∃ trc t, trcData q tf = .ok trc ∧ 4 ≤ trc.length ∧
      trcOfData q.pqLut q.hlgLut trc = some (.ok t) ∧ t.toTf = tf := by
  cases tf with
  | gamma | unknown => cases htf
  | bt709 => exact ⟨_, _, rfl, by decide, trc_bt709 _ _, rfl⟩
  | linear => exact ⟨_, _, rfl, by decide, trc_linear _ _, rfl⟩
  | srgb => exact ⟨_, _, rfl, by decide, trc_srgb _ _, rfl⟩
  | dci => exact ⟨_, _, rfl, by decide, trc_dci _ _, rfl⟩
  | pq =>
    exact ⟨_, .pq, rfl, by simp [curvLut, lit_curv, be32], by rw [trc_lut _ _ _ hpq, if_pos rfl], rfl⟩
  | hlg =>
    exact ⟨_, .hlg, rfl, by simp [curvLut, lit_curv, be32],
      by rw [trc_lut _ _ _ hhlg, if_neg hne, if_pos rfl], rfl⟩

theorem recognisedTrc_toTf (e : Enc) (t : Trc) (h : t.toTf = e.tf) :
    (recognisedTrc e t).toTf = e.tf := by
  unfold recognisedTrc cicpPieces
  -- by the arms of `cicpPieces`: a tag is written only when `e.tf` is `pq` or `hlg`
  split
  · next htf _ => rw [if_neg (List.cons_ne_nil _ _), if_pos htf, htf]; rfl
  · next htf _ => rw [if_neg (List.cons_ne_nil _ _), if_neg (by rw [htf]; decide), htf]; rfl
  · rw [if_pos rfl, h]

theorem trc_gamma (pq hlg : List Nat) (G : Nat) (hG : G < 2147483648) :
    trcOfData pq hlg (para 0 [G]) = (Trc.fromGamma (G : Int)).map .ok := by
  -- the parameter as the parser reads it: the last four of the sixteen bytes
  have hi : ofU32 (ofBe ((be32 G).take 4)) = G := by
    rw [List.take_of_length_le (Nat.le_of_eq (be32_length G)), ofBe_be32 G (by omega), ofU32, if_pos hG]
  simp [trcOfData, para, lit_para, u16At, i32At, be16, ofBe, be32_length, hi]

/-- "`tf` has decode exponent within 1e-4 (relative) of `1e7 / g`", on integers: linear is
exponent 1 (`1e7 - g ≤ 1e-4 g`), DCI is 2.6 (`|26 g − 1e8| ≤ 1e4`, the absolute value written as two
truncated subtractions), `gamma g' false` is `1e7 / g'` (`|g' g − 1e14| ≤ 1e10`), and an inverted
gamma must be `g` itself. -/
def closeToInvGamma (g : Nat) : TransferFunction → Prop
  | .linear => (10000000 - g) * 10000 ≤ g ∧ g ≤ 10000000
  | .dci => 10000 * (26 * g - 100000000) ≤ 100000000 ∧ 10000 * (100000000 - 26 * g) ≤ 100000000
  | .gamma g' false => g' * g ≤ 100000000000000 + 10000000000 ∧
      100000000000000 ≤ g' * g + 10000000000
  | .gamma g' true => g' = g
  | _ => False

/-- `Nat.div_eq_iff` with a strict upper bound, so that `omega` meets no truncated subtraction. -/
theorem div_eq_iff_lt {a d q : Nat} (hd : 0 < d) : a / d = q ↔ q * d ≤ a ∧ a < q * d + d := by
  rw [Nat.div_eq_iff hd]
  omega

/-- For `G = round(65536e7 / g)`, i.e. `G * g ≤ 65536e7 + g/2 < G * g + g`: `Trc.toTf` rounds
`G * 1e7 / 65536` to `g1`, and that sandwich times `g` puts `g1 * g` within `1e10` of `1e14`; unless
`g1` does not fit `u32` (`G ≥ 28147497 > g`), where it rounds `65536e7 / G`, which is `g` again. -/
theorem toTf_invGammaParam {g G : Nat} (h1 : 1221 ≤ g) (h2 : g ≤ 10000000)
    (hG : (65536 * 10000000 + g / 2) / g = G) :
    closeToInvGamma g (Trc.parametricGamma G).toTf := by
  obtain ⟨hA, hB⟩ := (div_eq_iff_lt (by omega)).mp hG
  simp only [Trc.toTf]
  split
  · generalize hg1 : (G * 10000000 + 32768) / 65536 = g1
    obtain ⟨hC, hD⟩ := (div_eq_iff_lt (by decide)).mp hg1
    simp only [closeToInvGamma]
    have e1 := Nat.mul_le_mul_right g hC
    have e2 := Nat.mul_le_mul_right g (Nat.le_of_lt hD)
    -- the products as `omega` atoms `g1 * g` and `G * g`
    simp only [Nat.add_mul, Nat.mul_right_comm _ _ g] at e1 e2
    omega
  · simp only [closeToInvGamma]
    have : (65536 * 10000000 + G / 2) / G = g := by
      rw [div_eq_iff_lt (by omega), Nat.mul_comm g G]
      omega
    rw [this]
    exact Nat.mod_eq_of_lt (by omega)

/-- The parameter written for an inverted gamma `g` is `G = round(65536e7 / g)`, so
`65536 ≤ G ≤ 65536e7/1221 < 536740378`, and `from_gamma` answers linear (`G = 65536`, `g` within 77
of `1e7`), DCI (`G = dciGamma = 170394`) or a parametric gamma. -/
theorem invGammaParam_recognised {g G : Nat} (h1 : 1221 ≤ g) (h2 : g ≤ 10000000)
    (hG : (65536 * 10000000 + g / 2) / g = G) :
    gammaParam g true = .ok G ∧ 65536 ≤ G ∧ G < 536740378 ∧
      ∃ t, Trc.fromGamma (G : Int) = some t ∧ closeToInvGamma g t.toTf := by
  have hg0 : 0 < g := by omega
  have hlo : 65536 ≤ G := by rw [← hG, Nat.le_div_iff_mul_le hg0]; omega
  have hhi : G < 536740378 := by rw [← hG, Nat.div_lt_iff_lt_mul hg0]; omega
  refine ⟨?_, hlo, hhi, ?_⟩
  · rw [gammaParam, if_pos rfl, if_neg (by omega), hG, Nat.mod_eq_of_lt (by omega)]
  obtain ⟨hA, hB⟩ := (div_eq_iff_lt hg0).mp hG
  unfold Trc.fromGamma dciGamma
  rw [if_neg (by omega), Int.toNat_natCast]
  split
  · obtain rfl : G = 65536 := by omega
    refine ⟨_, rfl, ?_⟩
    simp only [Trc.toTf, closeToInvGamma]
    omega
  split
  · obtain rfl : G = 170394 := by omega
    refine ⟨_, rfl, ?_⟩
    simp only [Trc.toTf, closeToInvGamma]
    omega
  · exact ⟨_, rfl, toTf_invGammaParam h1 h2 hG⟩

theorem isEquivalent_refl (d : Described) : isEquivalent d d = true := by
  cases d with
  | enum e => simp [isEquivalent]
  | icc cs p => simp [isEquivalent]

end Jxl.Color
