import JxlModel.Proofs.Dct
/-!
# The forward recursion of `generic/dct.rs` over exact reals equals the forward definition
`F N x n = (wt n / N) Σ_{j<N} x j cos(n θ_j)`, `θ_j = (2j+1)π/(2N)`.

The inverse recursion splits the sum over frequencies at a fixed sample; here the frequency is fixed
and the sum over the samples is folded onto its first half (`θ_{N-1-j} = π - θ_j`). Even frequencies
see the sums `x_j + x_{N-1-j}`, odd ones the differences divided by `2cos θ_j`, by the same
product formula `two_cos_mul_cos_odd`.
-/
open Finset

namespace Jxl.Dct

noncomputable def F (N : ℕ) (x : ℕ → ℝ) (n : ℕ) : ℝ :=
  wt n / N * ∑ j ∈ range N, x j * Real.cos (n * theta N j)

theorem fdctDef_eq_F (N : ℕ) (x : ℕ → ℝ) (n : ℕ) : fdctDef N x n = F N x n := by
  unfold fdctDef F
  simp only [sumRange_eq, cosPi_theta, s_mul, s_div, s_sqrt2, ofNatS_real]
  unfold wt
  split <;> ring

theorem F_one (x : ℕ → ℝ) : F 1 x 0 = x 0 := by
  rw [F, Finset.sum_range_one, wt_zero, Nat.cast_zero, zero_mul, Real.cos_zero, Nat.cast_one,
    div_one, one_mul, mul_one]

theorem F_congr {N : ℕ} {x x' : ℕ → ℝ} (n : ℕ) (h : ∀ j < N, x j = x' j) : F N x n = F N x' n := by
  unfold F
  congr 1
  exact Finset.sum_congr rfl fun j hj => by rw [h j (Finset.mem_range.mp hj)]

theorem F_tab (N : ℕ) (x : ℕ → ℝ) (n : ℕ) : F N (rd (tab N x)) n = F N x n :=
  F_congr n fun _ hj => rd_tab _ _ _ hj

theorem sum_fold (m : ℕ) (f : ℕ → ℝ) :
    ∑ j ∈ range (2 * m), f j = ∑ j ∈ range m, (f j + f (2 * m - 1 - j)) := by
  rw [two_mul, Finset.sum_range_add, Finset.sum_add_distrib,
    ← Finset.sum_range_reflect (fun j => f (m + j)) m]
  congr 1
  refine Finset.sum_congr rfl fun j hj => ?_
  have : j < m := Finset.mem_range.mp hj
  congr 1
  omega

/-- first half of the butterfly: `input0` of the model's `fstep` as a function of the samples -/
noncomputable def fin0 (N : ℕ) (x : ℕ → ℝ) (i : ℕ) : ℝ := (x i + x (N - 1 - i)) * (1 / 2)

/-- second half of the butterfly, scaled by `sec_half`: `input1` of `fstep` -/
noncomputable def fin1 (N : ℕ) (x : ℕ → ℝ) (i : ℕ) : ℝ :=
  (x i - x (N - 1 - i)) * (1 / 2) * secHalf N i

theorem F_even (m : ℕ) (x : ℕ → ℝ) (e : ℕ) :
    F (2 * m) x (2 * e) = F m (fin0 (2 * m) x) e := by
  unfold F
  rw [sum_fold, wt_two_mul, Finset.mul_sum, Finset.mul_sum]
  refine Finset.sum_congr rfl fun j hj => ?_
  have hj := Finset.mem_range.mp hj
  have e1 : ((2 * e : ℕ) : ℝ) * theta (2 * m) j = e * theta m j := by
    rw [theta_double m j]; push_cast; ring
  rw [theta_reflect (2 * m) (2 * m - 1 - j) j (by omega), cos_nat_mul_reflect,
    (even_two_mul e).neg_one_pow, e1, fin0]
  push_cast
  ring

theorem F_top (m : ℕ) (hm : 0 < m) (y : ℕ → ℝ) : F m y m = 0 := by
  unfold F
  rw [Finset.sum_eq_zero fun j _ => by rw [cos_N_theta m j hm, mul_zero], mul_zero]

/-- The `√2` at `e = 0` gives output 0 of the half-length transform the weight of all the others. In
every term of the folded sum this is `two_cos_mul_cos_odd`, the `2cos θ_j` cancelling against
`sec_half`. -/
theorem F_odd_sum (m : ℕ) (x : ℕ → ℝ) (e : ℕ) :
    F (2 * m) x (2 * e + 1) =
      (if e = 0 then F m (fin1 (2 * m) x) 0 * √2 else F m (fin1 (2 * m) x) e) +
        F m (fin1 (2 * m) x) (e + 1) := by
  have hv : (if e = 0 then F m (fin1 (2 * m) x) 0 * √2 else F m (fin1 (2 * m) x) e) =
      √2 / m * ∑ j ∈ range m, fin1 (2 * m) x j * Real.cos (e * theta m j) := by
    unfold F
    split
    · subst e; rw [wt_zero]; ring
    · rw [wt_of_ne_zero ‹_›]
  rw [hv]
  unfold F
  rw [sum_fold, wt_succ, wt_succ, ← mul_add, ← Finset.sum_add_distrib, Finset.mul_sum,
    Finset.mul_sum]
  refine Finset.sum_congr rfl fun j hj => ?_
  have hj := Finset.mem_range.mp hj
  have hc := mul_ne_zero two_ne_zero (cos_theta_pos m j hj).ne'
  rw [theta_reflect (2 * m) (2 * m - 1 - j) j (by omega), cos_nat_mul_reflect,
    (odd_two_mul_add_one e).neg_one_pow, theta_double m j, ← mul_add, add_comm (Real.cos _),
    ← two_cos_mul_cos_odd, fin1, secHalf_real, mul_assoc (_ * (1 / 2)),
    one_div_mul_eq_div, mul_div_cancel_left₀ _ hc]
  push_cast
  ring

def ComputesFdct (N : ℕ) (f : Array ℝ → Array ℝ) : Prop :=
  ∀ x : Array ℝ, ∀ n < N, rd (f x) n = F N (rd x) n

/-- the odd outputs: `√2` on the first entry, then pairwise sums (`odd` of `fstep`) -/
noncomputable def foddOut (m : ℕ) (o : ℕ → ℝ) (i : ℕ) : ℝ :=
  let v := if i = 0 then o 0 * √2 else o i
  if i + 1 < m then v + o (i + 1) else v

/-- `o` need be the half-length transform only below `m` (the code reads nothing else): past the end,
where the code adds nothing, the entry would be zero (`F_top`). -/
theorem F_odd (m : ℕ) (x : ℕ → ℝ) (e : ℕ) (he : e < m) (o : ℕ → ℝ)
    (ho : ∀ k < m, o k = F m (fin1 (2 * m) x) k) : foddOut m o e = F (2 * m) x (2 * e + 1) := by
  unfold foddOut
  rw [F_odd_sum, ho 0 (by omega), ho e he]
  by_cases hl : e + 1 < m
  · rw [if_pos hl, ho _ hl]
  · rw [if_neg hl, show e + 1 = m by omega, F_top m (by omega), add_zero]

/-- `fin0`, `fin1` and `foddOut` are `input0`, `input1` and `odd` of `fstep` up to unfolding, which
the two `exact`s see through. -/
theorem fstep_computes (m : ℕ) (rec : Array ℝ → Array ℝ) (hrec : ComputesFdct m rec) :
    ComputesFdct (2 * m) (fstep (2 * m) rec) := by
  intro x n hn
  unfold fstep
  rw [rd_tab _ _ _ hn, Nat.mul_div_cancel_left m two_pos]
  obtain ⟨e, rfl | rfl⟩ := Nat.even_or_odd' n
  · rw [if_pos (Nat.mul_mod_right 2 e), Nat.mul_div_cancel_left e two_pos, hrec _ e (by omega),
      F_tab]
    exact (F_even m (rd x) e).symm
  · have he : e < m := by omega
    rw [if_neg (by omega), show (2 * e + 1) / 2 = e by omega, rd_tab _ _ _ he]
    exact F_odd m (rd x) e he (rd (rec _)) fun k hk => (hrec _ k hk).trans (F_tab _ _ k)

/-- the code's special cases for lengths 2 and 4 are `fstep` written out (`sec_half(2)[0] = 1/√2`
undoing the `√2` for length 2) -/
theorem fdct_succ (k : ℕ) (x : Array ℝ) (n : ℕ) (hn : n < 2 ^ (k + 1)) :
    rd (fdct (k + 1) x) n = rd (fstep (2 ^ (k + 1)) (fdct k) x) n := by
  match k with
  | 0 =>
    obtain rfl | rfl : n = 0 ∨ n = 1 := by omega
    all_goals
      simp only [fdct, fdct2, fstep, rd_lit2, rd_tab, Nat.reducePow, Nat.reduceAdd, Nat.reduceDiv,
        Nat.reduceLT, Nat.reduceMod, if_true, if_false, one_ne_zero, s_mul, s_sqrt2]
    rw [mul_assoc, mul_assoc, mul_comm (secHalf 2 0 : ℝ), sqrt2_mul_secHalf_two, mul_one]
  | 1 =>
    obtain rfl | rfl | rfl | rfl : n = 0 ∨ n = 1 ∨ n = 2 ∨ n = 3 := by omega
    all_goals
      simp only [fdct, fdct4, fdct2, fstep, quarter, rd_lit4, rd_lit2, rd_tab, Nat.reducePow,
        Nat.reduceAdd, Nat.reduceDiv, Nat.reduceLT, Nat.reduceMod, if_true, if_false, one_ne_zero,
        s_add, s_sub, s_mul]
      ring
  | k + 2 => rfl

theorem fdct_computes : ∀ k : ℕ, ComputesFdct (2 ^ k) (fdct (α := ℝ) k)
  | 0 => fun x n hn => by
    obtain rfl : n = 0 := Nat.lt_one_iff.mp hn
    exact (rd_tab 1 (rd x) 0 Nat.one_pos).trans (F_one _).symm
  | k + 1 => fun x n hn => by
    rw [fdct_succ k x n hn]
    rw [Nat.pow_succ'] at hn ⊢
    exact fstep_computes _ _ (fdct_computes k) x n hn

end Jxl.Dct
