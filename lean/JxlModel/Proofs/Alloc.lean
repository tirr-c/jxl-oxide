import JxlModel.Model.Alloc
import JxlModel.Proofs.Util
namespace Jxl.Alloc

theorem step_alloc_panic (s : State) {count size : Nat} (h : W ≤ count * size) :
    step s (.alloc count size) = (s, .panicMul) := if_pos h

theorem step_alloc (s : State) {count size : Nat} (hb : count * size < W) :
    step s (.alloc count size) =
      if count * size ≤ s.left then
        ({ s with left := s.left - count * size, handles := s.handles ++ [count * size] }, .ok)
      else (s, .oom (count * size)) :=
  if_neg (Nat.not_le.mpr hb)

theorem step_drop (s : State) {idx b : Nat} (h : s.handles[idx]? = some b) :
    step s (.drop idx) =
      ({ s with left := (s.left + b) % W, handles := s.handles.eraseIdx idx }, .ok) := by
  rw [step, h]

theorem step_drop_bad (s : State) {idx : Nat} (h : s.handles[idx]? = none) :
    step s (.drop idx) = (s, .badOp) := by
  rw [step, h]

theorem step_expand (s : State) (n : Nat) :
    step s (.expand n) = ({ s with left := (s.left + n) % W, limit := s.limit + n }, .ok) := rfl

theorem step_shrink (s : State) (n : Nat) :
    step s (.shrink n) =
      if n ≤ s.left then ({ s with left := s.left - n, limit := s.limit - n }, .ok) else (s, .oom n) :=
  rfl

open Jxl.Gen.AllocOps in
theorem microApply_checkedSub (left n : Nat) :
    microApply left n .rmwCheckedSub = if n ≤ left then (left - n, true) else (left, false) :=
  rfl

theorem sum_eraseIdx (l : List Nat) (i : Nat) (b : Nat) (h : l[i]? = some b) :
    (l.eraseIdx i).sum + b = l.sum := by
  obtain ⟨hi, rfl⟩ := List.getElem?_eq_some_iff.1 h
  rw [← (cons_eraseIdx_perm l i hi).sum_nat, List.sum_cons, Nat.add_comm]

theorem step_inv (s : State) (op : Op) (h : Inv s)
    (hw : match op with | .expand n => s.limit + n < W | _ => True) :
    Inv (step s op).1 := by
  obtain ⟨h1, h2⟩ := h
  unfold Inv outstanding at *
  cases op with
  | alloc count size =>
    by_cases hb : count * size < W
    · rw [step_alloc s hb]
      split
      · simp only [List.sum_append, List.sum_cons, List.sum_nil]
        omega
      · exact ⟨h1, h2⟩
    · rw [step_alloc_panic s (Nat.not_lt.mp hb)]; exact ⟨h1, h2⟩
  | drop idx =>
    cases hb : s.handles[idx]? with
    | none => rw [step_drop_bad s hb]; exact ⟨h1, h2⟩
    | some b =>
      -- the handle's bytes are part of what is handed out, so giving them back cannot wrap
      have := sum_eraseIdx s.handles idx b hb
      rw [step_drop s hb]
      simp only
      rw [Nat.mod_eq_of_lt (by omega)]
      omega
  | expand n =>
    rw [step_expand]
    simp only at hw ⊢
    rw [Nat.mod_eq_of_lt (by omega)]
    omega
  | shrink n =>
    rw [step_shrink]
    split
    · simp only; omega
    · exact ⟨h1, h2⟩

theorem run_inv (s : State) (ops : List Op) (h : Inv s) (hw : NoWrap s ops) :
    Inv (run s ops) := by
  induction ops generalizing s with
  | nil => exact h
  | cons op ops ih => exact ih _ (step_inv s op h hw.1) hw.2

theorem init_inv (l : Nat) (h : l < W) : Inv (init l) := ⟨rfl, h⟩

theorem step_limit_of_not_resize (s : State) (op : Op)
    (h : (∀ n, op ≠ .expand n) ∧ (∀ n, op ≠ .shrink n)) : (step s op).1.limit = s.limit := by
  cases op with
  | alloc c sz =>
    rw [step]
    split
    · rfl
    · split <;> rfl
  | drop i => rw [step]; split <;> rfl
  | expand n => exact absurd rfl (h.1 n)
  | shrink n => exact absurd rfl (h.2 n)

/-- the side condition of `NoWrap` and `step_inv` asks nothing of such an operation -/
theorem wrapOk_of_not_resize (s : State) {op : Op}
    (h : (∀ n, op ≠ .expand n) ∧ (∀ n, op ≠ .shrink n)) :
    match (generalizing := false) op with | .expand n => s.limit + n < W | _ => True := by
  cases op with
  | expand n => exact absurd rfl (h.1 n)
  | _ => trivial

theorem not_resize_of_wf {op : Op} (hw : (DecOp.tracker op).wf) :
    (∀ n, op ≠ .expand n) ∧ (∀ n, op ≠ .shrink n) := by
  cases op with
  | expand n => exact False.elim hw
  | shrink n => exact False.elim hw
  | _ => exact ⟨fun _ => nofun, fun _ => nofun⟩

theorem run_of_not_resize (s : State) (ops : List Op)
    (h : ∀ op ∈ ops, (∀ n, op ≠ .expand n) ∧ (∀ n, op ≠ .shrink n)) :
    NoWrap s ops ∧ (run s ops).limit = s.limit := by
  induction ops generalizing s with
  | nil => exact ⟨trivial, rfl⟩
  | cons op ops ih =>
    have hop := h op (List.mem_cons_self ..)
    have ⟨hw, hl⟩ := ih (step s op).1 fun o ho => h o (List.mem_cons_of_mem _ ho)
    exact ⟨⟨wrapOk_of_not_resize s hop, hw⟩, hl.trans (step_limit_of_not_resize s op hop)⟩

def DecInv (d : Dec) : Prop := Inv d.tr ∧ d.tr.limit = d.current

theorem setLimits_eq (d : Dec) (new : Nat) :
    setLimits d new =
      if new > d.current ∨ d.current - new ≤ d.tr.left then
        ({ tr := (step d.tr (if new > d.current then .expand (new - d.current)
            else .shrink (d.current - new))).1, current := new }, true)
      else (d, false) := by
  unfold setLimits
  by_cases hgt : new > d.current
  · rw [if_pos hgt, if_pos (Or.inl hgt), if_pos hgt]
  · rw [if_neg hgt, step_shrink]
    by_cases hfit : d.current - new ≤ d.tr.left
    · rw [if_pos hfit, if_pos (Or.inr hfit), if_neg hgt, step_shrink, if_pos hfit]
    · rw [if_neg hfit, if_neg (not_or.2 ⟨hgt, hfit⟩)]

theorem setLimits_inv (d : Dec) (new : Nat) (hn : new < W) (h : DecInv d) :
    DecInv (setLimits d new).1 := by
  obtain ⟨hi, hl⟩ := h
  by_cases hacc : new > d.current ∨ d.current - new ≤ d.tr.left
  · rw [setLimits_eq, if_pos hacc]
    by_cases hgt : new > d.current
    · rw [if_pos hgt]
      exact ⟨step_inv d.tr _ hi (by simp only; omega), by rw [step_expand]; simp only; omega⟩
    · rw [if_neg hgt]
      have hfit := hacc.resolve_left hgt
      exact ⟨step_inv d.tr _ hi trivial, by rw [step_shrink, if_pos hfit]; simp only; omega⟩
  · rw [setLimits_eq, if_neg hacc]; exact ⟨hi, hl⟩

theorem decStep_inv (d : Dec) (op : DecOp) (hw : op.wf) (h : DecInv d) : DecInv (decStep d op) := by
  cases op with
  | setLimits new => exact setLimits_inv d new hw h
  | tracker op =>
    have hr := not_resize_of_wf hw
    exact ⟨step_inv d.tr op h.1 (wrapOk_of_not_resize d.tr hr),
      (step_limit_of_not_resize d.tr op hr).trans h.2⟩

theorem decRun_inv (d : Dec) (ops : List DecOp) (hw : ∀ op ∈ ops, op.wf) (h : DecInv d) :
    DecInv (decRun d ops) := by
  induction ops generalizing d with
  | nil => exact h
  | cons op ops ih =>
    exact ih _ (fun o ho => hw o (List.mem_cons_of_mem _ ho))
      (decStep_inv d op (hw op (List.mem_cons_self ..)) h)

theorem decInit_inv : DecInv Dec.init := ⟨init_inv (W - 1) (by decide), rfl⟩

end Jxl.Alloc
