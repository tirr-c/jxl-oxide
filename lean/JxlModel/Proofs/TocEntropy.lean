import JxlModel.Model.TocEntropy
import JxlModel.Proofs.Entropy.Final
import JxlModel.Proofs.Headers
/-! The TOC permutation through the real entropy model (C14 ∘ C04).
`readLehmerCode` (the reading half of `read_permutation`) is `readSeq` over `permCtxs` whenever the
values read are an accepted Lehmer code; with `entropy_roundtrip_of_check` (C04) this discharges
the coder hypothesis of `parseToc_writeToc_permuted`. -/
namespace Jxl.Headers
open Jxl.Entropy Jxl.Enc

theorem lehmerValid_length : ∀ (n : Nat) (lehmer : List Nat), lehmerValid n lehmer = true →
    lehmer.length ≤ n
  | _, [], _ => Nat.zero_le _
  | n, i :: r, h => by
    simp only [lehmerValid, Bool.and_eq_true, decide_eq_true_eq] at h
    have := lehmerValid_length (n - 1) r h.2
    simp only [List.length_cons]
    omega

theorem readLehmer_of_readSeq (d : Decoder) (size skip : Nat) :
    ∀ (lehmer : List Nat) (idx prev : Nat) (st : DState) (s : Bits) (st1 : DState) (rest : Bits),
      d.readSeq 0 ((lehmerSyms prev lehmer).map (·.1)) st s = .ok ((lehmer, st1), rest) →
      lehmerValid (size - skip - idx) lehmer = true →
      readLehmer d size skip lehmer.length idx prev st s = .ok ((lehmer, st1), rest)
  | [], _, _, st, s, st1, rest, h, _ => by
    simp only [lehmerSyms, List.map_nil, Decoder.readSeq] at h
    cases h
    rfl
  | v :: r, idx, prev, st, s, st1, rest, h, hv => by
    simp only [lehmerSyms, List.map_cons] at h
    obtain ⟨v', st', s', vs', h1, h2, heq⟩ := readSeq_cons_ok h
    obtain ⟨rfl, rfl⟩ := List.cons.inj heq
    simp only [lehmerValid, Bool.and_eq_true, decide_eq_true_eq] at hv
    have hv2 : lehmerValid (size - skip - (idx + 1)) r = true := by
      rw [show size - skip - (idx + 1) = size - skip - idx - 1 by omega]
      exact hv.2
    have ih := readLehmer_of_readSeq d size skip r (idx + 1) v st' s' st1 rest h2 hv2
    simp only [List.length_cons, readLehmer, h1]
    rw [if_neg (by omega), ih]

theorem readLehmerCode_of_readSeq (d : Decoder) (size : Nat) (lehmer : List Nat)
    (st : DState) (s : Bits) (st1 : DState) (rest : Bits)
    (h : d.readSeq 0 (permCtxs size lehmer) st s = .ok ((lehmer.length :: lehmer, st1), rest))
    (hv : lehmerValid size lehmer = true) :
    readLehmerCode d st size s = .ok ((lehmer, st1), rest) := by
  simp only [permCtxs, permSyms, List.map_cons] at h
  obtain ⟨v', st', s', vs', h1, h2, heq⟩ := readSeq_cons_ok h
  obtain ⟨rfl, rfl⟩ := List.cons.inj heq
  have hlen := lehmerValid_length size lehmer hv
  simp only [readLehmerCode, h1]
  rw [if_neg (by omega)]
  exact readLehmer_of_readSeq d size 0 lehmer 0 0 st' s' st1 rest h2 (by simpa using hv)

theorem permCtxs_for (size : Nat) (lehmer : List Nat) :
    CtxsFor (permItems size lehmer) (permCtxs size lehmer) :=
  ctxsFor_lits Prod.fst Prod.snd _

theorem expand_permItems (mult size : Nat) (lehmer : List Nat) :
    expandItems mult (permItems size lehmer) = lehmer.length :: lehmer := by
  have hs : ∀ (l : List Nat) (prev : Nat), (lehmerSyms prev l).map (·.2) = l := by
    intro l
    induction l with
    | nil => intro _; rfl
    | cons v r ih => intro prev; simp only [lehmerSyms, List.map_cons, ih]
  rw [permItems, expandItems_lits mult Prod.fst Prod.snd, permSyms, List.map_cons, hs]

/-- every item is a literal: the "no copy of 2^32 values" side condition of C04 is void -/
theorem permItems_lits (size : Nat) (lehmer : List Nat) :
    ∀ i ∈ permItems size lehmer,
      match i with | Item.copy _ len _ => len < 2 ^ 32 | Item.lit _ _ => True := by
  intro i hi
  simp only [permItems, List.mem_map] at hi
  obtain ⟨⟨c, v⟩, _, rfl⟩ := hi
  trivial

theorem entropyPermDecoder_roundtrip (p : EntropyPlan) (size : Nat) (lehmer : List Nat)
    (h8 : p.numDist = 8) (hv : lehmerValid size lehmer = true)
    (hc : p.check (permItems size lehmer) = true) (r : Bits) :
    entropyPermDecoder size (encodeHeader p ++ encodeItems p (permItems size lehmer) ++ r)
      = .ok (lehmer, r) := by
  obtain ⟨st0, s0, st1, hp, hb, hseq, hfin⟩ :=
    entropy_roundtrip_of_check p 0 (permItems size lehmer) (permCtxs size lehmer) r
      (permCtxs_for size lehmer) hc (permItems_lits size lehmer)
  rw [h8] at hp
  rw [expand_permItems] at hseq
  have hl := readLehmerCode_of_readSeq _ size lehmer st0 s0 st1 r hseq hv
  simp only [entropyPermDecoder, hp, hb, hl, hfin]

/-- the permutation `parseToc` builds from the Lehmer code is the one `read_permutation` returns
(`Entropy.lehmerDecode` with `skip = 0`) -/
theorem lehmerToPerm_eq_lehmerDecode (size : Nat) (lehmer : List Nat) :
    lehmerToPerm size lehmer = lehmerDecode size 0 lehmer := by
  have hg : ∀ (l temp : List Nat), lehmerGo temp l = lehmerApply l temp := by
    intro l
    induction l with
    | nil => intro _; rfl
    | cons i r ih => intro temp; simp only [lehmerGo, lehmerApply, ih]
  simp [lehmerToPerm, lehmerDecode, hg]

end Jxl.Headers
