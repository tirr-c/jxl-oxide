import JxlModel.Model.Bundle
import JxlModel.Proofs.Bits
/-!
# Lemmas for the generic bundle parser/writer (C14)

What the writer wrote is read back: the bit layer (`toBits`/`ofBits`/`rd`), `U32` for every
selector, `U64` for every form, `UnpackSigned`, repetition, and then the ONE generic parser/writer
pair by mutual induction over field types and field lists.
-/
namespace Jxl.Bundle
open Jxl

theorem takeBits_eq (n : Nat) (s : Bits) :
    takeBits n s = if n ≤ s.length then some (s.take n, s.drop n) else none := by
  induction n generalizing s with
  | zero => simp [takeBits]
  | succ n ih =>
    cases s with
    | nil => simp [takeBits]
    | cons b s =>
      simp only [takeBits, ih, List.length_cons, List.take_succ_cons, List.drop_succ_cons]
      by_cases h : n ≤ s.length <;> simp [h]

theorem rd_eq_readBits (n : Nat) (s : Bits) :
    rd n s = match readBits n s with | some r => .ok r | none => .error .eof := by
  unfold rd readBits
  rw [takeBits_eq]
  by_cases h : n ≤ s.length <;> simp [h]

theorem rd_toBits (n v : Nat) (rest : Bits) (h : v < 2 ^ n) :
    rd n (toBits n v ++ rest) = .ok (v, rest) := by
  rw [rd_eq_readBits, readBits_toBits n v rest h]

theorem toBits_zero (n : Nat) : toBits n 0 = List.replicate n false := by
  induction n with
  | zero => rfl
  | succ n ih => simp [toBits, ih, List.replicate_succ]

theorem rd_zeros (n : Nat) (rest : Bits) : rd n (List.replicate n false ++ rest) = .ok (0, rest) := by
  rw [← toBits_zero]
  exact rd_toBits n 0 rest (Nat.two_pow_pos n)

theorem Dist.read_write (d : Dist) (v : Nat) (rest : Bits) (hw : d.canWrite v = true) :
    d.read (d.write v ++ rest) = .ok (v, rest) := by
  cases d with
  | const c => simp [Dist.canWrite] at hw; simp [Dist.read, Dist.write, hw]
  | bits off n =>
    simp [Dist.canWrite] at hw
    obtain ⟨⟨h1, h2⟩, h3⟩ := hw
    simp only [Dist.read, Dist.write]
    rw [rd_toBits n (v - off) rest h2]
    simp only [W32] at *
    rw [Nat.sub_add_cancel h1, Nat.mod_eq_of_lt h3]

theorem readU32_writeU32With (d0 d1 d2 d3 : Dist) (k v : Nat) (rest : Bits) (hk : k < 4)
    (hw : (selDist d0 d1 d2 d3 k).canWrite v = true) :
    readU32 d0 d1 d2 d3 (writeU32With d0 d1 d2 d3 k v ++ rest) = .ok (v, rest) := by
  unfold readU32 writeU32With
  rw [List.append_assoc, rd_toBits 2 k _ (by omega)]
  exact Dist.read_write _ v rest hw

theorem pickSel_spec (d0 d1 d2 d3 : Dist) (c v k : Nat) (h : pickSel d0 d1 d2 d3 c v = some k) :
    k < 4 ∧ (selDist d0 d1 d2 d3 k).canWrite v = true := by
  unfold pickSel at h
  have hm := List.mem_of_find?_eq_some h
  have hp := List.find?_some h
  refine ⟨?_, hp⟩
  simp at hm
  omega

theorem readU32_writeU32 (d0 d1 d2 d3 : Dist) (c v : Nat) (bits rest : Bits)
    (h : writeU32 d0 d1 d2 d3 c v = some bits) :
    readU32 d0 d1 d2 d3 (bits ++ rest) = .ok (v, rest) := by
  obtain ⟨k, hk, rfl⟩ := Option.map_eq_some_iff.mp h
  obtain ⟨h1, h2⟩ := pickSel_spec _ _ _ _ _ _ _ hk
  exact readU32_writeU32With _ _ _ _ k v rest h1 h2

theorem rd_one_true (rest : Bits) : rd 1 (true :: rest) = .ok (1, rest) := rfl

theorem rd_one_false (rest : Bits) : rd 1 (false :: rest) = .ok (0, rest) := rfl

theorem mod_pow_split (w a b : Nat) : w % 2 ^ a + (w / 2 ^ a % 2 ^ b) * 2 ^ a = w % 2 ^ (a + b) := by
  rw [Nat.pow_add, Nat.mod_mul, Nat.mul_comm]

theorem readU64Loop_group (fuel shift value x : Nat) (rest : Bits) (hs : shift ≠ 60) (hx : x < 2 ^ 8) :
    readU64Loop (fuel + 1) shift value (true :: (toBits 8 x ++ rest)) =
      readU64Loop fuel (shift + 8) (value + x * 2 ^ shift) rest := by
  have hne : (shift == 60) = false := by simpa using hs
  simp only [readU64Loop, rd_one_true, hne, rd_toBits 8 x rest hx, Bool.false_eq_true, if_false]

theorem acc_group (v shift k value : Nat) :
    value + v / 2 ^ shift % 2 ^ 8 * 2 ^ shift + v / 2 ^ (shift + 8) % 2 ^ k * 2 ^ (shift + 8) =
      value + v / 2 ^ shift % 2 ^ (8 + k) * 2 ^ shift := by
  rw [← mod_pow_split (v / 2 ^ shift) 8 k, Nat.pow_add, Nat.div_div_eq_div_mul, Nat.add_mul,
    Nat.mul_assoc, Nat.add_assoc, Nat.mul_comm (2 ^ shift) (2 ^ 8)]

/-- `w` is either of the writer's two loops (`writeU64Groups`, `writeU64LongGo`), which differ only
in what they put after the last group. -/
theorem readU64Loop_groups (v : Nat) (w : Nat → Nat → Bits) (rest : Bits)
    (hw : ∀ g s, w (g + 1) s = true :: (toBits 8 (v / 2 ^ s % 256) ++ w g (s + 8))) :
    ∀ (g fuel shift value : Nat), shift + 8 * g ≤ 60 →
      readU64Loop (fuel + g) shift value (w g shift ++ rest) =
        readU64Loop fuel (shift + 8 * g) (value + (v / 2 ^ shift % 2 ^ (8 * g)) * 2 ^ shift)
          (w 0 (shift + 8 * g) ++ rest)
  | 0, _, _, _, _ => by simp [Nat.mod_one]
  | g+1, fuel, shift, value, hs => by
    rw [hw, List.cons_append, List.append_assoc, ← Nat.add_assoc,
      readU64Loop_group _ shift value _ _ (by omega) (Nat.mod_lt _ (by decide)),
      readU64Loop_groups v w rest hw g fuel (shift + 8) _ (by omega), acc_group, Nat.mul_succ,
      Nat.add_comm (8 * g) 8, Nat.add_assoc]

theorem readU64_sel3 (x : Nat) (hx : x < 2 ^ 12) (tail : Bits) :
    readU64 (toBits 2 3 ++ (toBits 12 x ++ tail)) = readU64Loop 7 12 x tail := by
  rw [readU64, rd_toBits 2 3 _ (by omega)]
  simp only
  rw [rd_toBits 12 x _ hx]

/-- In the selector-3 forms the loop adds `v / 2^12 % 2^k` above the low 12 bits, which is
`v % 2^(12+k) = v` (`mod_pow_split`). -/
theorem readU64_writeU64With (form v : Nat) (rest : Bits) (h : u64CanWrite form v = true) :
    readU64 (writeU64With form v ++ rest) = .ok (v, rest) := by
  unfold u64CanWrite at h
  unfold writeU64With
  have h4096 : v % 4096 < 2 ^ 12 := Nat.mod_lt _ (by decide)
  by_cases h0 : form = 0
  · simp [h0] at h ⊢
    subst h
    simp [readU64, rd_toBits 2 0 _ (by omega)]
  by_cases h1 : form = 1
  · simp [h1] at h ⊢
    rw [readU64, rd_toBits 2 1 _ (by omega)]
    simp only
    rw [rd_toBits 4 _ _ (by omega)]
    simp; omega
  by_cases h2 : form = 2
  · simp [h2] at h ⊢
    rw [readU64, rd_toBits 2 2 _ (by omega)]
    simp only
    rw [rd_toBits 8 _ _ (by omega)]
    simp; omega
  by_cases h10 : form = 10
  · simp [h10, writeU64Long] at h ⊢
    rw [readU64_sel3 _ h4096, readU64Loop_groups v (writeU64LongGo v) rest (fun _ _ => rfl) 6 1 12 _ (by omega)]
    simp only [writeU64LongGo, List.cons_append, readU64Loop, rd_one_true, beq_self_eq_true, if_true,
      rd_toBits 4 _ _ (Nat.mod_lt _ (by decide : 0 < 16))]
    rw [mod_pow_split v 12 (8 * 6), mod_pow_split v (12 + 8 * 6) 4, Nat.mod_eq_of_lt h]
  · simp [h0, h1, h2, h10] at h ⊢
    obtain ⟨⟨h3, h9⟩, hv⟩ := h
    rw [readU64_sel3 _ h4096, show 7 = (9 - form + 1) + (form - 3) by omega,
      readU64Loop_groups v (fun g s => writeU64Groups g s v) rest (fun _ _ => rfl) (form - 3) _ 12 _ (by omega)]
    simp only [writeU64Groups, List.cons_append, List.nil_append, readU64Loop, rd_one_false]
    rw [mod_pow_split v 12 (8 * (form - 3)), Nat.mod_eq_of_lt hv]

theorem pickU64_spec (c v f : Nat) (h : pickU64 c v = some f) : u64CanWrite f v = true := by
  unfold pickU64 at h
  exact List.find?_some (p := fun f => u64CanWrite f v) h

theorem readU64_writeU64 (c v : Nat) (bits rest : Bits) (h : writeU64 c v = some bits) :
    readU64 (bits ++ rest) = .ok (v, rest) := by
  obtain ⟨f, hf, rfl⟩ := Option.map_eq_some_iff.mp h
  exact readU64_writeU64With f v rest (pickU64_spec c v f hf)

theorem unpack_pack (i : Int) : unpackSigned (packSigned i) = i := by
  unfold unpackSigned packSigned
  simp only [Int.ofNat_eq_natCast, beq_iff_eq]
  split <;> split <;> omega

theorem canonicalTy_nat (sc : Env) : ∀ (t : FieldTy) (x : Nat), canonicalTy sc t (.nat x) = true
  | .const _, _ | .u _, _ | .cu _ _, _ | .u32 _ _ _ _, _ | .u64, _ | .f16, _ | .bool, _ => by
    simp [canonicalTy]
  | .enumOf t _, x | .signed t, x | .signed64 t, x => by simp [canonicalTy, canonicalTy_nat sc t x]
  | .bundle _ _, _ | .vec _ _, _ | .arr _ _, _ | .zeroPad, _ | .assert _ _, _ | .skip _, _
  | .ext _, _ => by simp [canonicalTy]

/-! `total` is the absolute bit position of the end of the stream (only `ZeroPadToByte` looks at it);
a value written at `pos` as `bits` and followed by `rest` is parsed with
`total = pos + bits.length + rest.length`, and that equation is carried through every lemma below. -/

theorem parseN_writeN (w : Nat → Val → Option Bits) (p : Nat → Bits → Except Err (Val × Bits))
    (c : Val → Bool)
    (h : ∀ pos v bits rest total, c v = true → w pos v = some bits →
      total = pos + bits.length + rest.length → p total (bits ++ rest) = .ok (v, rest)) :
    ∀ (vs : List Val) (pos : Nat) (bits rest : Bits) (total : Nat), allCanon c vs = true →
      writeN w pos vs = some bits → total = pos + bits.length + rest.length →
      parseN (p total) vs.length (bits ++ rest) = .ok (vs, rest)
  | [], _, _, _, _, _, hw, _ => by cases hw; rfl
  | v :: vs, pos, bits, rest, total, hc, hw, ht => by
    simp only [allCanon, Bool.and_eq_true] at hc
    unfold writeN at hw
    split at hw
    · cases hw
    next b hb =>
      split at hw
      · cases hw
      next bs hbs =>
        cases hw
        simp only [List.length_append] at ht
        simp only [List.length_cons, parseN, List.append_assoc,
          h pos v b (bs ++ rest) total hc.1 hb (by rw [List.length_append]; omega),
          parseN_writeN w p c h vs _ bs rest total hc.2 hbs (by omega)]

mutual
theorem parseTy_writeTy (ch : Nat → Nat) : ∀ (t : FieldTy) (sc : Env) (pos : Nat) (v : Val)
    (bits rest : Bits) (total : Nat), canonicalTy sc t v = true →
    writeTy ch sc t pos v = some bits → total = pos + bits.length + rest.length →
    parseTy total sc t (bits ++ rest) = .ok (v, rest) := by
  intro t sc pos v bits rest total hc hw ht
  -- all inversions of the writer at once: 16 of the 153 pairs (type, value) are written at all
  cases t <;> cases v <;> simp only [writeTy, reduceCtorEq] at hw
  all_goals try simp only [Option.ite_none_right_eq_some, Option.some.injEq] at hw
  case const.nat c x =>
    obtain ⟨h, rfl⟩ := hw
    exact eq_of_beq h ▸ rfl
  case u.nat n x =>
    obtain ⟨h, rfl⟩ := hw
    simp only [parseTy, rd_toBits _ _ _ h]
  case cu.nat c n x =>
    obtain ⟨h, rfl⟩ := hw
    simp only [Bool.and_eq_true, decide_eq_true_eq] at h
    simp only [parseTy, rd_toBits _ _ _ h.1.2, Nat.sub_add_cancel h.1.1, Nat.mod_eq_of_lt h.2]
  case u32.nat => simp only [parseTy, readU32_writeU32 _ _ _ _ _ _ bits rest hw]
  case u64.nat => simp only [parseTy, readU64_writeU64 _ _ bits rest hw]
  case f16.f16 x =>
    obtain ⟨h, rfl⟩ := hw
    have hlt : x < 2 ^ 16 := by simp only [f16Valid, Bool.and_eq_true, decide_eq_true_eq] at h; exact h.1
    simp only [parseTy, rd_toBits 16 _ _ hlt, h, if_true]
  case bool.bool b =>
    subst hw
    cases b <;> rfl
  case enumOf.nat t valid x =>
    simp only [parseTy, parseTy_writeTy ch t sc pos _ bits rest total (canonicalTy_nat sc t x) hw.2 ht,
      hw.1, if_true]
  case signed.int t i | signed64.int t i =>
    simp only [parseTy, parseTy_writeTy ch t sc pos _ bits rest total (canonicalTy_nat sc t _) hw.2 ht,
      unpack_pack]
  case bundle.record ctx fs e =>
    split at hw
    next c hctx =>
      simp only [canonicalTy, hctx] at hc
      simp only [parseTy, hctx, parseFields_writeFields ch fs c [] pos e bits rest total hc hw ht,
        List.nil_append]
    · cases hw
  case vec.list t len vs =>
    split at hw
    next n hn =>
      obtain ⟨rfl, hw'⟩ := Option.ite_none_right_eq_some.mp hw
      simp only [parseTy, hn, parseN_writeN _ (fun total => parseTy total sc t) _
        (parseTy_writeTy ch t sc) vs pos bits rest total hc hw' ht]
    · cases hw
  case arr.list t n vs =>
    obtain ⟨rfl, hw'⟩ := hw
    simp only [parseTy, parseN_writeN _ (fun total => parseTy total sc t) _
      (parseTy_writeTy ch t sc) vs pos bits rest total hc hw' ht]
  case zeroPad.unit =>
    subst hw
    -- the reader pads from the position the writer padded from
    have : total - (List.replicate (padLen pos) false ++ rest).length = pos := by
      simp only [List.length_append, List.length_replicate] at ht ⊢; omega
    simp only [parseTy, this, rd_zeros, beq_self_eq_true, if_true]
  case assert.unit e _ =>
    split at hw
    next he => cases hw; simp only [parseTy, he, List.nil_append]
    · cases hw
  case skip.unit n =>
    split at hw
    next k hk =>
      cases hw
      simp only [parseTy, hk, List.length_append, List.length_replicate, Nat.le_add_right, if_true,
        List.drop_left']
    · cases hw
theorem parseFields_writeFields (ch : Nat → Nat) : ∀ (fs : List Field) (ctx acc : Env) (pos : Nat)
    (vals : Env) (bits rest : Bits) (total : Nat), canonicalFields ctx fs acc vals = true →
    writeFields ch ctx fs acc pos vals = some bits → total = pos + bits.length + rest.length →
    parseFields total ctx fs acc (bits ++ rest) = .ok (acc ++ vals, rest)
  | [], _, _, _, [], _, _, _, _, hw, _ => by
    cases hw
    simp only [parseFields, List.nil_append, List.append_nil]
  | [], _, _, _, _ :: _, _, _, _, _, hw, _ | _ :: _, _, _, _, [], _, _, _, _, hw, _ => by
    simp only [writeFields, reduceCtorEq] at hw
  | .mk name ty cond dflt :: fs, ctx, acc, pos, (n, v) :: vals, bits, rest, total, hc, hw, ht => by
    simp only [writeFields] at hw
    obtain ⟨rfl, hw⟩ := Option.ite_none_right_eq_some.mp hw
    simp only [canonicalFields, Bool.and_eq_true] at hc
    split at hw
    next hcond =>
      simp only [hcond] at hc
      split at hw
      next b hb =>
        split at hw
        next bs hbs =>
          cases hw
          simp only [List.length_append] at ht
          simp only [parseFields, hcond, List.append_assoc,
            parseTy_writeTy ch ty _ pos v b (bs ++ rest) total hc.1.2 hb (by rw [List.length_append]; omega),
            parseFields_writeFields ch fs ctx _ _ vals bs rest total hc.2 hbs (by omega),
            List.singleton_append]
        · cases hw
      · cases hw
    next hcond =>
      simp only [hcond, beq_iff_eq] at hc
      simp only [parseFields, hcond, hc.1.2,
        parseFields_writeFields ch fs ctx _ pos vals bits rest total hc.2 hw ht, List.append_assoc,
        List.singleton_append]
    · cases hw
end

/-! ## what the non-vacuity examples of `Props/C14.lean` evaluate -/

/-- number of (top-level) fields whose condition is true for the value -/
def condCount (ctx : Env) : List Field → Env → Env → Nat
  | [], _, _ => 0
  | .mk name _ cond _ :: fs, acc, (_, v) :: vals =>
    (if evalBool (acc ++ ctx) cond = some true then 1 else 0) + condCount ctx fs (acc ++ [(name, v)]) vals
  | _, _, _ => 0

/-- the canonical completion of `raw` satisfies both hypotheses of the round-trip theorem
(`Canonical`, and the writer succeeds), and exactly `k` of its fields are present -/
def witness (b : Bundle) (ctx raw : Env) (k : Nat) : Bool :=
  match canon b ctx raw with
  | some e => decide (Canonical b ctx e) && (write b (fun p => p) ctx e).isSome && condCount ctx b [] e == k
  | Option.none => false

end Jxl.Bundle
