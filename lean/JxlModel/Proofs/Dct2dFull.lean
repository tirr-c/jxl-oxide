import JxlModel.Proofs.Dct2d
import JxlModel.Proofs.DctFwd
/-!
# `dct_2d` with all its special cases, both directions, over ℝ, equals the separable definition

`D1` is the 1-D cosine sum in either direction and `D2` applies it along rows, then along columns.
Every pass of the driver is `D1` along one axis: `rowPass`/`colPass` by the 1-D recursion theorems,
the hand-written butterflies of the small shapes because `D1` of length 2 is a butterfly and `D1`
of length 1 is the identity. The nine branches of `dct_2d` are the nine ways of combining these.
-/
namespace Jxl.Dct

noncomputable def D1 (dir : Dir) (N : ℕ) (c : ℕ → ℝ) (j : ℕ) : ℝ :=
  match dir with
  | .inverse => S N c (theta N j)
  | .forward => F N c j

noncomputable def D2 (dir : Dir) (g : Grid ℝ) (x y : ℕ) : ℝ :=
  D1 dir g.h (fun v => D1 dir g.w (fun u => g.rd u v) x) y

theorem D1_congr (dir : Dir) {N : ℕ} {c c' : ℕ → ℝ} (j : ℕ) (h : ∀ i < N, c i = c' i) :
    D1 dir N c j = D1 dir N c' j := by
  cases dir
  · exact F_congr j h
  · exact S_congr _ h

theorem D2_congr (dir : Dir) (g g' : Grid ℝ) (hw : g.w = g'.w) (hh : g.h = g'.h)
    (h : ∀ u < g.w, ∀ v < g.h, g.rd u v = g'.rd u v) (x y : ℕ) : D2 dir g x y = D2 dir g' x y := by
  unfold D2
  rw [← hw, ← hh]
  exact D1_congr dir y fun v hv => D1_congr dir x fun u hu => h u hu v hv

theorem D1_comm (dir : Dir) (M N : ℕ) (f : ℕ → ℕ → ℝ) (x y : ℕ) :
    D1 dir M (fun u => D1 dir N (fun v => f u v) y) x =
      D1 dir N (fun v => D1 dir M (fun u => f u v) x) y := by
  cases dir
  all_goals
    simp only [D1, F, S, Finset.mul_sum, Finset.sum_mul]
    rw [Finset.sum_comm]
    exact Finset.sum_congr rfl fun v _ => Finset.sum_congr rfl fun u _ => by ring

theorem D1_one (dir : Dir) (c : ℕ → ℝ) : D1 dir 1 c 0 = c 0 := by
  cases dir
  · exact F_one c
  · exact S_one c _

theorem dct1_tab (dir : Dir) (k : ℕ) (c : ℕ → ℝ) (j : ℕ) (hj : j < 2 ^ k) :
    rd (dct1 dir (2 ^ k) (tab (2 ^ k) c)) j = D1 dir (2 ^ k) c j := by
  unfold dct1 D1
  cases dir
  · simp only [Nat.log2_two_pow, fdct_computes k _ j hj, F_tab]
  · simp only [Nat.log2_two_pow, idct_computes k _ j hj, S_tab]

/-- through `dct1` of length 2 = 2 ^ 1, which computes `D1` and is `fdct2` / `idct2` on the two
samples (with `dirMul .inverse = 1`) -/
theorem D1_two (dir : Dir) (c : ℕ → ℝ) (j : ℕ) (hj : j < 2) : D1 dir 2 c j = bfly dir c j := by
  have hj2 : j = 0 ∨ j = 1 := by omega
  rw [← show rd (dct1 dir 2 (tab 2 c)) j = D1 dir 2 c j from dct1_tab dir 1 c j hj]
  cases dir <;> rcases hj2 with rfl | rfl <;>
    simp only [dct1, Nat.log2_two, fdct, idct, fdct2, idct2, rd_lit2, rd_tab 2 c 0 Nat.zero_lt_two,
      rd_tab 2 c 1 Nat.one_lt_two, bfly, dirMul, one_ne_zero, if_true, if_false, s_mul, s_one, mul_one]

/-- what the pass reads is a hypothesis (`hc`), so that a pass over a tabulated grid is read in the
same step -/
theorem rowPass_eq_D1 (dir : Dir) (g : Grid ℝ) (a : ℕ) (hw : g.w = 2 ^ a) (c : ℕ → ℝ)
    (x y : ℕ) (hx : x < g.w) (hy : y < g.h) (hc : ∀ u < g.w, g.rd u y = c u) :
    (rowPass dir g).rd x y = D1 dir g.w c x := by
  rw [rowPass_rd dir g x y hx hy, Grid.row, tab_congr hc, hw, dct1_tab dir a c x (hw ▸ hx)]

theorem colPass_eq_D1 (dir : Dir) (g : Grid ℝ) (b : ℕ) (hh : g.h = 2 ^ b) (c : ℕ → ℝ)
    (x y : ℕ) (hx : x < g.w) (hy : y < g.h) (hc : ∀ v < g.h, g.rd x v = c v) :
    (colPass dir g).rd x y = D1 dir g.h c y := by
  rw [colPass_rd dir g x y hx hy, Grid.col, tab_congr hc, hh, dct1_tab dir b c y (hh ▸ hy)]

theorem dct2d_two_two (dir : Dir) (g : Grid ℝ) (hw : g.w = 2) (hh : g.h = 2)
    (x y : ℕ) (hx : x < 2) (hy : y < 2) :
    (dct2d dir g).rd x y = bfly dir (fun v => bfly dir (fun u => g.rd u v) x) y := by
  unfold dct2d
  simp only [hw, hh, Nat.reduceMul, Nat.reduceLeDiff, Nat.reduceEqDiff, and_self, and_false,
    false_and, ↓reduceIte]
  rw [Grid.rd_tab _ _ _ _ _ hx hy]
  have hx2 : x = 0 ∨ x = 1 := by omega
  have hy2 : y = 0 ∨ y = 1 := by omega
  rcases hx2 with rfl | rfl <;> rcases hy2 with rfl | rfl <;>
    simp only [bfly, s_add, s_sub, s_mul, one_ne_zero, and_self, and_false, false_and, if_true,
      if_false] <;>
    ring

theorem dct2d_eq_D2 (dir : Dir) (g : Grid ℝ) (a b : ℕ) (hw : g.w = 2 ^ a) (hh : g.h = 2 ^ b)
    (x y : ℕ) (hx : x < g.w) (hy : y < g.h) :
    (dct2d dir g).rd x y = D2 dir g x y := by
  rw [D2, dct2d_table]
  rcases side_cases hw hx with ⟨w1, rfl⟩ | ⟨w2, hx2⟩ | ⟨n, w4⟩ <;>
    rcases side_cases hh hy with ⟨h1, rfl⟩ | ⟨h2, hy2⟩ | ⟨m, h4⟩
  · simp only [w1, h1, D1_one]
  · simp only [w1, h2, D1_one, D1_two dir _ y hy2]
    exact Grid.rd_tab _ _ _ _ _ Nat.one_pos hy2
  · simp only [w1, h4, D1_one]
    exact h4 ▸ colPass_eq_D1 dir g b hh _ 0 y hx hy fun _ _ => rfl
  · simp only [w2, h1, D1_one, D1_two dir _ x hx2]
    exact Grid.rd_tab _ _ _ _ _ hx2 Nat.one_pos
  · simp only [w2, h2, D1_two dir _ x hx2, D1_two dir _ y hy2]
    exact dct2d_two_two dir g w2 h2 x y hx2 hy2
  · simp only [w2, h4, D1_two dir _ x hx2]
    exact colPass_eq_D1 dir _ b (h4 ▸ hh) _ x y hx2 (h4 ▸ hy) fun v hv =>
      Grid.rd_tab _ _ _ _ _ hx2 hv
  · simp only [w4, h1, D1_one]
    exact w4 ▸ rowPass_eq_D1 dir g a hw _ x 0 hx hy fun _ _ => rfl
  · -- the model transforms the columns first
    rw [D1_comm]
    simp only [w4, h2, D1_two dir _ y hy2]
    exact rowPass_eq_D1 dir _ a (w4 ▸ hw) _ x y (w4 ▸ hx) hy2 fun u hu =>
      Grid.rd_tab _ _ _ _ _ hu hy2
  · -- back to `dct2d`, of which `dct2d_separable` speaks
    rw [← dct2d_table, dct2d_separable dir g (by omega) (by omega) (hw ▸ hh ▸ two_pow_dvd_total a b) x y hx hy,
      dct2dSep]
    exact colPass_eq_D1 dir (rowPass dir g) b hh _ x y hx hy fun v hv =>
      rowPass_eq_D1 dir g a hw _ x v hx hv fun _ _ => rfl

theorem idct2dDef_eq_D2 (g : Grid ℝ) (x y : ℕ) (hx : x < g.w) (hy : y < g.h) :
    (idct2dDef g).rd x y = D2 .inverse g x y := by
  unfold idct2dDef D2 D1
  rw [Grid.rd_tab _ _ _ _ _ hx hy, idctDef_eq_S _ (Nat.zero_lt_of_lt hy)]
  exact S_congr _ fun v hv => by
    rw [Grid.rd_tab _ _ _ _ _ hx hv, idctDef_eq_S _ (Nat.zero_lt_of_lt hx)]

theorem fdct2dDef_eq_D2 (g : Grid ℝ) (x y : ℕ) (hx : x < g.w) (hy : y < g.h) :
    (fdct2dDef g).rd x y = D2 .forward g x y := by
  unfold fdct2dDef D2 D1
  rw [Grid.rd_tab _ _ _ _ _ hx hy, fdctDef_eq_F]
  exact F_congr _ fun v hv => by rw [Grid.rd_tab _ _ _ _ _ hx hv, fdctDef_eq_F]

theorem idct2d_eq_def (g : Grid ℝ) (a b : ℕ) (ha : 2 ≤ a) (hb : 2 ≤ b)
    (hw : g.w = 2 ^ a) (hh : g.h = 2 ^ b) (x y : ℕ) (hx : x < g.w) (hy : y < g.h) :
    (dct2d .inverse g).rd x y = (idct2dDef g).rd x y := by
  rw [dct2d_eq_D2 .inverse g a b hw hh x y hx hy, idct2dDef_eq_D2 g x y hx hy]

theorem scaleF_zero (N : ℕ) : (scaleF 0 N : ℝ) = 1 := by
  unfold scaleF
  simp

end Jxl.Dct
