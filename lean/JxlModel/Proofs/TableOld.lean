import JxlModel.Proofs.TableCompile
/-!
# The unrepaired `try_compile_to_table` (before /repo f9ead7c), kept for the witness of finding F14

`tblStepOld` is the old body of the index-fill loop: the range that ends at `i32::MAX` wrote only
the **last** table entry (`*indices.last_mut() = ..`). `tryCompileOld` / `flattenLoopOld` /
`flattenOld` are `tryCompile` / `flattenLoop` / `flatten` of `Model/Modular/Tree.lean` with that one
arm changed back (the fused arm of `flattenLoopOld` is written with `kids`, as in
`flattenLoop_dec`); nothing else differs. Used by `C03_unrepaired_table_wrong_at_i32max` and one example next to it.
-/
namespace Jxl.Modular

/-- old loop body: differs from `tblStep` only in the `e.2 == i32Max` arm -/
def tblStepOld (nextBase : Nat) (st : TSt) (e : Tree × Int) : TSt :=
  let (ind, nodes, rangeStart, nextIdx, idx, done) := st
  if done then st
  else if e.2 == i32Max then
    (ind.setIfInBounds (ind.size - 1) (nextBase + idx), nodes ++ [e.1], rangeStart, nextIdx, idx + 1, true)
  else
    let len := (e.2 - rangeStart).toNat
    (fillRange ind nextIdx len (nextBase + idx), nodes ++ [e.1], e.2, nextIdx + len, idx + 1, false)

/-- `tryCompile` (see `tryCompile_dec`) with the old loop body -/
def tryCompileOld (chan stream prevCh : Nat) (t : Tree) (nextBase : Nat) : Option (FlatNode × List Tree) :=
  match t with
  | .leaf _ => none
  | .dec prop value l r =>
    match compileLoop chan stream prevCh prop (2 * (Tree.dec prop value l r).size + 4)
        (compileInit value l r) value value [] with
    | (lb, ub, rn) =>
      if rn.length < 4 then none
      else
        match (sortByEnd rn).foldl (tblStepOld nextBase)
            (Array.replicate ((ub - lb).toNat + 2) 0, [], lb - 1, 0, 0, false) with
        | (ind, nodes, _, _, _, _) => some (.table prop lb ind, nodes)

/-- `flattenLoop` over `tryCompileOld` -/
def flattenLoopOld (chan stream prevCh : Nat) :
    Nat → List Tree → Array FlatNode → Nat → Array FlatNode
  | 0, _, out, _ => out
  | _, [], out, _ => out
  | fuel + 1, t :: q, out, nextBase =>
    let t := t.next chan stream prevCh
    match tryCompileOld chan stream prevCh t nextBase with
    | some (node, nodes) =>
      flattenLoopOld chan stream prevCh fuel (q ++ nodes) (out.push node) (nextBase + nodes.length)
    | none =>
      match t with
      | .leaf l => flattenLoopOld chan stream prevCh fuel q (out.push (.leaf l)) nextBase
      | .dec p v l r =>
        let l := l.next chan stream prevCh
        let r := r.next chan stream prevCh
        flattenLoopOld chan stream prevCh fuel
          (q ++ [(kids l).2.2.1, (kids l).2.2.2, (kids r).2.2.1, (kids r).2.2.2])
          (out.push (.fused p v (kids l).1 (kids r).1 (kids l).2.1 (kids r).2.1 nextBase)) (nextBase + 4)

def flattenOld (chan stream prevCh : Nat) (t : Tree) : Array FlatNode :=
  flattenLoopOld chan stream prevCh (4 * t.size + 4) [t.next chan stream prevCh] #[] 1

/-- indices of a table node (empty for other nodes) -/
def FlatNode.tableIndices : FlatNode → List Nat
  | .table _ _ ind => ind.toList
  | _ => []

end Jxl.Modular
