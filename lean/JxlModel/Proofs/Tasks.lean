import JxlModel.Model.Tasks
/-!
# Confluence of independent jobs: helper lemmas

A left action `act : σ → α → σ` and a relation `R` on `α` such that `R`-related elements commute:
every order-preserving interleaving of lists whose elements are `R`-related across lists folds to
the same state as the lists one after the other (`foldl_interleaving`: the element emitted first is
moved to the front, past elements of other lists only). Whole lists in another order are one of the
interleavings (`Interleaving.perm`). Steps on the store and on store × error flag instantiate it.
-/
namespace Jxl.Tasks

section generic
variable {σ α : Type} (act : σ → α → σ) (R : α → α → Prop)

theorem foldl_move_front
    (hcomm : ∀ a b, R a b → ∀ s, act (act s a) b = act (act s b) a)
    (a : α) (l m : List α) (h : ∀ b ∈ l, R b a) (s : σ) :
    (l ++ a :: m).foldl act s = (a :: l ++ m).foldl act s := by
  induction l generalizing s with
  | nil => rfl
  | cons b l ih =>
    simp only [List.cons_append, List.foldl_cons]
    rw [ih (fun c hc => h c (by simp [hc]))]
    simp only [List.cons_append, List.foldl_cons]
    rw [hcomm b a (h b (by simp))]

def Cross (ls : List (List α)) : Prop :=
  ls.Pairwise fun l m => ∀ a ∈ l, ∀ b ∈ m, R a b

theorem cross_shrink {pre post : List (List α)} {a : α} {rest : List α}
    (h : Cross R (pre ++ (a :: rest) :: post)) : Cross R (pre ++ rest :: post) := by
  unfold Cross at *
  rw [List.pairwise_append, List.pairwise_cons] at *
  obtain ⟨h1, ⟨h2, h2'⟩, h3⟩ := h
  refine ⟨h1, ⟨fun m hm x hx => h2 m hm x (List.mem_cons_of_mem _ hx), h2'⟩, fun l hl m hm => ?_⟩
  rcases List.mem_cons.1 hm with rfl | hm
  · exact fun x hx y hy => h3 l hl (a :: m) List.mem_cons_self x hx y (List.mem_cons_of_mem _ hy)
  · exact h3 l hl m (List.mem_cons_of_mem _ hm)

theorem foldl_interleaving
    (hcomm : ∀ a b, R a b → ∀ s, act (act s a) b = act (act s b) a)
    {ls : List (List α)} {out : List α} (hi : Interleaving ls out) (hc : Cross R ls) (s : σ) :
    out.foldl act s = ls.flatten.foldl act s := by
  induction hi generalizing s with
  | done ls hall => rw [List.flatten_eq_nil_iff.2 hall]
  | next pre post a rest out _ ih =>
    have hcr := cross_shrink R hc
    simp only [List.foldl_cons]
    rw [ih hcr]
    have hfront : ∀ b ∈ pre.flatten, R b a := by
      intro b hb
      obtain ⟨l, hl, hbl⟩ := List.mem_flatten.1 hb
      exact (List.pairwise_append.1 hc).2.2 l hl (a :: rest) List.mem_cons_self b hbl a
        List.mem_cons_self
    simp only [List.flatten_append, List.flatten_cons, List.cons_append]
    exact (foldl_move_front act R hcomm a pre.flatten (rest ++ post.flatten) hfront s).symm

theorem interleaving_nil_cons {ls : List (List α)} {out : List α} (h : Interleaving ls out) :
    Interleaving ([] :: ls) out := by
  induction h with
  | done ls hall => exact .done _ (by simpa using hall)
  | next pre post a rest out _ ih => exact .next ([] :: pre) post a rest out ih

theorem interleaving_flatten (ls : List (List α)) : Interleaving ls ls.flatten := by
  induction ls with
  | nil => exact .done _ (by simp)
  | cons l ls ih =>
    induction l with
    | nil => simpa using interleaving_nil_cons ih
    | cons a l ihl =>
      have := Interleaving.next [] ls a l (l ++ ls.flatten) (by simpa using ihl)
      simpa using this

theorem Interleaving.perm {ls ls' : List (List α)} {out : List α} (h : Interleaving ls out)
    (hp : ls.Perm ls') : Interleaving ls' out := by
  induction h generalizing ls' with
  | done ls hall => exact .done _ fun l hl => hall l (hp.mem_iff.2 hl)
  | next pre post a rest out _ ih =>
    -- find `a :: rest` in `ls'`, cancel it on both sides of `hp`, put `rest` back in its place
    obtain ⟨pre', post', rfl⟩ :=
      List.append_of_mem (hp.mem_iff.1 (List.mem_append_right pre List.mem_cons_self))
    have hp' := (List.perm_middle.symm.trans hp).trans List.perm_middle
    exact .next pre' post' a rest out
      (ih ((List.perm_middle.trans (hp'.cons_inv.cons rest)).trans List.perm_middle.symm))

end generic

theorem insertEverywhere_perm {α : Type} (a : α) (l p : List α) (h : p ∈ insertEverywhere a l) :
    p.Perm (a :: l) := by
  induction l generalizing p with
  | nil =>
    cases List.mem_singleton.1 h
    exact .refl _
  | cons b l ih =>
    simp only [insertEverywhere, List.mem_cons, List.mem_map] at h
    rcases h with rfl | ⟨q, hq, rfl⟩
    · exact .refl _
    · exact ((ih q hq).cons b).trans (.swap a b l)

theorem perms_perm {α : Type} (l p : List α) (h : p ∈ perms l) : p.Perm l := by
  induction l generalizing p with
  | nil =>
    cases List.mem_singleton.1 h
    exact .refl _
  | cons a l ih =>
    simp only [perms, List.mem_flatMap] at h
    obtain ⟨q, hq, hp⟩ := h
    exact (insertEverywhere_perm a q p hp).trans ((ih q hq).cons a)

theorem picks_spec {α : Type} {ls pre post : List (List α)} {a : α} {r : List α}
    (h : (pre, a, r, post) ∈ picks ls) : ls = pre ++ (a :: r) :: post := by
  induction ls generalizing pre with
  | nil => cases h
  | cons l ls ih =>
    cases l with
    | nil =>
      simp only [picks, List.mem_map] at h
      obtain ⟨⟨pre', _, _, _⟩, hy, hx⟩ := h
      cases hx
      rw [ih hy, List.cons_append]
    | cons b t =>
      simp only [picks, List.mem_cons, List.mem_map] at h
      rcases h with hx | ⟨⟨pre', _, _, _⟩, hy, hx⟩
      · cases hx
        rfl
      · cases hx
        rw [ih hy, List.cons_append]

theorem picks_nil {α : Type} (ls : List (List α)) (h : picks ls = []) : ∀ l ∈ ls, l = [] := by
  induction ls with
  | nil => simp
  | cons l ls ih =>
    cases l with
    | nil =>
      simp only [picks, List.map_eq_nil_iff] at h
      exact List.forall_mem_cons.2 ⟨rfl, ih h⟩
    | cons a r => simp [picks] at h

theorem interleavings_sound {α : Type} (fuel : Nat) (ls : List (List α)) (out : List α)
    (hf : ls.flatten.length ≤ fuel) (h : out ∈ interleavings fuel ls) : Interleaving ls out := by
  induction fuel generalizing ls out with
  | zero =>
    cases List.mem_singleton.1 h
    exact .done _ (List.flatten_eq_nil_iff.1 (List.eq_nil_of_length_eq_zero (Nat.le_zero.1 hf)))
  | succ fuel ih =>
    unfold interleavings at h
    split at h
    · rename_i hp
      cases List.mem_singleton.1 h
      exact .done _ (picks_nil ls hp)
    · simp only [List.mem_flatMap, List.mem_map] at h
      obtain ⟨⟨pre, a, r, post⟩, hx, q, hq, rfl⟩ := h
      obtain rfl := picks_spec hx
      refine .next pre post a r q (ih _ _ ?_ hq)
      simp only [List.flatten_append, List.flatten_cons, List.length_append, List.length_cons]
        at hf ⊢
      omega

section steps
variable {V : Type} [Inhabited V]

theorem restrict_congr {R : List Cell} {s s' : Store V} (h : ∀ c ∈ R, s c = s' c) :
    restrict R s = restrict R s' := by
  funext c
  unfold restrict
  split
  · exact h c ‹_›
  · rfl

theorem Step.run_frame (a : Step V) (s : Store V) {c : Cell} (h : c ∉ a.writes) :
    a.run s c = s c := by
  simp [Step.run, h]

omit [Inhabited V] in
theorem Step.Indep.symm {a b : Step V} (h : a.Indep b) : b.Indep a := ⟨h.2, h.1⟩

theorem Step.restrict_run_of_indep {a b : Step V} (h : a.Indep b) (s : Store V) :
    restrict b.reads (a.run s) = restrict b.reads s :=
  restrict_congr fun c hc => Step.run_frame a s fun hw => (h.1 c hw).1 hc

theorem Step.run_comm {a b : Step V} (h : a.Indep b) (s : Store V) :
    b.run (a.run s) = a.run (b.run s) := by
  funext c
  by_cases ha : c ∈ a.writes <;> by_cases hb : c ∈ b.writes
  · exact absurd hb (h.1 c ha).2
  · simp [Step.run, ha, hb, Step.restrict_run_of_indep h.symm]
  · simp [Step.run, ha, hb, Step.restrict_run_of_indep h]
  · simp [Step.run, ha, hb]

theorem Step.execB_comm {a b : Step V} (h : a.Indep b) (st : Store V × Bool) :
    b.execB (a.execB st) = a.execB (b.execB st) := by
  obtain ⟨s, f⟩ := st
  simp only [Step.execB, Step.run_comm h, Step.restrict_run_of_indep h,
    Step.restrict_run_of_indep h.symm, Prod.mk.injEq, true_and]
  exact Bool.or_right_comm _ _ _

theorem runSteps_append (l m : List (Step V)) (s : Store V) :
    runSteps (l ++ m) s = runSteps m (runSteps l s) := by
  simp [runSteps]

theorem runSteps_frame (l : List (Step V)) (s : Store V) {c : Cell}
    (h : c ∉ l.flatMap Step.writes) : runSteps l s c = s c := by
  induction l generalizing s with
  | nil => rfl
  | cons a l ih =>
    simp only [List.flatMap_cons, List.mem_append, not_or] at h
    show runSteps l (a.run s) c = s c
    rw [ih _ h.2, Step.run_frame a s h.1]

theorem runTasks_eq_noneOrder (ts : List (Task V)) (s : Store V) :
    runTasks ts s = runSteps (noneOrder ts) s := by
  simp only [runTasks, Task.run, runSteps, noneOrder, List.foldl_flatten, List.foldl_map]

omit [Inhabited V] in
theorem Task.Indep.steps {t u : Task V} (h : t.Indep u) :
    ∀ a ∈ t.steps, ∀ b ∈ u.steps, a.Indep b := by
  intro a ha b hb
  -- a step's footprint lies in its job's; the two halves of `Indep` are one fact with `t`, `u` swapped
  have half : ∀ {t u : Task V} {a b : Step V}, a ∈ t.steps → b ∈ u.steps →
      (∀ c ∈ t.writes, c ∉ u.reads ∧ c ∉ u.writes) → ∀ c ∈ a.writes, c ∉ b.reads ∧ c ∉ b.writes :=
    fun ha hb h c hc =>
      ⟨fun hr => (h c (List.mem_flatMap_of_mem ha hc)).1 (List.mem_flatMap_of_mem hb hr),
        fun hw => (h c (List.mem_flatMap_of_mem ha hc)).2 (List.mem_flatMap_of_mem hb hw)⟩
  exact ⟨half ha hb h.1, half hb ha h.2⟩

omit [Inhabited V] in
theorem cross_of_pairwise_indep {ts : List (Task V)} (h : ts.Pairwise Task.Indep) :
    Cross Step.Indep (ts.map Task.steps) := by
  unfold Cross
  rw [List.pairwise_map]
  exact h.imp fun hi => hi.steps

theorem runSteps_interleaving {ts : List (Task V)} (hd : ts.Pairwise Task.Indep)
    {steps : List (Step V)} (hi : Interleaving (ts.map Task.steps) steps) (s : Store V) :
    runSteps steps s = runSteps (noneOrder ts) s :=
  foldl_interleaving (fun s a => Step.run a s) Step.Indep
    (fun _ _ h s => Step.run_comm h s) hi (cross_of_pairwise_indep hd) s

omit [Inhabited V] in
theorem Admissible.interleaving {p : Pool} {ts : List (Task V)} {steps : List (Step V)}
    (ha : Admissible p ts steps) : Interleaving (ts.map Task.steps) steps := by
  cases p with
  | none => rw [show steps = noneOrder ts from ha]; exact interleaving_flatten _
  | rayon n => exact ha

omit [Inhabited V] in
theorem noneOrder_interleaving {ts order : List (Task V)} (hp : order.Perm ts) :
    Interleaving (ts.map Task.steps) (noneOrder order) :=
  (interleaving_flatten _).perm (hp.map _)

theorem runTasks_perm {ts order : List (Task V)} (hd : ts.Pairwise Task.Indep)
    (hp : order.Perm ts) (s : Store V) : runTasks order s = runTasks ts s := by
  rw [runTasks_eq_noneOrder, runTasks_eq_noneOrder,
    runSteps_interleaving hd (noneOrder_interleaving hp)]

theorem execSteps_store_flag (l : List (Step V)) (st : St V) :
    (execSteps l st).store = (execStepsB l (st.store, st.slot.isSome)).1 ∧
    (execSteps l st).slot.isSome = (execStepsB l (st.store, st.slot.isSome)).2 := by
  induction l generalizing st with
  | nil => exact ⟨rfl, rfl⟩
  | cons a l ih =>
    have hflag : (a.exec st).slot.isSome = (a.execB (st.store, st.slot.isSome)).2 := by
      simp only [Step.exec, Step.execB]
      cases a.fail (restrict a.reads st.store) <;> simp
    have := ih (a.exec st)
    rw [hflag] at this
    exact this

theorem execStepsB_append (l m : List (Step V)) (st : Store V × Bool) :
    execStepsB (l ++ m) st = execStepsB m (execStepsB l st) := by
  simp [execStepsB]

theorem execStepsB_eq (l : List (Step V)) (s : Store V) (b : Bool) :
    execStepsB l (s, b) = (runSteps l s, b || (execStepsB l (s, false)).2) := by
  induction l generalizing s b with
  | nil => simp [execStepsB, runSteps]
  | cons a l ih =>
    show execStepsB l (a.execB (s, b)) = (runSteps l (a.run s), b || (execStepsB l (a.execB (s, false))).2)
    simp only [Step.execB]
    rw [ih, ih (b := false || _)]
    simp [Bool.or_assoc]

theorem execStepsB_flag_congr (l : List (Step V)) (s s' : Store V) (b : Bool)
    (h : ∀ c ∈ l.flatMap Step.reads, s c = s' c) :
    (execStepsB l (s, b)).2 = (execStepsB l (s', b)).2 := by
  induction l generalizing s s' b with
  | nil => rfl
  | cons a l ih =>
    have hr : restrict a.reads s = restrict a.reads s' :=
      restrict_congr fun c hc => h c (by simp [hc])
    show (execStepsB l (a.execB (s, b))).2 = (execStepsB l (a.execB (s', b))).2
    simp only [Step.execB, hr]
    apply ih
    intro c hc
    by_cases hw : c ∈ a.writes
    · simp [Step.run, hw, hr]
    · simp only [Step.run, hw, if_false]
      exact h c (by simp [hc])

theorem execStepsB_interleaving {ts : List (Task V)} (hd : ts.Pairwise Task.Indep)
    {steps : List (Step V)} (hi : Interleaving (ts.map Task.steps) steps) (st : Store V × Bool) :
    execStepsB steps st = execStepsB (noneOrder ts) st :=
  foldl_interleaving (fun st a => Step.execB a st) Step.Indep
    (fun _ _ h s => Step.execB_comm h s) hi (cross_of_pairwise_indep hd) st

/-- in the sequential order every job runs on a store that agrees with the initial one, `s₀`, on
what it reads -/
theorem execStepsB_noneOrder {ts : List (Task V)} (hd : ts.Pairwise Task.Indep)
    (s₀ s : Store V) (b : Bool) (hs : ∀ u ∈ ts, ∀ c ∈ u.reads, s c = s₀ c) :
    execStepsB (noneOrder ts) (s, b) = (runTasks ts s, b || ts.any fun t => t.failsAlone s₀) := by
  induction ts generalizing s b with
  | nil => simp [noneOrder, execStepsB, runTasks]
  | cons t ts ih =>
    obtain ⟨ht, hts⟩ := List.pairwise_cons.1 hd
    rw [show noneOrder (t :: ts) = t.steps ++ noneOrder ts from rfl, execStepsB_append,
      execStepsB_eq t.steps, execStepsB_flag_congr _ s s₀ false (hs t List.mem_cons_self),
      ih hts _ _ fun u hu c hc => (runSteps_frame _ _ fun hw => ((ht u hu).1 c hw).1 hc).trans
        (hs u (List.mem_cons_of_mem _ hu) c hc),
      List.any_cons, Bool.or_assoc]
    rfl

end steps

theorem runCache_lookup (v c : Nat) (evs : List CacheEv) :
    runCache v c (.lookup :: evs) =
      ((runCache v c evs).1, (if c = 0 then v else c) :: (runCache v c evs).2) := rfl

theorem runCache_store (v c x : Nat) (evs : List CacheEv) :
    runCache v c (.store x :: evs) = runCache v x evs := rfl

end Jxl.Tasks
