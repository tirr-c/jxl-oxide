import JxlModel.Model.Unchecked
/-! Lemmas for C02: `Bitstream::refill` by an invariant of the reader state (`Inv`), the ANS bucket
index by counting bits, the row accesses of the two squeeze kernels expression by expression, their
scratch writes as intervals. -/
namespace Jxl.Unchecked

theorem readBytes_le {rem : Nat} (h : rem ≤ 63) : readBytes rem ≤ 7 := by
  unfold readBytes W; omega

theorem or56_le {rem : Nat} (h : rem ≤ 63) : rem ||| 56 ≤ 63 := by
  have : rem ||| 56 < 2 ^ 6 := Nat.or_lt_two_pow (by omega) (by omega)
  omega

/-- What every reader operation keeps, for a buffer of `N` bytes: `remaining_buf_bits ≤ 63`, so
that `read_bytes ≤ 7`, and the slice is a suffix of the buffer. -/
def Inv (N : Nat) (s : Bs) : Prop := s.rem ≤ 63 ∧ s.len ≤ N

theorem refillSlow_inv {N : Nat} (fuel : Nat) (s : Bs) (h : Inv N s) : Inv N (refillSlow fuel s) := by
  induction fuel generalizing s with
  | zero => exact h
  | succ n ih =>
    unfold refillSlow
    split
    · apply ih; unfold Inv at *; simp only; omega
    · exact h

theorem refill_inv {N : Nat} (hN : N < W) (s : Bs) (h : Inv N s) :
    Inv N (refill s).1 ∧ ∀ e, (refill s).2 = some e → e.Safe ∧ e.len ≤ N := by
  unfold refill
  split
  · rename_i h8
    have hr := readBytes_le h.1
    have ho := or56_le h.1
    obtain ⟨h1, h2⟩ := h
    refine ⟨⟨ho, ?_⟩, ?_⟩
    · simp only; unfold W at *; omega
    · intro e he
      injection he with he; subst he
      refine ⟨⟨?_, ?_, ?_⟩, ?_⟩ <;> dsimp only <;> omega
  · exact ⟨refillSlow_inv 8 s h, by intro e he; cases he⟩

theorem consume_inv {N : Nat} (s : Bs) (n : Nat) (h : Inv N s) : Inv N (consume s n).1 := by
  unfold consume; split
  · unfold Inv at *; simp only; omega
  · exact h

theorem skipTail_inv {N : Nat} (hN : N < W) (s : Bs) (r : Nat) (h : Inv N s) :
    Inv N (skipTail s r).1 ∧ ∀ e, (skipTail s r).2.2 = some e → e.Safe ∧ e.len ≤ N := by
  have := refill_inv hN s h
  unfold skipTail
  split
  · refine ⟨?_, this.2⟩
    have h3 := this.1
    unfold Inv at *; simp only; omega
  · exact this

theorem skip_inv {N : Nat} (hN : N < W) (s : Bs) (n : Nat) (h : Inv N s) :
    Inv N (skip s n).1 ∧ ∀ e, (skip s n).2.2 = some e → e.Safe ∧ e.len ≤ N := by
  unfold skip
  split
  · refine ⟨?_, by intro e he; cases he⟩
    unfold Inv at *; simp only; omega
  · split
    · refine ⟨?_, by intro e he; cases he⟩
      unfold Inv at *; simp only; omega
    · apply skipTail_inv hN
      unfold Inv at *; simp only; omega

theorem step_inv {N : Nat} (hN : N < W) (s : Bs) (op : BsOp) (h : Inv N s) :
    Inv N (step s op).1 ∧ ∀ e ∈ (step s op).2.2, e.Safe ∧ e.len ≤ N := by
  have hr := refill_inv hN s h
  have hev : ∀ e ∈ (refill s).2.toList, e.Safe ∧ e.len ≤ N := fun e he =>
    hr.2 e (Option.mem_toList.1 he)
  cases op with
  | peek n => exact ⟨hr.1, hev⟩
  | consume n => exact ⟨consume_inv s n h, by intro e he; cases he⟩
  | read n => exact ⟨consume_inv _ n hr.1, hev⟩
  | skip n =>
    have := skip_inv hN s n h
    exact ⟨this.1, fun e he => this.2 e (Option.mem_toList.1 he)⟩
  | pad => exact ⟨consume_inv _ _ hr.1, hev⟩

theorem run_inv {N : Nat} (hN : N < W) (ops : List BsOp) (s : Bs) (h : Inv N s) :
    Inv N (run s ops).1 ∧ ∀ e ∈ (run s ops).2, e.Safe ∧ e.len ≤ N := by
  induction ops generalizing s with
  | nil => exact ⟨h, by intro e he; cases he⟩
  | cons op ops ih =>
    have h1 := step_inv hN s op h
    have h2 := ih (step s op).1 h1.1
    exact ⟨h2.1, fun e he => (List.mem_append.1 he).elim (h1.2 e) (h2.2 e)⟩

theorem buckets_length {β : Type} (mk : Nat → Nat → β) (dist : List Nat) :
    (buckets mk dist).length = dist.length := by
  simp [buckets]

/-- The 12 state bits shifted right by `12 - las` leave `las` bits: for every `log_alphabet_size` up
to 12 (the format has 5..8). -/
theorem ansIndex_lt_tableSize {las : Nat} (h : las ≤ 12) (state : Nat) :
    ansIndex state (logBucketSize las) < tableSize las := by
  have hl : logBucketSize las = 12 - las := by
    unfold logBucketSize
    omega
  have ht : tableSize las = 2 ^ las := by
    unfold tableSize
    rw [Nat.one_shiftLeft]
    exact Nat.mod_eq_of_lt (Nat.pow_lt_pow_right (by decide) (by omega : las < 16))
  have hm : state &&& 0xfff < 2 ^ (las + (12 - las)) := by
    rw [Nat.add_sub_cancel' h]
    exact Nat.and_lt_two_pow _ (by decide)
  rw [ansIndex, hl, ht, Nat.shiftRight_eq_div_pow, Nat.div_lt_iff_lt_mul (Nat.two_pow_pos _),
    ← Nat.pow_add]
  exact hm

theorem forall_mem_ite_nil {α : Type} {c : Prop} [Decidable c] {l : List α} {P : α → Prop} :
    (∀ e, e ∈ (if c then l else []) → P e) ↔ (c → ∀ e, e ∈ l → P e) := by
  split <;> simp [*]

/-- an entry of the plan is `(offset, lanes, write)` -/
theorem rowPlan_bounds {k : Kernel} {w : Nat} (hw : k.minWidth < w) :
    ∀ e ∈ rowPlan k w, e.1 + e.2.1 ≤ w ∧ 1 ≤ e.2.1 := by
  -- `avgWidth` stays folded: the `Decidable` instances of the plan's `if`s mention it
  have hA : avgWidth w = (w + 1) / 2 := rfl
  cases k <;>
  · simp only [Kernel.minWidth] at hw
    -- one goal per access expression of the kernel, each linear in `w / 8`, `(A - 1) / 16` and so on
    simp only [rowPlan, rowPlanAvx2, rowPlanSse41, List.forall_mem_append, forall_mem_ite_nil,
      List.forall_mem_flatMap, List.forall_mem_map, List.forall_mem_cons, List.mem_range,
      List.not_mem_nil, false_imp_iff, implies_true, and_true]
    and_intros <;> intros <;> omega

/-! The scratch is written in pairs `(b + 2 * dx, b + 2 * dx + 1)`, eight of them an interval of 16
(`pairs_eq`). The main loop fills `(avg_width - 1) / 8` blocks of 16 indices from 0 (AVX2: blocks of
32 and one half block), the tail loop the rest below `width / 2 * 2`, and an odd width has one more
element. -/

theorem blocks_eq (b s : Nat) : ∀ n, (List.range n).flatMap (fun x => List.range' (b + x * s) s) =
    List.range' b (n * s)
  | 0 => by simp
  | n + 1 => by
    rw [List.range_succ, List.flatMap_append, blocks_eq b s n, List.flatMap_singleton,
      List.range'_append_1, Nat.succ_mul]

theorem blocks0_eq (s n : Nat) : (List.range n).flatMap (fun x => List.range' (x * s) s) =
    List.range' 0 (n * s) := by
  simpa using blocks_eq 0 s n

theorem pairs_eq (b n : Nat) :
    (List.range n).flatMap (fun dx : Nat => [b + dx * 2, b + dx * 2 + 1]) = List.range' b (n * 2) :=
  blocks_eq b 2 n

/-- `from` is the number of pairs missing to the next multiple of 8 above `width / 2` (any `usize`
width: 8 divides `2^64`), so the tail loop starts at the last multiple of 16 below `width / 2 * 2`. -/
theorem tail_start {w : Nat} (hw : 16 ≤ w) :
    w / 2 * 2 - (8 - tailFrom w) * 2 = (w / 2 - 1) / 8 * 16 := by
  have hh : 8 ≤ w / 2 := by omega
  unfold tailFrom W
  generalize w / 2 = h at hh ⊢
  omega

theorem exists_pair_index {b i : Nat} (h : b ≤ i) : ∃ t, i = b + t * 2 ∨ i = b + t * 2 + 1 :=
  ⟨(i - b) / 2, by omega⟩

theorem mem_tailWrites {w i : Nat} (hw : 16 ≤ w) :
    i ∈ tailWrites w ↔ (w / 2 - 1) / 8 * 16 ≤ i ∧ i < w / 2 * 2 := by
  rw [← tail_start hw]
  simp only [tailWrites, List.mem_flatMap, List.mem_filter, List.mem_range, decide_eq_true_eq,
    List.mem_cons, List.not_mem_nil, or_false]
  have hf : tailFrom w < 8 := Nat.mod_lt _ (by decide)
  have he : 16 ≤ w / 2 * 2 := by omega
  generalize tailFrom w = f at hf ⊢
  generalize w / 2 * 2 = e at he ⊢
  constructor
  · rintro ⟨j, ⟨hj, hfj⟩, rfl | rfl⟩ <;> omega
  · rintro ⟨hb, he⟩
    obtain ⟨t, ht⟩ := exists_pair_index hb
    exact ⟨f + t, ⟨by omega, by omega⟩, by omega⟩

/-- What both kernels write after the main loop is exactly what its `(avg_width - 1) / 8` blocks of
16 leave over. -/
theorem mem_scratch_rest {w i : Nat} (hw : 16 < w) :
    (i < (avgWidth w - 1) / 8 * 16 ∨
      i ∈ (if (avgWidth w - 1) % 8 ≠ 0 ∨ w % 2 = 0 then tailWrites w else []) ∨
      i ∈ (if w % 2 = 1 then [w - 1] else [])) ↔ i < w := by
  rw [List.mem_ite_nil_right, List.mem_ite_nil_right, mem_tailWrites (by omega), List.mem_singleton]
  unfold avgWidth
  omega

theorem mem_scratchWrites {k : Kernel} {w i : Nat} (hw : k.minWidth < w) :
    i ∈ scratchWrites k w ↔ i < w := by
  cases k
  · have hw : 32 < w := hw
    -- blocks of 32 and the half block are the blocks of 16
    have hmain : (i < (avgWidth w - 1) / 16 * 32 ∨ (avgWidth w - 1) % 16 ≥ 8 ∧
        (avgWidth w - 1) / 16 * 32 ≤ i ∧ i < (avgWidth w - 1) / 16 * 32 + 8 * 2) ↔
          i < (avgWidth w - 1) / 8 * 16 := by
      generalize avgWidth w - 1 = n
      omega
    rw [← mem_scratch_rest (by omega : 16 < w), ← hmain]
    simp only [scratchWrites, scratchWritesAvx2, pairs_eq, List.range'_append_1, blocks0_eq,
      List.mem_append, List.mem_range'_1, List.mem_ite_nil_right, or_assoc, Nat.zero_le, true_and,
      Nat.zero_add]
  · rw [← mem_scratch_rest hw]
    simp only [scratchWrites, scratchWritesSse41, pairs_eq, blocks0_eq, List.mem_append,
      List.mem_range'_1, or_assoc, Nat.zero_le, true_and, Nat.zero_add]

theorem writtenBeforeRead_of_cover {w : Nat} {ws : List Nat} (hws : ∀ i, i ∈ ws ↔ i < w) :
    WrittenBeforeRead w (ws.map ScratchEv.write ++ (List.range w).map ScratchEv.read) := by
  have mem_read : ∀ i, ScratchEv.read i ∈ ws.map ScratchEv.write ++ (List.range w).map .read →
      i < w := by
    intro i hi
    simpa using hi
  constructor
  · rintro i (hi | hi)
    · exact (hws i).1 (by simpa using hi)
    · exact mem_read i hi
  · intro pre post i h
    have hi : i < w := mem_read i (by rw [h]; simp)
    have hwr : ScratchEv.write i ∈ ws.map ScratchEv.write := List.mem_map.2 ⟨i, (hws i).2 hi, rfl⟩
    -- `pre` ends inside the reads, or it is a prefix of the writes followed by a read
    rcases List.append_eq_append_iff.1 h with ⟨a', h1, _⟩ | ⟨c', h1, h2⟩
    · rw [h1]
      exact List.mem_append_left _ hwr
    · cases c' with
      | nil => rwa [h1, List.append_nil] at hwr
      | cons x xs =>
        injection h2 with hx _
        have : ScratchEv.read i ∈ ws.map ScratchEv.write := by rw [h1, hx]; simp
        simp at this

end Jxl.Unchecked
