import JxlModel.Model.JpegBits
import JxlModel.Proofs.Util
/-! Lemmas for C17 on `bit_writer.rs` and the status query: bytes from bits, packing and stuffing,
`has_ff_byte`, the writer's invariant with its consequences, the expected lengths and `status` as a
chain of early returns. -/
namespace Jxl.JpegBits

theorem testBit_foldl_bits (f : Nat → Bool) (n j : Nat) (h : j < n) :
    ((List.range n).foldl (fun acc j => 2 * acc + (f j).toNat) 0).testBit (n - 1 - j) = f j := by
  induction n with
  | zero => omega
  | succ n ih =>
    rw [List.range_succ, List.foldl_append, List.foldl_cons, List.foldl_nil]
    generalize (List.range n).foldl _ 0 = a at ih
    by_cases hj : j = n
    · subst hj
      cases f j <;> simp
    · have hb := Bool.toNat_lt (f n)
      rw [show n + 1 - 1 - j = n - 1 - j + 1 by omega, Nat.testBit_succ,
        show (2 * a + (f n).toNat) / 2 = a by omega]
      exact ih (by omega)

theorem bitsToByte_getMsbD (f : Nat → Bool) (j : Nat) (hj : j < 8) :
    (bitsToByte f).getMsbD j = f j := by
  rw [bitsToByte, BitVec.getMsbD_eq_getLsbD, BitVec.getLsbD_ofNat, testBit_foldl_bits f 8 j hj]
  simp [hj]
  omega

theorem bitsToByte_congr (f g : Nat → Bool) (h : ∀ j, j < 8 → f j = g j) :
    bitsToByte f = bitsToByte g := by
  apply BitVec.eq_of_getMsbD_eq
  intro j hj
  rw [bitsToByte_getMsbD f j hj, bitsToByte_getMsbD g j hj, h j hj]

theorem byteOf_getMsbD (v : BitVec 64) (k j : Nat) (hk : k < 8) (hj : j < 8) :
    (byteOf v k).getMsbD j = v.getMsbD (8 * k + j) := by
  rw [byteOf, BitVec.getMsbD_setWidth, BitVec.getMsbD_ushiftRight,
    show j + 64 - 8 - (7 - k) * 8 = 8 * k + j by omega]
  simp [show j + 56 < 64 by omega, show ¬j + 56 < (7 - k) * 8 by omega]

theorem packBE_length (l : List Bool) : (packBE l).length = l.length / 8 := by
  simp [packBE]

theorem packBE_append (a b : List Bool) (h : a.length % 8 = 0) :
    packBE (a ++ b) = packBE a ++ packBE b := by
  unfold packBE
  have hl : (a ++ b).length / 8 = a.length / 8 + b.length / 8 := by
    simp only [List.length_append]; omega
  rw [hl, List.range_add, List.map_append, List.map_map]
  -- the two halves separately (`congr 1` is slow here)
  refine congr (congrArg HAppend.hAppend ?_) ?_
  · apply List.map_congr_left
    intro k hk
    simp only [List.mem_range] at hk
    apply bitsToByte_congr
    intro j hj
    exact getD_append_left a b false _ (by omega)
  · apply List.map_congr_left
    intro k _
    simp only [Function.comp_apply]
    apply bitsToByte_congr
    intro j hj
    rw [getD_append_right a b false _ (by omega)]
    congr 1
    omega

theorem stuff_append (a b : List Byte) : stuff (a ++ b) = stuff a ++ stuff b :=
  List.flatMap_append

theorem foldl_emitByte (bs : List Byte) (out : List Byte) :
    bs.foldl emitByte out = out ++ stuff bs := by
  induction bs generalizing out with
  | nil => simp [stuff]
  | cons b bs ih =>
    simp only [List.foldl_cons, ih, emitByte, stuff, List.flatMap_cons]
    split <;> simp

theorem stuff_eq_self (bs : List Byte) (h : ∀ b ∈ bs, b ≠ 0xFF#8) : stuff bs = bs := by
  induction bs with
  | nil => rfl
  | cons b bs ih =>
    rw [List.forall_mem_cons] at h
    rw [stuff, List.flatMap_cons, if_neg h.1, ← stuff, ih h.2]
    rfl

/-! `has_ff_byte`: the test `(!v - 0x01…01) & v & 0x80…80 ≠ 0` is looked at on the natural numbers, for
words of any number of bytes, lowest byte first, the way the borrow runs. -/

/-- `n` bytes `0x01` -/
def ones : Nat → Nat
  | 0 => 0
  | n + 1 => 256 * ones n + 1

theorem ones_mul (n : Nat) : 255 * ones n + 1 = 256 ^ n := by
  induction n with
  | zero => rfl
  | succ n ih => rw [ones, Nat.pow_succ, ← ih]; omega

/-- `!m - 0x01…01` on words of `n` bytes, before the reduction mod `256 ^ n`: `!m` is
`256 ^ n - 1 - m`, and subtracting `c` is adding `256 ^ n - c`. -/
def notSubOnes (n m : Nat) : Nat := 256 ^ n - 1 - m + (256 ^ n - ones n)

/-- The lowest byte `b` becomes `254 - b` with no borrow from the rest, or `0xFF` for `b = 0xFF`:
both are `(510 - b) % 256`, `510 = 254 + 256` keeping the subtraction in `Nat` exact. -/
theorem notSubOnes_succ (n m : Nat) (hm : m < 256 ^ (n + 1)) :
    notSubOnes (n + 1) m % 256 = (510 - m % 256) % 256 ∧
    (m % 256 < 255 → notSubOnes (n + 1) m / 256 = notSubOnes n (m / 256)) := by
  have e : notSubOnes (n + 1) m + m % 256 = 256 * notSubOnes n (m / 256) + 254 := by
    have := ones_mul n
    simp only [notSubOnes, ones, Nat.pow_succ] at *
    omega
  omega

/-- `has_ff_byte` on words of `n` bytes; the mask `0x80…80` is `128 * 0x01…01` -/
def swar (n m : Nat) : Nat := notSubOnes n m % 256 ^ n &&& m &&& 128 * ones n

/-- `(254 - b) & b` has its top bit clear, the two adding up to less than 256; `0xFF & 0xFF` has it
set. (`b / 255` is 1 for `b = 0xFF` and 0 below.) -/
theorem byte_mask : ∀ b, b < 256 → (510 - b) % 256 &&& b &&& 128 = 128 * (b / 255) := by
  decide +kernel

/-- The lowest byte of the test word says whether the lowest byte of `m` is `0xFF`; if it is not,
the rest of the test word is the test word of the rest of `m`. -/
theorem swar_succ (n m : Nat) (hm : m < 256 ^ (n + 1)) :
    swar (n + 1) m ≠ 0 ↔ m % 256 = 255 ∨ swar n (m / 256) ≠ 0 := by
  obtain ⟨hmod, hdiv⟩ := notSubOnes_succ n m hm
  have h0 : swar (n + 1) m % 256 = 128 * (m % 256 / 255) := by
    rw [swar, Nat.and_mod_two_pow (n := 8), Nat.and_mod_two_pow (n := 8), Nat.pow_succ,
      Nat.mod_mod_of_dvd _ (Nat.dvd_mul_left ..), hmod, ones,
      show 128 * (256 * ones n + 1) % 256 = 128 by omega, byte_mask _ (Nat.mod_lt _ (by omega))]
  have h1 : m % 256 < 255 → swar (n + 1) m / 256 = swar n (m / 256) := by
    intro h
    rw [swar, Nat.and_div_two_pow (n := 8), Nat.and_div_two_pow (n := 8), Nat.pow_succ, Nat.mul_comm,
      Nat.mod_mul_right_div_self, hdiv h, ones,
      show 128 * (256 * ones n + 1) / 256 = 128 * ones n by omega, swar]
  omega

/-- the `n` low bytes of `m`, lowest first -/
def bytesLE : Nat → Nat → List Nat
  | 0, _ => []
  | n + 1, m => m % 256 :: bytesLE n (m / 256)

theorem swar_ne_zero : ∀ n m, m < 256 ^ n → (swar n m ≠ 0 ↔ 255 ∈ bytesLE n m)
  | 0, m, _ => by simp [swar, bytesLE, Nat.mod_one]
  | n + 1, m, hm => by
    rw [swar_succ n m hm, swar_ne_zero n (m / 256) (by rw [Nat.pow_succ] at hm; omega), bytesLE,
      List.mem_cons, eq_comm]

theorem beBytes_toNat (v : BitVec 64) :
    (beBytes v).map BitVec.toNat = (bytesLE 8 v.toNat).reverse := by
  simp [beBytes, bytesLE, byteOf, List.range_succ, Nat.shiftRight_eq_div_pow, Nat.div_div_eq_div_mul]

theorem hasFFByte_eq_true_iff (v : BitVec 64) : hasFFByte v = true ↔ ∃ b ∈ beBytes v, b = 0xFF#8 := by
  have h : hasFFByte v = true ↔ swar 8 v.toNat ≠ 0 := by
    -- both sides are `(2^64 - 0x01…01 + (2^64 - 1 - v)) % 2^64 &&& v &&& 0x80…80 ≠ 0`
    simp [hasFFByte, swar, notSubOnes, ones, ← BitVec.toNat_inj, BitVec.toNat_sub, Nat.add_comm]
  rw [h, swar_ne_zero 8 _ v.isLt, ← List.mem_reverse, ← beBytes_toNat]
  simp [← BitVec.toNat_inj]

def Agree (buf : BitVec 64) (tail : List Bool) : Prop :=
  ∀ i, i < 64 → buf.getMsbD i = tail.getD i false

/-- `bits` = everything written so far: the part before the accumulator has been emitted
(packed and stuffed), the rest is in the accumulator. -/
def Inv (s : BW) (bits : List Bool) : Prop :=
  s.valid < 64 ∧ ∃ full tail, bits = full ++ tail ∧ full.length % 8 = 0 ∧ tail.length = s.valid ∧
    s.output = stuff (packBE full) ∧ Agree s.buf tail

theorem inv_new : Inv BW.new [] :=
  ⟨by decide, [], [], rfl, rfl, rfl, rfl, fun i _ => by simp [BW.new]⟩

theorem inv_length_mod (s : BW) (bits : List Bool) (hinv : Inv s bits) :
    bits.length % 8 = s.valid % 8 := by
  obtain ⟨_, full, tail, hbits, hfull, htail, _, _⟩ := hinv
  rw [hbits, List.length_append, htail]; omega

theorem emit_eq_stuff (v : BitVec 64) (out bs : List Byte) (hbs : bs ⊆ beBytes v) :
    (if !hasFFByte v then out ++ bs else bs.foldl emitByte out) = out ++ stuff bs := by
  cases h : hasFFByte v with
  | false =>
    rw [stuff_eq_self bs fun b hb e => Bool.false_ne_true (h ▸ (hasFFByte_eq_true_iff v).2 ⟨b, hbs hb, e⟩)]
    rfl
  | true => exact foldl_emitByte bs out

theorem flushBuf_eq (s : BW) (next : BitVec 64) :
    flushBuf s next =
      { output := s.output ++ stuff (beBytes s.buf), buf := next, valid := s.valid - 64 } := by
  rw [flushBuf, emit_eq_stuff s.buf s.output _ (List.Subset.refl _)]

theorem packBE_of_word (out : BitVec 64) (l : List Bool) (n : Nat) (hn : n ≤ 8)
    (hlen : l.length = 8 * n) (hag : Agree out l) :
    packBE l = (List.range n).map (byteOf out) := by
  unfold packBE
  have : l.length / 8 = n := by omega
  rw [this]
  apply List.map_congr_left
  intro k hk
  simp only [List.mem_range] at hk
  apply BitVec.eq_of_getMsbD_eq
  intro j hj
  rw [bitsToByte_getMsbD _ j hj, byteOf_getMsbD out k j (by omega) hj, hag _ (by omega)]

theorem opBits_huff_length (w : BitVec 64) (len : Nat) : (opBits (.huff w len)).length = len := by
  simp [opBits]

theorem opBits_huff_getD (w : BitVec 64) (len i : Nat) (hwf : ∀ i, len ≤ i → w.getMsbD i = false) :
    (opBits (.huff w len)).getD i false = w.getMsbD i := by
  simp only [opBits, List.getD_eq_getElem?_getD]
  by_cases h : i < len
  · simp [h]
  · simp [h, hwf i (by omega)]

theorem agree_or (buf w : BitVec 64) (tail : List Bool) (len : Nat)
    (hag : Agree buf tail) (hwf : ∀ i, len ≤ i → w.getMsbD i = false) :
    Agree (buf ||| (w >>> tail.length)) (tail ++ opBits (.huff w len)) := by
  intro i hi
  rw [BitVec.getMsbD_or, BitVec.getMsbD_ushiftRight, hag i hi]
  by_cases h : i < tail.length
  · rw [getD_append_left _ _ _ _ h]
    simp [h]
  · have h' : tail.length ≤ i := by omega
    rw [getD_append_right _ _ _ _ h', opBits_huff_getD w len _ hwf, getD_of_length_le _ _ _ h']
    simp [h', hi]

/-- What a call does to a writer that has written `bits`: `r` is the result, `bits'` what has been
written after it, `long` the excuse for a panic. -/
abbrev Outcome (r : Option BW) (bits' : List Bool) (long : Prop) : Prop :=
  match r with
  | some s' => Inv s' bits'
  | none => long

/-- Of the three panics one is left: a flush out of an empty accumulator, `valid = 0` and
`len ≥ 64`. -/
theorem writeHuffman_eq (s : BW) (w : BitVec 64) (len : Nat) (hv : s.valid < 64) :
    writeHuffman s w len =
      if s.valid + len < 64 then
        some { s with buf := s.buf ||| w >>> s.valid, valid := s.valid + len }
      else if s.valid = 0 then none
      else some (flushBuf { s with buf := s.buf ||| w >>> s.valid, valid := s.valid + len }
        (w <<< (64 - s.valid))) := by
  simp only [writeHuffman]
  rw [if_neg (by omega)]
  by_cases h : s.valid + len < 64
  · rw [if_neg (by omega), if_pos h]
  · rw [if_pos (by omega), if_neg (by omega), if_neg h,
      show len - (s.valid + len - 64) = 64 - s.valid by omega]
    by_cases h0 : s.valid = 0
    · rw [if_pos (by omega), if_pos h0]
    · rw [if_neg (by omega), if_neg h0]

theorem writeHuffman_spec (s : BW) (bits : List Bool) (w : BitVec 64) (len : Nat)
    (hinv : Inv s bits) (hwf : (Op.huff w len).WF) :
    Outcome (writeHuffman s w len) (bits ++ opBits (.huff w len)) (63 < len) := by
  obtain ⟨hv, full, tail, rfl, hfull, htail, hout, hag⟩ := hinv
  have hlen := hwf.1
  have hag' := agree_or s.buf w tail len hag hwf.2
  rw [htail] at hag'
  let all := tail ++ opBits (.huff w len)
  have hall : all.length = s.valid + len := by simp [all, htail, opBits_huff_length]
  rw [writeHuffman_eq s w len hv]
  split
  · exact ⟨‹_›, full, all, List.append_assoc .., hfull, hall, hout, hag'⟩
  split
  · show 63 < len
    omega
  -- the accumulator is full: its first 64 bits go out, the rest of the code stays
  have htake : (all.take 64).length = 64 := by rw [List.length_take, hall]; omega
  rw [flushBuf_eq]
  refine ⟨?_, full ++ all.take 64, all.drop 64, ?_, ?_, ?_, ?_, ?_⟩
  · show s.valid + len - 64 < 64
    omega
  · rw [List.append_assoc, List.append_assoc, List.take_append_drop]
  · rw [List.length_append, htake]; omega
  · rw [List.length_drop, hall]
  · rw [packBE_append _ _ hfull, stuff_append, ← hout, packBE_of_word (s.buf ||| w >>> s.valid)
      (all.take 64) 8 (by omega) htake
      fun i hi => (hag' i hi).trans (getD_take all 64 i false hi).symm]
    rfl
  · intro i hi
    have h' : tail.length ≤ 64 + i := by omega
    rw [BitVec.getMsbD_shiftLeft, List.getD_eq_getElem?_getD, List.getElem?_drop,
      ← List.getD_eq_getElem?_getD, getD_append_right _ _ _ _ h', opBits_huff_getD w len _ hwf.2]
    exact congrArg _ (by omega)

theorem opBits_raw (b : BitVec 64) (len : Nat) (hl : len ≤ 64) :
    opBits (.raw b len) = opBits (.huff (b <<< (64 - len)) len) := by
  apply List.map_congr_left
  intro i hi
  rw [List.mem_range] at hi
  rw [BitVec.getMsbD_shiftLeft, BitVec.getMsbD_eq_getLsbD, decide_eq_true (by omega), Bool.true_and]
  congr 1
  omega

theorem wf_shiftLeft_top (b : BitVec 64) (len : Nat) (hl : len ≤ 64) :
    (Op.huff (b <<< (64 - len)) len).WF :=
  ⟨hl, fun i hi => by rw [BitVec.getMsbD_shiftLeft]; exact BitVec.getMsbD_of_ge _ _ (by omega)⟩

theorem step_spec (s : BW) (bits : List Bool) (op : Op) (hinv : Inv s bits) (hwf : op.WF) :
    Outcome (step s op) (bits ++ opBits op) (63 < op.len) := by
  cases op with
  | huff w len => exact writeHuffman_spec s bits w len hinv hwf
  | raw b len =>
    rw [step, writeRaw]
    split
    · next h0 => subst h0; simpa [opBits] using hinv
    split
    · show 63 < len
      omega
    · have hl : len ≤ 64 := by omega
      rw [opBits_raw b len hl]
      exact writeHuffman_spec s bits _ len hinv (wf_shiftLeft_top b len hl)

theorem runFrom_inv (s s' : BW) (ops : List Op) (bits : List Bool) (hinv : Inv s bits)
    (hwf : ∀ op ∈ ops, op.WF) (h : runFrom s ops = some s') : Inv s' (bits ++ specBits ops) := by
  fun_induction runFrom s ops generalizing bits with
  | case1 s => cases h; simpa [specBits] using hinv
  | case2 => cases h
  | case3 s op ops s1 hs ih =>
    rw [List.forall_mem_cons] at hwf
    have hinv1 := step_spec s bits op hinv hwf.1
    rw [hs] at hinv1
    rw [specBits, List.flatMap_cons, ← List.append_assoc]
    exact ih _ hinv1 hwf.2 h

theorem runFrom_some (s : BW) (ops : List Op) (bits : List Bool) (hinv : Inv s bits)
    (hwf : ∀ op ∈ ops, op.WF) (hl : ∀ op ∈ ops, op.len ≤ 63) : ∃ s', runFrom s ops = some s' := by
  induction ops generalizing s bits with
  | nil => exact ⟨s, rfl⟩
  | cons op ops ih =>
    rw [List.forall_mem_cons] at hwf hl
    have h1 := step_spec s bits op hinv hwf.1
    rw [runFrom]
    cases hs : step s op with
    | none => rw [hs] at h1; exact absurd hl.1 (Nat.not_le.2 h1)
    | some s1 => rw [hs] at h1; exact ih s1 _ h1 hwf.2 hl.2

theorem finalize_of_inv (s : BW) (bits : List Bool) (hinv : Inv s bits) :
    finalize s = stuff (packBE (padZero bits)) := by
  obtain ⟨hv, full, tail, rfl, hfull, htail, hout, hag⟩ := hinv
  -- the zeros go behind `tail`, where the accumulator has zeros as well
  have hpad : padZero (full ++ tail) = full ++ padZero tail := by
    rw [padZero, padZero, List.append_assoc, List.length_append, Nat.add_mod, hfull, Nat.zero_add,
      Nat.mod_mod]
  simp only [finalize]
  generalize hn : (s.valid + 7) / 8 = n
  have hlen : (padZero tail).length = 8 * n := by
    simp only [padZero, List.length_append, List.length_replicate, htail]; omega
  have htake : (beBytes s.buf).take n = (List.range n).map (byteOf s.buf) := by
    rw [beBytes, ← List.map_take, List.take_range, Nat.min_eq_left (by omega)]
  rw [hpad, packBE_append _ _ hfull, stuff_append, ← hout, packBE_of_word s.buf _ n
    (by omega) hlen fun i hi => (hag i hi).trans (getD_append_replicate tail _ i false).symm, ← htake]
  split
  · next h0 => rw [h0]; exact (List.append_nil _).symm
  · exact emit_eq_stuff s.buf s.output _ (List.take_subset ..)

/-- `Op.WF` speaks of all `i`; bit positions from 64 on read `false` anyway. -/
def Op.wfBool : Op → Bool
  | .huff w len => decide (len ≤ 64) && (List.range 64).all (fun i => !decide (len ≤ i) || !w.getMsbD i)
  | .raw _ _ => true

theorem wf_of_wfBool (op : Op) (h : op.wfBool = true) : op.WF := by
  cases op with
  | raw _ _ => trivial
  | huff w len =>
    simp only [Op.wfBool, Bool.and_eq_true, decide_eq_true_eq, List.all_eq_true, List.mem_range,
      Bool.or_eq_true, Bool.not_eq_true'] at h
    refine ⟨h.1, fun i hi => ?_⟩
    by_cases h64 : i < 64
    · rcases h.2 i h64 with h' | h'
      · simp at h'; omega
      · exact h'
    · simp [BitVec.getMsbD, h64]

theorem wf_of_all_wfBool (ops : List Op) (h : ops.all Op.wfBool = true) : ∀ op ∈ ops, op.WF := by
  intro op hop
  exact wf_of_wfBool op (List.all_eq_true.1 h op hop)

theorem expectedIccLen_total (app : List AppMarker) (h : ∀ am ∈ app, appMarkerOk am = true) :
    ∃ n, expectedIccLen app = some n := by
  induction app with
  | nil => exact ⟨0, rfl⟩
  | cons am rest ih =>
    rw [List.forall_mem_cons] at h
    obtain ⟨n, hn⟩ := ih h.2
    unfold expectedIccLen
    split
    next ht =>
      have hok := h.1
      simp only [appMarkerOk, ht, decide_eq_true_eq] at hok
      simp [subChk, hok, hn]
    next => exact ⟨n, hn⟩

theorem expectedFirstLen_total (ty hdr : Nat) (app : List AppMarker)
    (h : ∀ am ∈ app, am.ty = ty → 3 + hdr ≤ am.length) :
    ∃ n, expectedFirstLen ty hdr app = some n := by
  unfold expectedFirstLen
  split
  next => exact ⟨0, rfl⟩
  next am hf =>
    exact ⟨_, if_pos (h am (List.mem_of_find?_eq_some hf) (by simpa using List.find?_some hf))⟩

/-- One metadata check of `jpeg_reconstruction_status` (ICC, Exif and XMP go the same way): a panic
if the length accessor underflowed; if the header expects something of this kind, an early return
`ra` when `a` holds, else `rb` when `b` holds; otherwise on to `rest`. -/
def stage (len : Option Nat) (a b : Bool) (ra rb rest : Status) : Status :=
  match len with
  | none => .panic
  | some n => if n > 0 && a then ra else if n > 0 && b then rb else rest

/-- How `status` passes on the verdict on the first frame: `r` stands in for `available`. -/
def onAvailable (s r : Status) : Status :=
  match s with
  | .available => r
  | s => s

theorem status_eq (f : Facts) : status f =
    match f.jbrd with
    | .data =>
      if f.exifErr then .invalid
      else
        stage (expectedIccLen f.app) (!f.wantIcc) (!f.hasIcc) .invalid .needMoreData <|
        stage (expectedExifLen f.app) (f.exif = .decoding) (f.exif = .notFound) .needMoreData .invalid <|
        stage (expectedXmpLen f.app) (f.xml = .decoding) (f.xml = .notFound) .needMoreData .invalid <|
        onAvailable (frameStatus f) (if f.loadedFrames = 0 then .needMoreData else .available)
    | .decoding => onAvailable (frameStatus f) .needMoreData
    | .notFound => .unavailable := rfl

theorem stage_none (a b : Bool) (ra rb rest : Status) : stage none a b ra rb rest = .panic := rfl

/-- used with `t = available` and with `t = panic` -/
theorem stage_some_eq {n : Nat} {a b : Bool} {ra rb rest t : Status} (ha : ra ≠ t) (hb : rb ≠ t) :
    stage (some n) a b ra rb rest = t ↔ (n > 0 → a = false ∧ b = false) ∧ rest = t := by
  rcases n with _ | n
  · simp [stage]
  · cases a <;> cases b <;> simp [stage, ha, hb]

theorem onAvailable_eq_available (s r : Status) :
    onAvailable s r = .available ↔ s = .available ∧ r = .available := by
  cases s <;> simp [onAvailable]

theorem onAvailable_ne_panic {s r : Status} (hs : s ≠ .panic) (hr : r ≠ .panic) :
    onAvailable s r ≠ .panic := by
  cases s
  case available => exact hr
  all_goals exact hs

theorem frameStatus_spec (f : Facts) :
    (frameStatus f = .available ↔ f.loadedFrames < 2 ∧ f.frame0 = some (true, true)) ∧
      frameStatus f ≠ .panic := by
  unfold frameStatus
  by_cases h2 : f.loadedFrames ≥ 2
  · simp [h2]; omega
  · rcases f.frame0 with _ | ⟨a, b⟩
    · simp [h2]
    · cases a <;> cases b <;> simp [h2] <;> omega

theorem aux_eq_data (x : Aux) : x ≠ .decoding ∧ x ≠ .notFound ↔ x = .data := by
  cases x <;> decide

end Jxl.JpegBits
