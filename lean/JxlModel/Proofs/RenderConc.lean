import JxlModel.Proofs.RenderState
/-!
# Many threads on the render handles (C20)

`SysInv`: a handle is `Rendering` iff exactly one thread owns it, and a sleeper waits for a
`Rendering` handle below its innermost bound. It is carried along as a count, `CntInv`; the `Shape`
of a step says the same of the one thread that steps, so the step keeps the count by arithmetic
(`cntInv_step`). Owners only wait for handles below what they own, so some unfinished thread is
always awake (`deadlock_free`). `SysVal`: every stored or returned image is the clean one.
-/
namespace Jxl.RenderState

/-- effect of `notify_all` (if any) on one thread -/
def wakeIf (ntf : Option Nat) (th : Thread) : Thread :=
  match ntf with
  | some i => if th.asleep = some i then { th with asleep := none } else th
  | none => th

@[simp] theorem wakeIf_acts (ntf : Option Nat) (th : Thread) : (wakeIf ntf th).acts = th.acts := by
  unfold wakeIf; split
  · split <;> rfl
  · rfl

theorem wakeIf_asleep {ntf : Option Nat} {th : Thread} {i : Nat}
    (h : (wakeIf ntf th).asleep = some i) : th.asleep = some i ∧ ntf ≠ some i := by
  unfold wakeIf at h
  split at h
  · split at h
    · cases h
    · rename_i hne
      exact ⟨h, fun hj => by cases hj; exact hne h⟩
  · exact ⟨h, nofun⟩

theorem map_wakeIf_none (ths : List Thread) : ths.map (wakeIf none) = ths :=
  List.map_id' ths

theorem sysNext_eq {cfg : Config} {cd : Codec} {var : Variant} {σ σ' : Sys} {l : Label}
    (h : sysNext cfg cd var σ l = some σ') :
    ∃ t th hs' th' ntf c, σ.ths[t]? = some th ∧
      σ' = { hs := hs', ths := (σ.ths.set t th').map (wakeIf ntf), clobbered := c } ∧
      (var = .fixed → c = σ.clobbered) ∧
      (TStep cfg cd var σ.hs th hs' th' ntf ∨
        hs' = σ.hs ∧ th' = { th with asleep := none } ∧ ntf = none) := by
  cases l with
  | run t ch =>
    simp only [sysNext, sysStep] at h
    split at h
    · cases h
    · rename_i th hth
      split at h
      · cases h
      · rename_i hrun
        simp only [Bool.or_eq_true, not_or, Bool.not_eq_true, Thread.finished,
          List.isEmpty_eq_false_iff, Option.isSome_eq_false_iff, Option.isNone_iff_eq_none] at hrun
        cases h
        refine ⟨t, th, _, _, _, σ.clobbered || (stepThread cfg cd var ch σ.hs th).clob, hth, ?_,
          fun hv => by subst hv; simp [stepThread_clob_fixed],
          .inl (stepThread_spec cfg cd var ch σ.hs th hrun.1 hrun.2)⟩
        cases (stepThread cfg cd var ch σ.hs th).notify with
        | none => simp only [map_wakeIf_none]
        | some i => rfl
  | wake t =>
    simp only [sysNext, sysWake] at h
    split at h
    · cases h
    · split at h <;> cases h
      exact ⟨t, _, _, _, none, _, ‹_›, by simp only [map_wakeIf_none], fun _ => rfl,
        .inr ⟨rfl, rfl, rfl⟩⟩

structure SysInv (n : Nat) (σ : Sys) : Prop where
  len : σ.hs.length = n
  ok : ∀ (t : Nat) (th : Thread), σ.ths[t]? = some th → ActsOK n th.acts
  own : ∀ (t : Nat) (th : Thread), σ.ths[t]? = some th → ∀ i ∈ th.owned, getH σ.hs i = .rendering
  uniq : ∀ (t1 t2 : Nat) (th1 th2 : Thread) (i : Nat), σ.ths[t1]? = some th1 →
    σ.ths[t2]? = some th2 → i ∈ th1.owned → i ∈ th2.owned → t1 = t2
  hasOwner : ∀ i, getH σ.hs i = .rendering →
    ∃ (t : Nat) (th : Thread), σ.ths[t]? = some th ∧ i ∈ th.owned
  sleepers : ∀ (t : Nat) (th : Thread) (i : Nat), σ.ths[t]? = some th → th.asleep = some i →
    getH σ.hs i = .rendering ∧ i < innerBound n th

theorem count_flatMap_set {α β : Type} [BEq β] (f : α → List β) (i : β) (b : α) {l : List α}
    {t : Nat} {a : α} (h : l[t]? = some a) :
    ((l.set t b).flatMap f).count i + (f a).count i = (l.flatMap f).count i + (f b).count i := by
  induction l generalizing t with
  | nil => cases h
  | cons x l ih =>
    cases t with
    | zero => cases h; simp only [List.set_cons_zero, List.flatMap_cons, List.count_append]; omega
    | succ t =>
      have := ih h
      simp only [List.set_cons_succ, List.flatMap_cons, List.count_append]; omega

theorem flatMap_owned_wakeIf (ntf : Option Nat) (ths : List Thread) :
    (ths.map (wakeIf ntf)).flatMap Thread.owned = ths.flatMap Thread.owned := by
  simp only [List.flatMap_map, Thread.owned, wakeIf_acts]
  rfl

/-- `SysInv` with `own`, `uniq` and `hasOwner` as one equation: how often the threads own `i` -/
structure CntInv (n : Nat) (σ : Sys) : Prop where
  len : σ.hs.length = n
  thr : ∀ th ∈ σ.ths, ActsOK n th.acts ∧
    ∀ i, th.asleep = some i → getH σ.hs i = .rendering ∧ i < innerBound n th
  cnt : ∀ i, (σ.ths.flatMap Thread.owned).count i = if getH σ.hs i = .rendering then 1 else 0

theorem CntInv.sysInv {n : Nat} {σ : Sys} (h : CntInv n σ) : SysInv n σ := by
  refine ⟨h.len, fun t th hth => (h.thr th (List.mem_of_getElem? hth)).1, ?_, ?_, ?_,
    fun t th i hth => (h.thr th (List.mem_of_getElem? hth)).2 i⟩
  · intro t th hth i hi
    have h1 := List.count_pos_iff.2 (List.mem_flatMap.2 ⟨th, List.mem_of_getElem? hth, hi⟩)
    rw [h.cnt] at h1
    split at h1
    · assumption
    · omega
  · intro t₁ t₂ th₁ th₂ i h₁ h₂ hi₁ hi₂
    apply Decidable.by_contra
    intro hne
    -- with thread `t₁` taken out, what thread `t₂` owns is still counted
    have e₁ := count_flatMap_set Thread.owned i default h₁
    have e₂ := count_flatMap_set Thread.owned i default
      ((List.getElem?_set_ne (a := default) hne).trans h₂)
    have hc := h.cnt i
    have c₁ := List.count_pos_iff.2 hi₁
    have c₂ := List.count_pos_iff.2 hi₂
    have : (default : Thread).owned = [] := rfl
    simp only [this, List.count_nil] at e₁ e₂
    split at hc <;> omega
  · intro i hi
    have h1 := (h.cnt i).trans (if_pos hi)
    obtain ⟨th, hm, hio⟩ := List.mem_flatMap.1 (List.count_pos_iff.1 (h1 ▸ Nat.one_pos))
    obtain ⟨t, ht⟩ := List.getElem?_of_mem hm
    exact ⟨t, th, ht, hio⟩

theorem cntInv_step {n : Nat} {σ : Sys} {t : Nat} {th : Thread} (hinv : CntInv n σ)
    (hth : σ.ths[t]? = some th) {hs' : List HState} {th' : Thread} {ntf : Option Nat}
    (hok' : ActsOK n th'.acts) (hshape : Shape n σ.hs th hs' th' ntf) (c : Bool) :
    CntInv n { hs := hs', ths := (σ.ths.set t th').map (wakeIf ntf), clobbered := c } := by
  refine ⟨hshape.length.trans hinv.len, fun x hx => ?_, fun i => ?_⟩
  · obtain ⟨y, hy, rfl⟩ := List.mem_map.1 hx
    rw [innerBound, wakeIf_acts]
    rcases List.mem_or_eq_of_mem_set hy with hy | rfl
    · refine ⟨(hinv.thr y hy).1, fun i hi => ?_⟩
      obtain ⟨hi', hn⟩ := wakeIf_asleep hi
      obtain ⟨hr, hb⟩ := (hinv.thr y hy).2 i hi'
      exact ⟨hshape.keep hr hn, hb⟩
    · exact ⟨hok', fun i hi => (hshape.asleep i (wakeIf_asleep hi).1).2⟩
  · have h1 := count_flatMap_set Thread.owned i th' hth
    have h2 := hinv.cnt i
    have h3 := hshape.count i
    rw [flatMap_owned_wakeIf]
    dsimp only
    omega

theorem cntInv_start {n : Nat} {hs : List HState} {ths : List Thread} (hq : Quiescent n hs)
    (h : ∀ th ∈ ths, ActsOK n th.acts ∧ th.owned = [] ∧ th.asleep = none) (c : Bool) :
    CntInv n { hs := hs, ths := ths, clobbered := c } := by
  refine ⟨hq.1, fun th hth => ⟨(h th hth).1, by simp [(h th hth).2.2]⟩, fun i => ?_⟩
  rw [if_neg (hq.2 i), List.count_eq_zero, List.mem_flatMap]
  rintro ⟨th, hth, hi⟩
  simp [(h th hth).2.1] at hi

theorem startThread_ok (cfg : Config) (hwf : cfg.wf = true) (op : Op) :
    ActsOK cfg.frames.length (startThread cfg op).acts ∧ (startThread cfg op).owned = [] ∧
      (startThread cfg op).asleep = none := by
  cases op with
  | renderKeyframe k =>
    simp only [startThread]
    split
    · rename_i idx hidx
      have hlt := wf_keyframe hwf (List.mem_of_getElem? hidx)
      exact ⟨⟨(Act.ok_iff _ _).2 (callBody_ok hlt), Nat.le_refl _, nofun, trivial⟩, rfl, rfl⟩
    · exact ⟨⟨(Act.ok_iff _ _).2 nofun, Nat.le_refl _, nofun, trivial⟩, rfl, rfl⟩
  | renderLoading =>
    exact ⟨⟨(Act.ok_iff _ _).2 (List.forall_mem_singleton.2 ⟨nofun, fun _ => rfl⟩), Nat.le_refl _,
      nofun, trivial⟩, rfl, rfl⟩
  | requestRegion => exact ⟨trivial, rfl, rfl⟩

theorem bgThread_ok {n r : Nat} (hr : r < n) :
    ActsOK n (bgThread r).acts ∧ (bgThread r).owned = [] ∧ (bgThread r).asleep = none := by
  refine ⟨⟨(Act.ok_iff _ _).2 (List.forall_mem_singleton.2 ⟨fun j hj => ?_, nofun⟩), Nat.le_refl _,
    nofun, trivial⟩, rfl, rfl⟩
  cases hj
  exact hr

def ProgsOK (cfg : Config) (progs : List Prog) : Prop :=
  ∀ p ∈ progs, match p with
    | .background r => r < cfg.frames.length
    | .keyframe _ => True

theorem cntInv_init (cfg : Config) (hwf : cfg.wf = true) (progs : List Prog)
    (hp : ProgsOK cfg progs) : CntInv cfg.frames.length (initSys cfg progs) := by
  refine cntInv_start ⟨List.length_replicate, fun i => by simp [getH_replicate_none]⟩
    (fun th hth => ?_) false
  obtain ⟨p, hpm, rfl⟩ := List.mem_map.1 hth
  cases p with
  | keyframe k => exact startThread_ok cfg hwf (.renderKeyframe k)
  | background r => exact bgThread_ok (hp _ hpm)

theorem reach_cnt (cfg : Config) (cd : Codec) (hwf : cfg.wf = true) (progs : List Prog)
    (hp : ProgsOK cfg progs) (σ : Sys)
    (hr : Reachable cfg cd .fixed (initSys cfg progs) σ) : CntInv cfg.frames.length σ := by
  induction hr with
  | init => exact cntInv_init cfg hwf progs hp
  | step l _ hnext ih =>
    obtain ⟨t, th, hs', th', ntf, c, hth, rfl, _, hst | ⟨rfl, rfl, rfl⟩⟩ := sysNext_eq hnext
    · have hok := ih.sysInv.ok t th hth
      exact cntInv_step ih hth (hst.actsOK hwf hok)
        (hst.shape ih.len hok (ih.sysInv.own t th hth)) _
    · -- a spurious wake-up is a step that changes nothing else
      exact cntInv_step (th' := { th with asleep := none }) ih hth (ih.sysInv.ok t th hth)
        ⟨rfl, fun _ => rfl, fun h _ => h, nofun⟩ _

theorem reach_inv (cfg : Config) (cd : Codec) (hwf : cfg.wf = true) (progs : List Prog)
    (hp : ProgsOK cfg progs) (σ : Sys)
    (hr : Reachable cfg cd .fixed (initSys cfg progs) σ) : SysInv cfg.frames.length σ :=
  (reach_cnt cfg cd hwf progs hp σ hr).sysInv

/-- a thread waits only for handles below its innermost bound, and what it owns lies above -/
theorem SysInv.owner_awake {n : Nat} {σ : Sys} (hinv : SysInv n σ) {t : Nat} {th : Thread}
    {i : Nat} (hth : σ.ths[t]? = some th) (hio : i ∈ th.owned) : th.asleep ≠ some i := fun hsl =>
  Nat.lt_irrefl i (Nat.lt_of_lt_of_le (hinv.sleepers t th i hth hsl).2
    ((Thread.owned_sorted (hinv.ok t th hth)).2 i hio))

/-- the owner of the handle a sleeper waits for would itself sleep on a strictly smaller handle -/
theorem no_sleeper_if_all_asleep (n : Nat) (σ : Sys) (hinv : SysInv n σ)
    (hall : ∀ (t : Nat) (th : Thread), σ.ths[t]? = some th → th.acts ≠ [] → th.asleep ≠ none) :
    ∀ (i : Nat) (t : Nat) (th : Thread), σ.ths[t]? = some th → th.asleep = some i → False := by
  intro i
  induction i using Nat.strongRecOn with
  | _ i ih =>
    intro t th hth hsl
    obtain ⟨hr, _⟩ := hinv.sleepers t th i hth hsl
    obtain ⟨u, thu, hthu, hiu⟩ := hinv.hasOwner i hr
    have hne : thu.acts ≠ [] := by
      intro h
      simp [Thread.owned, h] at hiu
    cases hsu : thu.asleep with
    | none => exact hall u thu hthu hne hsu
    | some i' =>
      obtain ⟨_, hlt⟩ := hinv.sleepers u thu i' hthu hsu
      have hge := (Thread.owned_sorted (hinv.ok u thu hthu)).2 i hiu
      exact ih i' (Nat.lt_of_lt_of_le hlt hge) u thu hthu hsu

theorem deadlock_free (n : Nat) (σ : Sys) (hinv : SysInv n σ)
    (hex : ∃ (t : Nat) (th : Thread), σ.ths[t]? = some th ∧ th.acts ≠ []) :
    ∃ (t : Nat) (th : Thread), σ.ths[t]? = some th ∧ th.acts ≠ [] ∧ th.asleep = none := by
  obtain ⟨t, th, hth, hne⟩ := hex
  apply Classical.byContradiction
  intro hno
  have hall : ∀ (u : Nat) (thu : Thread), σ.ths[u]? = some thu → thu.acts ≠ [] →
      thu.asleep ≠ none := fun u thu hu hne' hs => hno ⟨u, thu, hu, hne', hs⟩
  cases hsl : th.asleep with
  | none => exact hall t th hth hne hsl
  | some i => exact no_sleeper_if_all_asleep n σ hinv hall i t th hth hsl

theorem awake_can_step (cfg : Config) (cd : Codec) (var : Variant) (σ : Sys) (t : Nat) (th : Thread)
    (hth : σ.ths[t]? = some th) (hne : th.acts ≠ []) (hsl : th.asleep = none) (ch : Choice) :
    ∃ σ', sysStep cfg cd var t ch σ = some σ' := by
  simp [sysStep, hth, Thread.finished, hne, hsl]

def ProgPost (cfg : Config) (cd : Codec) : Prog → Val → Prop
  | .keyframe k => OpClean cfg cd (.renderKeyframe k)
  | .background _ => fun _ => False

structure SysVal (cfg : Config) (cd : Codec) (progs : List Prog) (σ : Sys) : Prop where
  ok : ∀ (t : Nat) (th : Thread), σ.ths[t]? = some th → ActsOK cfg.frames.length th.acts
  hv : HsVal cfg cd σ.hs
  tv : ∀ (t : Nat) (th : Thread), σ.ths[t]? = some th →
    ∃ p, progs[t]? = some p ∧ ThreadVal cfg cd (ProgPost cfg cd p) th

theorem tv_wakeIf {cfg : Config} {cd : Codec} {P : Val → Prop} (ntf : Option Nat) {th : Thread}
    (h : ThreadVal cfg cd P th) : ThreadVal cfg cd P (wakeIf ntf th) := by
  unfold wakeIf
  split
  · split <;> exact h
  · exact h

theorem getElem?_stepped (ths : List Thread) {t : Nat} (ht : t < ths.length) (x : Thread)
    (ntf : Option Nat) (u : Nat) :
    ((ths.set t x).map (wakeIf ntf))[u]? =
      if u = t then some (wakeIf ntf x) else ths[u]?.map (wakeIf ntf) := by
  rw [List.getElem?_map, List.getElem?_set]
  by_cases h : u = t
  · simp [h, ht]
  · simp [h, Ne.symm h]

theorem sysVal_step {cfg : Config} {cd : Codec} {progs : List Prog} {σ : Sys} {t : Nat}
    {th th' : Thread} (hinv : SysVal cfg cd progs σ) (hth : σ.ths[t]? = some th)
    {hs' : List HState} (hok' : ActsOK cfg.frames.length th'.acts)
    (hv' : ∀ P, ThreadVal cfg cd P th → HsVal cfg cd hs' ∧ ThreadVal cfg cd P th')
    (ntf : Option Nat) (c : Bool) :
    SysVal cfg cd progs
      { hs := hs', ths := (σ.ths.set t th').map (wakeIf ntf), clobbered := c } := by
  have htl : t < σ.ths.length := (List.getElem?_eq_some_iff.1 hth).1
  obtain ⟨p, hp, hpv⟩ := hinv.tv t th hth
  refine ⟨fun u x hx => ?_, (hv' _ hpv).1, fun u x hx => ?_⟩ <;>
    simp only [getElem?_stepped σ.ths htl] at hx <;> split at hx
  · cases hx
    simpa using hok'
  · obtain ⟨y, hy, rfl⟩ := Option.map_eq_some_iff.1 hx
    simpa using hinv.ok u y hy
  · cases hx
    subst u
    exact ⟨p, hp, tv_wakeIf ntf (hv' _ hpv).2⟩
  · obtain ⟨y, hy, rfl⟩ := Option.map_eq_some_iff.1 hx
    obtain ⟨p, hp, hpv⟩ := hinv.tv u y hy
    exact ⟨p, hp, tv_wakeIf ntf hpv⟩

theorem sysVal_init (cfg : Config) (cd : Codec) (hwf : cfg.wf = true) (progs : List Prog)
    (hp : ProgsOK cfg progs) : SysVal cfg cd progs (initSys cfg progs) := by
  refine ⟨(cntInv_init cfg hwf progs hp).sysInv.ok, fun i => ?_, fun t th h => ?_⟩
  · simp [initSys, getH_replicate_none]
  · simp only [initSys, List.getElem?_map] at h
    obtain ⟨p, hpt, rfl⟩ := Option.map_eq_some_iff.1 h
    refine ⟨p, hpt, ?_⟩
    cases p with
    | keyframe k => exact tv_start cfg cd (.renderKeyframe k)
    | background r =>
      exact tv_top (b := [.bg r]) (by simp [Item.valOK]) _

theorem reach_val (cfg : Config) (cd : Codec) (var : Variant) (hwf : cfg.wf = true)
    (progs : List Prog) (hp : ProgsOK cfg progs) (σ : Sys)
    (hr : Reachable cfg cd var (initSys cfg progs) σ) : SysVal cfg cd progs σ := by
  induction hr with
  | init => exact sysVal_init cfg cd hwf progs hp
  | step l _ hnext ih =>
    obtain ⟨t, th, hs', th', ntf, c, hth, rfl, _, hst | ⟨rfl, rfl, rfl⟩⟩ := sysNext_eq hnext
    · have hok := ih.ok t th hth
      exact sysVal_step ih hth (hst.actsOK hwf hok) (fun P h => hst.val hwf hok ih.hv h) _ _
    · exact sysVal_step (th' := { th with asleep := none }) ih hth (ih.ok t th hth)
        (fun P h => ⟨ih.hv, h⟩) _ _

end Jxl.RenderState
