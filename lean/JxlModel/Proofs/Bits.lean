import JxlModel.Model.Bits
namespace Jxl

theorem toBits_length (n v : Nat) : (toBits n v).length = n := by
  induction n generalizing v with
  | zero => rfl
  | succ n ih => simp only [toBits, List.length_cons, ih]

theorem ofBits_toBits (n v : Nat) (h : v < 2 ^ n) : ofBits (toBits n v) = v := by
  induction n generalizing v with
  | zero => simp only [Nat.pow_zero, Nat.lt_one_iff] at h; subst h; rfl
  | succ n ih =>
    have h2 : v / 2 < 2 ^ n := by
      rw [Nat.pow_succ] at h; omega
    simp only [toBits, ofBits, ih _ h2, beq_iff_eq]
    split <;> omega

theorem readBits_toBits (n v : Nat) (r : Bits) (h : v < 2 ^ n) : readBits n (toBits n v ++ r) = some (v, r) := by
  simp [readBits, toBits_length, ofBits_toBits n v h]

end Jxl
