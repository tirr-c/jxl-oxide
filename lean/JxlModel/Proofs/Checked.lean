import JxlModel.Model.Checked
import JxlModel.Proofs.Util
namespace Jxl.Checked

theorem addU32_ok (site : String) {a b : Nat} (h : a + b < u32Max) : addU32 site a b = .ok (a + b) :=
  if_pos h

theorem mulU32_ok (site : String) {a b : Nat} (h : a * b < u32Max) : mulU32 site a b = .ok (a * b) :=
  if_pos h

theorem subU32_ok (site : String) {a b : Nat} (h : b ≤ a) : subU32 site a b = .ok (a - b) :=
  if_pos h

@[simp] theorem bind_ok {α β} (a : α) (f : α → Outcome β) : (Outcome.ok a >>= f) = f a := rfl
@[simp] theorem pure_eq {α} (a : α) : (pure a : Outcome α) = Outcome.ok a := rfl

theorem ecCheck_ok_or_err (gs cs : Nat) (l : List (Nat × Nat)) :
    ecCheck gs cs l = .ok () ∨ ecCheck gs cs l = .err := by
  fun_induction ecCheck gs cs l <;> try exact .inr rfl
  · exact .inl rfl
  · assumption
  · -- `subU32` does not panic: the first guard is what keeps the subtraction from underflowing
    rename_i h1 _ _ hs
    rw [subU32_ok _ (Nat.not_lt.mp h1)] at hs; cases hs

theorem frameValidate_cases (h : FH) :
    frameValidate h = .err ∨
    (frameValidate h = .ok () ∧ h.width ≤ 2 ^ 30 ∧ h.height ≤ 2 ^ 30 ∧ h.width * h.height ≤ 2 ^ 40 ∧
      0 < h.width ∧ 0 < h.height) := by
  unfold frameValidate
  by_cases h1 : h.width > 2 ^ 30
  · exact Or.inl (if_pos h1)
  rw [if_neg h1]
  by_cases h2 : h.height > 2 ^ 30
  · exact Or.inl (if_pos h2)
  rw [if_neg h2]
  -- 2^30 * 2^30 fits `u64`
  have h3 : ¬ h.width * h.height ≥ u64Max :=
    Nat.not_le.mpr (Nat.lt_of_le_of_lt (Nat.mul_le_mul (Nat.not_lt.mp h1) (Nat.not_lt.mp h2))
      (by decide))
  rw [if_neg h3]
  by_cases h4 : h.width * h.height > 2 ^ 40
  · exact Or.inl (if_pos h4)
  rw [if_neg h4]
  rcases ecCheck_ok_or_err h.groupSizeShift (log2 h.upsampling) h.ecs with e | e
  · rw [e]
    by_cases h5 : h.width = 0 ∨ h.height = 0
    · exact Or.inl (if_pos h5)
    · exact Or.inr ⟨if_neg h5, by omega⟩
  · rw [e]; exact Or.inl rfl

theorem frameValidate_ok (h : FH) (hv : frameValidate h = .ok ()) :
    h.width ≤ 2 ^ 30 ∧ h.height ≤ 2 ^ 30 ∧ h.width * h.height ≤ 2 ^ 40 ∧ 0 < h.width ∧ 0 < h.height := by
  rcases frameValidate_cases h with e | e
  · rw [e] at hv; cases hv
  · exact e.2

theorem ceil_le_self (v g : Nat) (hg : 1 ≤ g) : (v + g - 1) / g ≤ v := by
  exact (ceilDiv_le_iff hg).2 (Nat.le_mul_of_pos_right v hg)

theorem ceil_div_le (a g : Nat) (hg : 0 < g) : (a + g - 1) / g ≤ a / g + 1 :=
  (ceilDiv_le_iff hg).2 (Nat.succ_mul .. ▸ Nat.le_of_lt (Nat.lt_div_mul_add hg))

theorem groups_product_bound (w hh g : Nat) (hg : 128 ≤ g) (hw : w ≤ 2 ^ 30) (hh' : hh ≤ 2 ^ 30)
    (ha : w * hh ≤ 2 ^ 40) :
    ((w + g - 1) / g) * ((hh + g - 1) / g) ≤ 2 ^ 26 + 2 ^ 24 + 1 := by
  have hg0 : 0 < g := by omega
  -- each factor is at most a quotient plus one; multiplied out, `2^26 = 2^40 / 128²` bounds the
  -- product of the quotients and `2^24 = 2 · 2^30 / 128` their sum
  have hP := Nat.mul_le_mul (ceil_div_le w g hg0) (ceil_div_le hh g hg0)
  rw [Nat.succ_mul_succ] at hP
  have hA : w / g * (hh / g) ≤ 2 ^ 26 :=
    Nat.le_trans (Nat.div_mul_div_le w g hh g) (Nat.le_trans
      (Nat.div_le_div_left (Nat.mul_le_mul hg hg) (by decide)) (Nat.div_le_of_le_mul ha))
  have hq : ∀ x, x ≤ 2 ^ 30 → x / g ≤ 2 ^ 23 := fun x hx =>
    Nat.le_trans (Nat.div_le_div_left hg (by decide)) (Nat.div_le_of_le_mul hx)
  have := hq w hw
  have := hq hh hh'
  omega

theorem sampleDim_le (v ups lf : Nat) (hv : v ≤ 2 ^ 30) (hl : lf ≤ 4) (hu : 1 ≤ ups) :
    ∃ r, sampleDim v ups lf = .ok r ∧ r ≤ v := by
  unfold sampleDim
  have h0 : (if ups > 1 then (v + ups - 1) / ups else v) ≤ v := by
    split
    · exact ceil_le_self v ups hu
    · exact Nat.le_refl v
  generalize (if ups > 1 then (v + ups - 1) / ups else v) = v' at h0
  by_cases hlf : lf > 0
  · have hp : 2 ^ (3 * lf) ≤ 2 ^ 12 := Nat.pow_le_pow_right (by decide) (by omega)
    have hlt : v' + 2 ^ (3 * lf) < u32Max := by unfold u32Max; omega
    simp only [hlf, if_true, addU32_ok _ hlt]
    exact ⟨_, rfl, Nat.le_trans (ceil_le_self v' _ Nat.one_le_two_pow) h0⟩
  · simp only [hlf, if_false]
    exact ⟨v', rfl, h0⟩

theorem groupDim_ge (h : FH) : 128 ≤ groupDim h :=
  Nat.le_mul_of_pos_right 128 Nat.one_le_two_pow

/-- `num_groups` / `num_lf_groups`: both are the product of two rounded-up quotients of the sample
dimensions by a group dimension of at least 128 -/
theorem numGroupsLike_ok (h : FH) (site : String) (g : Nat) (hg : 128 ≤ g)
    (hu : 1 ≤ h.upsampling) (hl : h.lfLevel ≤ 4)
    (hv : frameValidate h = .ok ()) :
    ∃ n, (do
      let w ← sampleDim h.width h.upsampling h.lfLevel
      let hh ← sampleDim h.height h.upsampling h.lfLevel
      mulU32 site ((w + g - 1) / g) ((hh + g - 1) / g)) = Outcome.ok n ∧ n ≤ 2 ^ 26 + 2 ^ 24 + 1 := by
  obtain ⟨hw, hh, ha, _, _⟩ := frameValidate_ok h hv
  obtain ⟨w, hw1, hw2⟩ := sampleDim_le h.width h.upsampling h.lfLevel hw hl hu
  obtain ⟨hh', hh1, hh2⟩ := sampleDim_le h.height h.upsampling h.lfLevel hh hl hu
  have hb := groups_product_bound w hh' g hg (Nat.le_trans hw2 hw) (Nat.le_trans hh2 hh)
    (Nat.le_trans (Nat.mul_le_mul hw2 hh2) ha)
  refine ⟨_, ?_, hb⟩
  rw [hw1, bind_ok, hh1, bind_ok]
  exact mulU32_ok site (Nat.lt_of_le_of_lt hb (by decide))

end Jxl.Checked
