import JxlModel.Proofs.Icc
/-!
The main section of C18: one round of the main loop on the encoding of each command kind
(`mainLoop_encSeg`), and the main loop on the encoder's main section.
-/
namespace Jxl.Icc

theorem cmdCopy_enc (command width n : Nat)
    (hcw : command = 1 ∧ width = 1 ∨ command = 2 ∧ width = 2 ∨ command = 3 ∧ width = 4)
    (hn : n < 2 ^ 63) (x restC restD : List Nat) (out : Array Nat) (hx : x.length = n) :
    cmdCopy command (encVarint n ++ restC) (unshuffleBy width x ++ restD) out
      = .ok (restC, restD, out ++ x.toArray) := by
  have hb : (unshuffleBy width x).length = n := (length_unshuffleBy width x).trans hx
  have hsel : ∀ b, (if command = 1 then b else if command = 2 then shuffle2 b else shuffle4 b)
      = shuffleBy width b := by
    rcases hcw with ⟨rfl, rfl⟩ | ⟨rfl, rfl⟩ | ⟨rfl, rfl⟩ <;> exact fun _ => rfl
  unfold cmdCopy
  rw [readVarint_encVarint n restC hn]
  simp only [List.length_append, hb]
  rw [if_neg (by omega), List.take_left' hb, List.drop_left' hb, hsel, shuffleBy_unshuffleBy]

theorem readStride_enc (flags width : Nat) (stride : Option Nat) (rest : List Nat)
    (hf : (flags / 16) % 2 = if stride.isSome then 1 else 0)
    (hsw : width ≤ strideOf width stride) (h63 : strideOf width stride < 2 ^ 63) :
    readStride flags width (encStride stride ++ rest) = .ok (strideOf width stride, rest) := by
  unfold readStride
  cases stride with
  | none => exact if_pos hf
  | some s =>
    rw [if_neg (by rw [hf]; exact Nat.one_ne_zero), encStride, readVarint_encVarint s rest h63]
    exact if_neg (Nat.not_lt.mpr hsw)

theorem predFlags_fields (w order hi : Nat) (st : Bool) (hw : w < 4) (ho : order < 4) :
    (w + 4 * order + (if st then 16 else 0) + 32 * hi) % 4 = w ∧
    (w + 4 * order + (if st then 16 else 0) + 32 * hi) / 4 % 4 = order ∧
    (w + 4 * order + (if st then 16 else 0) + 32 * hi) / 16 % 2 = if st then 1 else 0 := by
  cases st
  · simp only [Bool.false_eq_true, if_false]; omega
  · simp only [if_true]; omega

theorem cmdPredRun_enc (width order stride n : Nat) (hn : n < 2 ^ 63) (x restC restD : List Nat)
    (out : Array Nat) (hx : x.length = n) (hs : stride * 4 < out.size) :
    cmdPredRun width order stride (encVarint n ++ restC) (unshuffleBy width x ++ restD) out
      = .ok (restC, restD, predLoop width order stride n x out) := by
  have hb : (unshuffleBy width x).length = n := (length_unshuffleBy width x).trans hx
  unfold cmdPredRun
  rw [if_neg (by omega), readVarint_encVarint n restC hn]
  simp only [List.length_append, hb]
  rw [if_neg (by omega), List.take_left' hb, List.drop_left' hb, shuffleBy_unshuffleBy]

theorem cmdPred_enc (profile : List Nat) (hb : IsBytes profile) (pos width order hi n : Nat)
    (stride : Option Nat)
    (hw : width = 1 ∨ width = 2 ∨ width = 4) (ho : order ≤ 2)
    (hsw : width ≤ strideOf width stride) (hs4 : strideOf width stride * 4 < pos)
    (hn : pos + n ≤ profile.length) (hl : profile.length < 2 ^ 63) (restC restD : List Nat) :
    cmdPred
      (((width - 1) + 4 * order + (if stride.isSome then 16 else 0) + 32 * hi) ::
        (encStride stride ++ (encVarint n ++ restC)))
      (unshuffleBy width (residLoop profile.toArray width order (strideOf width stride) n pos n) ++ restD)
      (profile.take pos).toArray
      = .ok (restC, restD, (profile.take (pos + n)).toArray) := by
  have h0 : 0 < width := by omega
  obtain ⟨hfw, hfo, hfs⟩ :=
    predFlags_fields (width - 1) order hi stride.isSome (by omega) (by omega)
  generalize (width - 1) + 4 * order + (if stride.isSome then 16 else 0) + 32 * hi = flags
    at hfw hfo hfs
  have hwidth : flags % 4 + 1 = width := by omega
  unfold cmdPred
  simp only
  rw [hwidth, hfo, if_neg (by omega), readStride_enc flags width stride _ hfs hsw (by omega)]
  simp only
  rw [cmdPredRun_enc width order _ n (by omega) _ restC restD _
      (length_residLoop profile width order _ h0 n pos n (Nat.le_refl _) hn)
      (by rw [size_take_toArray _ _ (by omega)]; exact hs4),
    predLoop_residLoop profile hb width order _ h0 hsw n pos n (Nat.le_refl _) hn (by omega)]

theorem length_encSeg_pos (profile : List Nat) (pos : Nat) (seg : Seg) :
    0 < (encSeg profile pos seg).1.length := by
  cases seg <;> simp [encSeg]

theorem mainLoop_encSeg (profile : List Nat) (hb : IsBytes profile) (hl : profile.length < 2 ^ 63)
    (pos : Nat) (seg : Seg) (hc : segCovers profile pos seg = true) (restC restD : List Nat)
    (fuel : Nat) :
    mainLoop (fuel + 1) ((encSeg profile pos seg).1 ++ restC) ((encSeg profile pos seg).2 ++ restD)
        (profile.take pos).toArray
      = mainLoop fuel restC restD (profile.take (pos + segLen seg)).toArray := by
  have copy : ∀ command width n,
      command = 1 ∧ width = 1 ∨ command = 2 ∧ width = 2 ∨ command = 3 ∧ width = 4 →
      pos + n ≤ profile.length →
      mainLoop (fuel + 1) (command :: (encVarint n ++ restC))
        (unshuffleBy width (slice profile pos n) ++ restD) (profile.take pos).toArray
        = mainLoop fuel restC restD (profile.take (pos + n)).toArray := by
    intro command width n hcw hn
    rw [mainLoop, mainStep, if_pos (by omega), cmdCopy_enc command width n hcw (by omega) _ restC restD _
      (length_slice _ _ _ hn), take_toArray_append_slice]
  cases seg with
  | raw n => exact copy 1 1 n (by decide) (of_decide_eq_true hc)
  | shuf2 n => exact copy 2 2 n (by decide) (of_decide_eq_true hc)
  | shuf4 n => exact copy 3 4 n (by decide) (of_decide_eq_true hc)
  | pred width order stride hi n =>
    simp only [segCovers, Bool.and_eq_true, Bool.or_eq_true, beq_iff_eq, decide_eq_true_eq,
      and_assoc] at hc
    obtain ⟨hw, ho, _, hsw, hs4, hn⟩ := hc
    simp only [encSeg, segLen, List.cons_append, List.nil_append, List.append_assoc, mainLoop]
    rw [mainStep, if_neg (by decide), if_pos rfl,
      cmdPred_enc profile hb pos width order hi n stride (by omega) ho hsw hs4 hn hl restC restD]
  | xyz =>
    simp only [segCovers, Bool.and_eq_true, decide_eq_true_eq] at hc
    obtain ⟨hn, h8⟩ := hc
    have hs := length_slice profile (pos + 8) 12 (by omega)
    simp only [encSeg, segLen, List.cons_append, List.nil_append, mainLoop]
    rw [mainStep, if_neg (by decide), if_neg (by decide), if_pos rfl,
      if_neg (by rw [List.length_append, hs]; omega), List.take_left' hs,
      List.drop_left' hs, ← eq_of_beq h8, ← slice_add profile pos 8 12, take_toArray_append_slice]
  | common k =>
    simp only [segCovers, Bool.and_eq_true, decide_eq_true_eq] at hc
    obtain ⟨⟨hk, hn⟩, h8⟩ := hc
    simp only [encSeg, segLen, List.cons_append, List.nil_append, mainLoop]
    rw [mainStep, if_neg (by omega), if_neg (by omega), if_neg (by omega), if_pos (by omega),
      Nat.add_sub_cancel_left, ← eq_of_beq h8, take_toArray_append_slice]

theorem mainLoop_encMain (profile : List Nat) (hb : IsBytes profile) (hl : profile.length < 2 ^ 63) :
    ∀ (segs : List Seg) (pos fuel : Nat),
      mainCovers profile segs pos = true →
      (encMain profile pos segs).1.length < fuel →
      mainLoop fuel (encMain profile pos segs).1 (encMain profile pos segs).2
        (profile.take pos).toArray = .ok profile.toArray
  | [], pos, fuel + 1, hc, _ => by
    simp [encMain, mainLoop, show pos = profile.length by simpa [mainCovers] using hc]
  | seg :: segs, pos, fuel + 1, hc, hf => by
    simp only [mainCovers, Bool.and_eq_true] at hc
    simp only [encMain, List.length_append] at hf ⊢
    rw [mainLoop_encSeg profile hb hl pos seg hc.1]
    exact mainLoop_encMain profile hb hl segs _ fuel hc.2
      (by have := length_encSeg_pos profile pos seg; omega)

end Jxl.Icc
