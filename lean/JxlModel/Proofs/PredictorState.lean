import JxlModel.Model.Modular.Decode
import JxlModel.Proofs.Util
/-! The incremental predictor state refines the neighbours read from the grid: the invariant
`PState.Tracks` holds for `PState.reset` and is preserved by `record`, whatever self-correcting
prediction is passed, for every width ≥ 1 and all `Int` samples (`record` never wraps a sample).
Under it neighbours, properties and predictions are the Spec's, so the token encoder / decoder
compute what their grid versions `encodeGrid` / `decodeGrid` do. -/
namespace Jxl.Modular

theorem nb_w (c : Chan) (x y : Nat) : (neighbors c x y).w =
    if x > 0 then c.get (x - 1) y else if y > 0 then c.get x (y - 1) else 0 := rfl
theorem nb_n (c : Chan) (x y : Nat) : (neighbors c x y).n =
    if y > 0 then c.get x (y - 1) else (neighbors c x y).w := rfl
theorem nb_nw (c : Chan) (x y : Nat) : (neighbors c x y).nw =
    if x > 0 ∧ y > 0 then c.get (x - 1) (y - 1) else (neighbors c x y).w := rfl
theorem nb_ne (c : Chan) (x y : Nat) : (neighbors c x y).ne =
    if x + 1 < c.w ∧ y > 0 then c.get (x + 1) (y - 1) else (neighbors c x y).n := rfl
theorem nb_nn (c : Chan) (x y : Nat) : (neighbors c x y).nn =
    if y > 1 then c.get x (y - 2) else (neighbors c x y).n := rfl
theorem nb_nee (c : Chan) (x y : Nat) : (neighbors c x y).nee =
    if x + 2 < c.w ∧ y > 0 then c.get (x + 2) (y - 1) else (neighbors c x y).ne := rfl
theorem nb_ww (c : Chan) (x y : Nat) : (neighbors c x y).ww =
    if x > 1 then c.get (x - 2) y else (neighbors c x y).w := rfl

/-- the Spec's "previous gradient" term of property 8 (as written inside `propsSpec`) -/
def prevGradSpec (c : Chan) (x y : Nat) : Int := if x > 0 then gradProp c (x - 1) y else 0

/-- `ps` is the predictor state at position `(x, y)` of channel `c`. `prevRow` is row `y - 1` (empty
on the first row); `currRow` holds row `y` up to `x` and, from the third row on, still row `y - 2`
from `x` on: the two buffers are swapped at every row end. -/
structure PState.Tracks (ps : PState) (c : Chan) (x y : Nat) : Prop where
  hwidth : ps.width = c.w
  hxw : x < c.w
  hx : ps.x = x
  hy : ps.y = y
  hw : ps.w = (neighbors c x y).w
  hn : ps.n = (neighbors c x y).n
  hnw : ps.nw = (neighbors c x y).nw
  hgrad : ps.prevGrad = (if x > 0 then gradProp c (x - 1) y else 0)
  prevSize : ps.prevRow.size = (if y = 0 then 0 else c.w)
  prevGet : ∀ i, i < c.w → 0 < y → ps.prevRow.getD i 0 = c.get i (y - 1)
  currSize : ps.currRow.size = (if y ≤ 1 then x else c.w)
  currLo : ∀ i, i < x → ps.currRow.getD i 0 = c.get i y
  currHi : ∀ i, x ≤ i → i < c.w → 2 ≤ y → ps.currRow.getD i 0 = c.get i (y - 2)

def nextX (w x : Nat) : Nat := if x + 1 < w then x + 1 else 0
def nextY (w x y : Nat) : Nat := if x + 1 < w then y else y + 1

theorem PState.Tracks.init (c : Chan) (wp : Option Wp) (hw : 1 ≤ c.w) :
    (PState.reset c.w wp).Tracks c 0 0 :=
  { hwidth := rfl, hxw := hw, hx := rfl, hy := rfl, hw := rfl, hn := rfl, hnw := rfl, hgrad := rfl
    prevSize := rfl, prevGet := fun _ _ h => absurd h (Nat.lt_irrefl 0)
    currSize := rfl, currLo := fun _ h => absurd h (Nat.not_lt_zero _)
    currHi := fun _ _ _ h => absurd h (by decide) }

theorem PState.Tracks.prevRow_isEmpty {ps : PState} {c : Chan} {x y : Nat} (h : ps.Tracks c x y) :
    ps.prevRow.isEmpty ↔ y = 0 := by
  have hxw := h.hxw
  have hs := h.prevSize
  rw [Array.isEmpty_iff_size_eq_zero]
  split at hs <;> omega

/-- how `Properties::record` steps the optional weighted-predictor state -/
def scStep (sc : Option ScState) (scp : Option ScPred) (v : Int) : Option ScState :=
  match sc, scp with
  | some s, some p => some (s.record p v)
  | s, _ => s

/-- `curr_row` after `Properties::record` has stored the sample: overwritten in place, or pushed
while the buffer is still growing (rows 0 and 1) -/
def PState.stored (s : PState) (v : Int) : Array Int :=
  if s.x < s.currRow.size then s.currRow.setIfInBounds s.x v else s.currRow.push v

theorem PState.record_of_lt (s : PState) (scp : Option ScPred) (v : Int) (h : s.x + 1 < s.width) :
    s.record scp v =
      { s with
        sc := scStep s.sc scp v
        currRow := s.stored v
        x := s.x + 1
        prevGrad := wrap32 (wrap32 (s.w - s.nw) + s.n)
        w := v
        nw := if s.prevRow.isEmpty then v else s.n
        n := if s.prevRow.isEmpty then v else s.prevRow.getD (s.x + 1) 0 } := by
  have h' : ¬ s.x + 1 ≥ s.width := by omega
  unfold PState.record scStep PState.stored
  simp only [h', if_false]
  split <;> split <;> rfl

theorem PState.record_of_ge (s : PState) (scp : Option ScPred) (v : Int) (h : s.width ≤ s.x + 1) :
    s.record scp v =
      { s with
        sc := scStep s.sc scp v
        prevRow := s.stored v
        currRow := s.prevRow
        x := 0
        y := s.y + 1
        prevGrad := 0
        w := (s.stored v).getD 0 0
        nw := (s.stored v).getD 0 0
        n := (s.stored v).getD 0 0 } := by
  have h' : s.x + 1 ≥ s.width := h
  unfold PState.record scStep PState.stored
  simp only [h', if_true]
  split <;> rfl

theorem PState.record_sc (s : PState) (scp : Option ScPred) (v : Int) :
    (s.record scp v).sc = scStep s.sc scp v := by
  by_cases h : s.x + 1 < s.width
  · rw [s.record_of_lt scp v h]
  · rw [s.record_of_ge scp v (by omega)]

theorem PState.Tracks.stored_size {ps : PState} {c : Chan} {x y : Nat} (h : ps.Tracks c x y)
    (v : Int) : (ps.stored v).size = if y ≤ 1 then x + 1 else c.w := by
  have hs := h.currSize
  have hxw := h.hxw
  unfold PState.stored
  rw [h.hx]
  by_cases hy : y ≤ 1
  · rw [if_pos hy] at hs ⊢
    rw [if_neg (by omega), Array.size_push, hs]
  · rw [if_neg hy] at hs ⊢
    rw [if_pos (by omega), Array.size_setIfInBounds, hs]

theorem PState.Tracks.stored_getD {ps : PState} {c : Chan} {x y : Nat} (h : ps.Tracks c x y)
    (i : Nat) :
    (ps.stored (c.get x y)).getD i 0 = if i ≤ x then c.get i y else ps.currRow.getD i 0 := by
  have hs := h.currSize
  have hxw := h.hxw
  have hlo := h.currLo i
  unfold PState.stored
  rw [h.hx]
  by_cases hy : y ≤ 1
  · rw [if_pos hy] at hs
    rw [if_neg (by omega), getD_push, hs]
    grind
  · rw [if_neg hy] at hs
    rw [if_pos (by omega), getD_setIfInBounds, hs]
    grind

theorem PState.Tracks.record {ps : PState} {c : Chan} {x y : Nat} (h : ps.Tracks c x y)
    (scp : Option ScPred) :
    (ps.record scp (c.get x y)).Tracks c (nextX c.w x) (nextY c.w x y) := by
  have hxw := h.hxw
  have hemp := h.prevRow_isEmpty
  have hrow := h.stored_getD
  unfold nextX nextY
  by_cases hx1 : x + 1 < c.w
  · rw [if_pos hx1, if_pos hx1, ps.record_of_lt scp _ (by rw [h.hx, h.hwidth]; exact hx1)]
    refine
      { hwidth := h.hwidth, hxw := hx1, hx := congrArg (· + 1) h.hx, hy := h.hy
        hw := (nb_w c (x + 1) y).symm ▸ rfl, hn := ?n, hnw := ?nw, hgrad := ?grad
        prevSize := h.prevSize, prevGet := h.prevGet
        currSize := h.stored_size _
        currLo := fun i hi => (hrow i).trans (if_pos (by omega))
        currHi := fun i hi hiw hy =>
          ((hrow i).trans (if_neg (by omega))).trans (h.currHi i (by omega) hiw hy) }
    case n =>
      show (if ps.prevRow.isEmpty then c.get x y else ps.prevRow.getD (ps.x + 1) 0) = _
      simp only [nb_n, nb_w, hemp, h.hx]
      by_cases hy : y = 0
      · simp [hy]
      · simp [hy, Nat.pos_of_ne_zero hy, h.prevGet (x + 1) hx1 (Nat.pos_of_ne_zero hy)]
    case nw =>
      show (if ps.prevRow.isEmpty then c.get x y else ps.n) = _
      simp only [nb_nw, nb_w, hemp, h.hn, nb_n]
      by_cases hy : y = 0
      · simp [hy]
      · simp [hy, Nat.pos_of_ne_zero hy]
    case grad =>
      show wrap32 (wrap32 (ps.w - ps.nw) + ps.n) = _
      rw [h.hw, h.hn, h.hnw]
      rfl
  · -- the last column: the stored row is the complete row `y` and becomes `prevRow`
    have h0 := (hrow 0).trans (if_pos (Nat.zero_le x))
    rw [if_neg hx1, if_neg hx1, ps.record_of_ge scp _ (by rw [h.hx, h.hwidth]; omega)]
    refine
      { hwidth := h.hwidth, hxw := by omega, hx := rfl, hy := congrArg (· + 1) h.hy
        hw := h0, hn := h0, hnw := h0, hgrad := rfl
        prevSize := ?psize, prevGet := fun i hi _ => (hrow i).trans (if_pos (by omega))
        currSize := ?size, currLo := fun i hi => absurd hi (Nat.not_lt_zero i)
        currHi := fun i _ hiw hy => h.prevGet i hiw (by omega) }
    case psize =>
      show (ps.stored _).size = _
      rw [h.stored_size, if_neg (Nat.succ_ne_zero y)]
      split <;> omega
    case size =>
      show ps.prevRow.size = _
      rw [h.prevSize]
      split <;> split <;> omega

theorem raster_succ (w k : Nat) (hw : 1 ≤ w) :
    nextX w (k % w) = (k + 1) % w ∧ nextY w (k % w) (k / w) = (k + 1) / w := by
  have hk := Nat.div_add_mod' k w
  have hr : k % w < w := Nat.mod_lt k hw
  unfold nextX nextY
  by_cases h : k % w + 1 < w
  · rw [if_pos h, if_pos h, show k + 1 = k / w * w + (k % w + 1) by omega,
      Nat.mul_add_mod_of_lt h, mul_add_div_of_lt h]
    exact ⟨rfl, rfl⟩
  · rw [if_neg h, if_neg h, show k + 1 = (k / w + 1) * w + 0 by rw [Nat.succ_mul]; omega,
      Nat.mul_add_mod_of_lt hw, mul_add_div_of_lt hw]
    exact ⟨rfl, rfl⟩

theorem PState.Tracks.record_raster {ps : PState} {c : Chan} {k : Nat} {v : Int} (hw : 1 ≤ c.w)
    (h : ps.Tracks c (k % c.w) (k / c.w)) (scp : Option ScPred)
    (hv : c.get (k % c.w) (k / c.w) = v) :
    (ps.record scp v).Tracks c ((k + 1) % c.w) ((k + 1) / c.w) := by
  have := h.record scp
  rwa [(raster_succ c.w k hw).1, (raster_succ c.w k hw).2, hv] at this

inductive PState.ReachedBy (c : Chan) (wp : Option Wp) : PState → Nat → Prop
  | init : PState.ReachedBy c wp (PState.reset c.w wp) 0
  | step {ps : PState} {k : Nat} (h : PState.ReachedBy c wp ps k) (scp : Option ScPred) :
      PState.ReachedBy c wp (ps.record scp (c.get (k % c.w) (k / c.w))) (k + 1)

/-- the state the token decoder/encoder is in after `k` samples of `c` (it passes `ps.scPredict`) -/
def PState.run (c : Chan) (wp : Option Wp) : Nat → PState
  | 0 => PState.reset c.w wp
  | k + 1 =>
    let ps := PState.run c wp k
    ps.record ps.scPredict (c.get (k % c.w) (k / c.w))

theorem PState.run_reachedBy (c : Chan) (wp : Option Wp) (k : Nat) :
    PState.ReachedBy c wp (PState.run c wp k) k := by
  induction k with
  | zero => exact .init
  | succ k ih => exact .step ih _

theorem PState.ReachedBy.tracks {c : Chan} {wp : Option Wp} {ps : PState} {k : Nat}
    (hw : 1 ≤ c.w) (h : PState.ReachedBy c wp ps k) : ps.Tracks c (k % c.w) (k / c.w) := by
  induction h with
  | init => simpa using PState.Tracks.init c wp hw
  | step _ scp ih => exact ih.record_raster hw scp rfl

theorem PState.Tracks.nn_eq {ps : PState} {c : Chan} {x y : Nat} (h : ps.Tracks c x y) :
    ps.nn = (neighbors c x y).nn := by
  unfold PState.nn
  rw [nb_nn, h.hx, h.hn, h.currSize]
  by_cases hy : y ≤ 1
  · rw [if_pos hy, if_neg (Nat.lt_irrefl x), if_neg (by omega)]
  · rw [if_neg hy, if_pos h.hxw, if_pos (by omega)]
    exact h.currHi x (Nat.le_refl x) h.hxw (by omega)

/-- the read of `ne::<true>` (`k = 1`) and of `nee::<true>` (`k = 2`) -/
theorem PState.Tracks.prevRow_read {ps : PState} {c : Chan} {x y : Nat} (h : ps.Tracks c x y)
    (k : Nat) (d : Int) :
    (if ps.prevRow.isEmpty ∨ ps.x + k ≥ ps.width then d else ps.prevRow.getD (ps.x + k) 0)
      = if x + k < c.w ∧ y > 0 then c.get (x + k) (y - 1) else d := by
  simp only [h.hx, h.hwidth, h.prevRow_isEmpty]
  by_cases hc : x + k < c.w ∧ y > 0
  · rw [if_pos hc, if_neg (by omega)]
    exact h.prevGet _ hc.1 hc.2
  · rw [if_neg hc, if_pos (by omega)]

theorem PState.Tracks.ne_eq {ps : PState} {c : Chan} {x y : Nat} (h : ps.Tracks c x y) :
    ps.ne = (neighbors c x y).ne := by
  unfold PState.ne
  rw [h.hn]
  exact h.prevRow_read 1 _

theorem PState.Tracks.nee_eq {ps : PState} {c : Chan} {x y : Nat} (h : ps.Tracks c x y) :
    ps.nee = (neighbors c x y).nee := by
  unfold PState.nee
  rw [h.ne_eq]
  exact h.prevRow_read 2 _

theorem PState.Tracks.ww_eq {ps : PState} {c : Chan} {x y : Nat} (h : ps.Tracks c x y) :
    ps.ww = (neighbors c x y).ww := by
  unfold PState.ww
  rw [nb_ww, h.hx, h.hw]
  by_cases hx2 : x ≥ 2
  · rw [if_pos hx2, if_pos (by omega)]
    exact h.currLo _ (by omega)
  · rw [if_neg hx2, if_neg (by omega)]

theorem PState.Tracks.prevGrad_eq {ps : PState} {c : Chan} {x y : Nat} (h : ps.Tracks c x y) :
    ps.prevGrad = prevGradSpec c x y := h.hgrad

/-- `Properties::new`; entry 15 is the weighted predictor's `max_error`, which the Spec takes as a
parameter -/
theorem PState.Tracks.props_eq {ps : PState} {c : Chan} {x y : Nat} (h : ps.Tracks c x y)
    (scp : Option ScPred) :
    ps.props scp = propsSpec c x y ((scp.map (·.maxError)).getD 0) := by
  unfold PState.props propsSpec
  simp only [h.hx, h.hy, h.hw, h.hn, h.hnw, h.hgrad, h.ne_eq, h.nn_eq, h.ww_eq]

theorem PState.Tracks.predict_eq {ps : PState} {c : Chan} {x y : Nat} (h : ps.Tracks c x y)
    (pred : Nat) (scp : Option ScPred) :
    predictImpl pred ps scp
      = predictSpec pred (neighbors c x y) ((scp.map (·.prediction)).getD 0) := by
  unfold predictImpl predictSpec
  rw [h.hw, h.hn, h.hnw, h.ne_eq, h.nn_eq, h.nee_eq, h.ww_eq]

theorem PState.Tracks.scPredict_eq {ps : PState} {c : Chan} {x y : Nat} (h : ps.Tracks c x y) :
    ps.scPredict = ps.sc.map fun sc =>
      sc.predict (neighbors c x y).n (neighbors c x y).nw (neighbors c x y).ne
        (neighbors c x y).w (neighbors c x y).nn := by
  unfold PState.scPredict
  simp only [h.hw, h.hn, h.hnw, h.ne_eq, h.nn_eq]

/-- `encodeSamples` (reference encoder) with no incremental state except the weighted predictor's `sc`:
`n` samples from raster index `k` -/
def encodeGrid (sb : SBits) (leafOf : LeafOf) (prev : List Chan) (c : Chan) :
    Nat → Nat → Option ScState → Option (List (Nat × Nat))
  | 0, _, _ => some []
  | n + 1, k, sc =>
    let x := k % c.w
    let y := k / c.w
    let nb := neighbors c x y
    let scp := sc.map fun s => s.predict nb.n nb.nw nb.ne nb.w nb.nn
    match leafOf (propsFn (propsSpec c x y ((scp.map (·.maxError)).getD 0)) prev x y) with
    | none => none
    | some leaf =>
      match encodeResidual sb leaf (predictSpec leaf.pred nb ((scp.map (·.prediction)).getD 0))
          (c.get x y) with
      | none => none
      | some tok =>
        match encodeGrid sb leafOf prev c n (k + 1) (scStep sc scp (c.get x y)) with
        | none => none
        | some out => some ((leaf.ctx, tok) :: out)

theorem Chan.getElem_toList (c : Chan) (k : Nat) (hk : k < c.data.toList.length) :
    c.data.toList[k] = c.get (k % c.w) (k / c.w) := by
  unfold Chan.get
  rw [Nat.div_add_mod']
  simp [Array.getD_eq_getD_getElem?, Array.length_toList ▸ hk]

theorem encodeSamples_eq_encodeGrid (sb : SBits) (leafOf : LeafOf) (prev : List Chan) (c : Chan)
    (hw : 1 ≤ c.w) : ∀ (n k : Nat) (ps : PState), k + n = c.data.size →
      ps.Tracks c (k % c.w) (k / c.w) →
      encodeSamples sb leafOf prev (c.data.toList.drop k) ps
        = encodeGrid sb leafOf prev c n k ps.sc := by
  intro n
  induction n with
  | zero =>
    intro k ps hk _
    rw [List.drop_of_length_le (by simp; omega)]
    rfl
  | succ n ih =>
    intro k ps hk h
    have ih' := ih (k + 1) _ (by omega) (h.record_raster hw ps.scPredict rfl)
    rw [PState.record_sc] at ih'
    rw [List.drop_eq_getElem_cons (by simp; omega), c.getElem_toList]
    simp only [encodeSamples, encodeGrid]
    rw [h.props_eq, h.hx, h.hy]
    simp only [h.predict_eq]
    rw [h.scPredict_eq] at ih' ⊢
    rw [ih']
    rfl

/-! The invariant depends on the channel only at positions before `(x, y)` in raster order
(`PState.Tracks.congr`), so it can be carried along a grid that is filled while decoding. -/

/-- `(i, j)` is raster-earlier than `(x, y)` -/
def Before (x y i j : Nat) : Prop := j < y ∨ (j = y ∧ i < x)

theorem neighbors_cached_congr {c c' : Chan} {x y : Nat} (hx : x < c.w)
    (hag : ∀ i j, i < c.w → Before x y i j → c'.get i j = c.get i j) :
    (neighbors c' x y).w = (neighbors c x y).w ∧ (neighbors c' x y).n = (neighbors c x y).n ∧
    (neighbors c' x y).nw = (neighbors c x y).nw := by
  have hn : y > 0 → c'.get x (y - 1) = c.get x (y - 1) := fun h =>
    hag _ _ hx (Or.inl (by omega))
  have hw : (neighbors c' x y).w = (neighbors c x y).w :=
    ite_congr rfl (fun h => hag _ _ (by omega) (Or.inr ⟨rfl, by omega⟩)) fun _ =>
      ite_congr rfl hn fun _ => rfl
  exact ⟨hw, ite_congr rfl hn fun _ => hw,
    ite_congr rfl (fun h => hag _ _ (by omega) (Or.inl (by omega))) fun _ => hw⟩

theorem PState.Tracks.congr {ps : PState} {c c' : Chan} {x y : Nat} (h : ps.Tracks c x y)
    (hcw : c'.w = c.w)
    (hag : ∀ i j, i < c.w → Before x y i j → c'.get i j = c.get i j) :
    ps.Tracks c' x y := by
  have hxw := h.hxw
  obtain ⟨h1, h2, h3⟩ := neighbors_cached_congr hxw hag
  have hgrad : (if x > 0 then gradProp c' (x - 1) y else 0)
      = if x > 0 then gradProp c (x - 1) y else 0 :=
    ite_congr rfl (fun hx0 => by
      obtain ⟨g1, g2, g3⟩ := neighbors_cached_congr (x := x - 1) (y := y) (by omega)
        fun i j hi hb => hag i j hi (hb.imp_right fun hb => ⟨hb.1, by omega⟩)
      simp only [gradProp, g1, g2, g3]) fun _ => rfl
  exact
    { hwidth := h.hwidth.trans hcw.symm, hxw := hcw ▸ hxw, hx := h.hx, hy := h.hy
      hw := h.hw.trans h1.symm, hn := h.hn.trans h2.symm, hnw := h.hnw.trans h3.symm
      hgrad := h.hgrad.trans hgrad.symm
      prevSize := hcw ▸ h.prevSize, currSize := hcw ▸ h.currSize
      prevGet := fun i hi hy =>
        (h.prevGet i (hcw ▸ hi) hy).trans (hag i _ (hcw ▸ hi) (Or.inl (by omega))).symm
      currLo := fun i hi => (h.currLo i hi).trans (hag i _ (by omega) (Or.inr ⟨rfl, hi⟩)).symm
      currHi := fun i hi hi2 hy =>
        (h.currHi i hi (hcw ▸ hi2) hy).trans (hag i _ (hcw ▸ hi2) (Or.inl (by omega))).symm }

theorem before_raster_lt {w x y i j : Nat} (hi : i < w) (hb : Before x y i j) :
    j * w + i < y * w + x := by
  rcases hb with hb | ⟨rfl, hb⟩
  · have h1 : (j + 1) * w ≤ y * w := Nat.mul_le_mul_right w hb
    rw [Nat.succ_mul] at h1
    omega
  · omega

/-- the channel view of the samples decoded so far (later positions read as 0, and are never read) -/
def partialChan (w h : Nat) (acc : Array Int) : Chan := { w, h, data := acc }

/-- `decodeSamples` with no incremental state except the weighted predictor's: `n` more samples
after the `acc.size` already decoded -/
def decodeGrid (sb : SBits) (leafOf : LeafOf) (prev : List Chan) (w h : Nat) :
    Nat → Array Int → Option ScState → List Nat → Option (Array Int × List Nat × Option ScState)
  | 0, acc, sc, toks => some (acc, toks, sc)
  | n + 1, acc, sc, toks =>
    let c := partialChan w h acc
    let x := acc.size % w
    let y := acc.size / w
    let nb := neighbors c x y
    let scp := sc.map fun s => s.predict nb.n nb.nw nb.ne nb.w nb.nn
    match leafOf (propsFn (propsSpec c x y ((scp.map (·.maxError)).getD 0)) prev x y), toks with
    | some leaf, tok :: rest =>
      let v := sampleOf sb leaf (predictSpec leaf.pred nb ((scp.map (·.prediction)).getD 0)) tok
      decodeGrid sb leafOf prev w h n (acc.push v) (scStep sc scp v) rest
    | _, _ => none

theorem partialChan_get_push (w h : Nat) (acc : Array Int) (v : Int) (i j : Nat) :
    (partialChan w h (acc.push v)).get i j
      = if j * w + i = acc.size then v else (partialChan w h acc).get i j := by
  simp only [partialChan, Chan.get, getD_push]

theorem PState.Tracks.push {ps : PState} {w h : Nat} {acc : Array Int} (hw : 1 ≤ w)
    (ht : ps.Tracks (partialChan w h acc) (acc.size % w) (acc.size / w)) (scp : Option ScPred)
    (v : Int) :
    (ps.record scp v).Tracks (partialChan w h (acc.push v))
      ((acc.push v).size % w) ((acc.push v).size / w) := by
  have hk : acc.size / w * w + acc.size % w = acc.size := Nat.div_add_mod' _ _
  have h1 : ps.Tracks (partialChan w h (acc.push v)) (acc.size % w) (acc.size / w) :=
    ht.congr rfl fun i j hi hb => by
      have := before_raster_lt (w := w) hi hb
      rw [partialChan_get_push, if_neg (by omega)]
  rw [Array.size_push]
  exact h1.record_raster hw scp ((partialChan_get_push ..).trans (if_pos hk))

def decodeChannelGrid (sb : SBits) (tree : Tree) (wp : Wp) (chanIdx stream : Nat)
    (info : ChanInfo) (prevSame : List Chan) (tokens : List Nat) : Option (Chan × List Nat) :=
  let flat := flatten chanIdx stream prevSame.length tree
  let wpo := if flatUsesSC flat then some wp else none
  let prev := prevSame.take (flatMaxPrev flat)
  match decodeGrid sb (fun props => getLeaf flat props) prev info.w info.h (info.w * info.h) #[]
      (wpo.map (ScState.new info.w)) tokens with
  | none => none
  | some (a, toks, _) => some ({ w := info.w, h := info.h, data := a }, toks)

end Jxl.Modular
