/-!
The eight orientations on one axis at a time. Orientation `o` exchanges the axes iff `swaps o` and
then mirrors the columns iff `mirrorsX o` and the rows iff `mirrorsY o`; every orientation map of the
decoder (`Proofs/Output.lean`, `Proofs/Region.lean`) is brought into that form once, and the rest is
about the mirror of one coordinate in a row of `n`: a position (`mir`, `mirI`) or an interval (`mirLo`).
-/
namespace Jxl.Orient

theorem orient_cases {o : Nat} (h : 1 ≤ o ∧ o ≤ 8) :
    o = 1 ∨ o = 2 ∨ o = 3 ∨ o = 4 ∨ o = 5 ∨ o = 6 ∨ o = 7 ∨ o = 8 := by omega

def swaps (o : Nat) : Bool := decide (5 ≤ o)
def mirrorsX (o : Nat) : Bool := decide (o % 4 = 2 ∨ o % 4 = 3)
def mirrorsY (o : Nat) : Bool := decide (o % 4 = 3 ∨ o % 4 = 0)

/-- position `a` in a row of `n`, mirrored iff `b` (subtraction in the order the Rust writes it) -/
def mir (b : Bool) (n a : Nat) : Nat := if b then n - a - 1 else a
/-- the same on signed coordinates, where it is an involution everywhere -/
def mirI (b : Bool) (n : Nat) (a : Int) : Int := if b then n - a - 1 else a

theorem mir_lt (b : Bool) {n a : Nat} (h : a < n) : mir b n a < n := by
  unfold mir
  split <;> omega

theorem mir_mir (b : Bool) {n a : Nat} (h : a < n) : mir b n (mir b n a) = a := by
  cases b
  · rfl
  · show n - (n - a - 1) - 1 = a
    omega

theorem mirI_mirI (b : Bool) (n : Nat) (a : Int) : mirI b n (mirI b n a) = a := by
  cases b
  · rfl
  · show (n : Int) - (n - a - 1) - 1 = a
    omega

theorem mir_cast (b : Bool) {n a : Nat} (h : a < n) : ((mir b n a : Nat) : Int) = mirI b n a := by
  cases b
  · rfl
  · show ((n - a - 1 : Nat) : Int) = n - a - 1
    omega

/-- left end of the mirror image of the interval `[l, l + w)` -/
def mirLo (b : Bool) (n : Nat) (l : Int) (w : Nat) : Int := if b then n - l - w else l

/-- the images of the two ends of a non-empty interval, sorted as `Region::apply_orientation`
sorts them -/
theorem mirI_corners (b : Bool) (n : Nat) (l : Int) {w : Nat} (hw : w ≠ 0) :
    (if mirI b n l > mirI b n (l + w - 1) then (mirI b n (l + w - 1), mirI b n l)
      else (mirI b n l, mirI b n (l + w - 1))) = (mirLo b n l w, mirLo b n l w + w - 1) := by
  cases b
  · simp only [mirI, mirLo, Bool.false_eq_true, if_false]
    rw [if_neg (by omega)]
  · simp only [mirI, mirLo, if_true]
    split
    · congr 1 <;> omega
    · congr 1 <;> omega

theorem mirLo_add_mir (b : Bool) (n : Nat) (l : Int) {w i : Nat} (hi : i < w) :
    mirLo b n l w + (mir b w i : Nat) = mirI b n (l + i) := by
  cases b
  · rfl
  · show (n : Int) - l - w + ((w - i - 1 : Nat) : Int) = n - (l + i) - 1
    omega

theorem mem_mirLo (b : Bool) (n : Nat) (l : Int) (w : Nat) (X : Int) :
    (mirLo b n l w ≤ mirI b n X ∧ mirI b n X < mirLo b n l w + w) ↔ (l ≤ X ∧ X < l + w) := by
  cases b
  · exact Iff.rfl
  · show ((n : Int) - l - w ≤ n - X - 1 ∧ (n : Int) - X - 1 < n - l - w + w) ↔ _
    omega

end Jxl.Orient
