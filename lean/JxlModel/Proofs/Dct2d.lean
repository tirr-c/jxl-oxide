import JxlModel.Proofs.DctArray
import JxlModel.Proofs.Util
/-!
# The 2-D driver over any scalar type

Nothing here is about ℝ: what each pass of `dct_2d` reads (`*_rd`), which branch `dct_2d` takes on
which shape (`dct2d_table`), and that on the general path the two block transposes cancel, so that the
driver is rows-then-columns (`dct2d_separable`). The second pass of the general path cuts the longer
side into pieces of the shorter one, hence the hypothesis that one side divides the other.
-/
namespace Jxl.Dct

theorem div_mul_add_lt {n b i r : ℕ} (hdvd : b ∣ n) (hi : i < n) (hr : r < b) :
    i / b * b + r < n :=
  Nat.lt_of_lt_of_le (mul_add_lt_mul (Nat.div_lt_div_of_lt_of_dvd hdvd hi) hr)
    (Nat.div_mul_le_self n b)

theorem two_lt_two_pow {k : ℕ} (hk : 2 ≤ k) : 2 < 2 ^ k :=
  Nat.lt_of_lt_of_le (by decide : 2 < 2 ^ 2) (Nat.pow_le_pow_right (by decide) hk)

/-- the three kinds of side `dct_2d` distinguishes -/
theorem side_cases {n k j : ℕ} (hn : n = 2 ^ k) (hj : j < n) :
    n = 1 ∧ j = 0 ∨ n = 2 ∧ j < 2 ∨ ∃ m, n = m + 3 := by
  subst hn
  rcases k with _ | _ | k
  · exact .inl ⟨rfl, Nat.lt_one_iff.mp hj⟩
  · exact .inr (.inl ⟨rfl, hj⟩)
  · exact .inr (.inr (Nat.exists_eq_add_of_le' (two_lt_two_pow (Nat.le_add_left 2 k))))

theorem two_pow_dvd_total (a b : ℕ) : 2 ^ b ∣ 2 ^ a ∨ 2 ^ a ∣ 2 ^ b :=
  (Nat.le_total b a).imp (Nat.pow_dvd_pow 2) (Nat.pow_dvd_pow 2)

variable {α : Type} [Scalar α]

theorem Grid.rd_tab (w h : ℕ) (f : ℕ → ℕ → α) (x y : ℕ) (hx : x < w) (hy : y < h) :
    (Grid.tab w h f).rd x y = f x y :=
  getD_ofFn_raster w h f _ hx hy

theorem rowPass_rd (dir : Dir) (g : Grid α) (x y : ℕ) (hx : x < g.w) (hy : y < g.h) :
    (rowPass dir g).rd x y = rd (dct1 dir g.w (g.row y)) x := by
  unfold rowPass
  rw [Grid.rd_tab _ _ _ _ _ hx hy, getD_ofFn hy]

theorem colPass_rd (dir : Dir) (g : Grid α) (x y : ℕ) (hx : x < g.w) (hy : y < g.h) :
    (colPass dir g).rd x y = rd (dct1 dir g.h (g.col x)) y := by
  unfold colPass
  rw [Grid.rd_tab _ _ _ _ _ hx hy, getD_ofFn hx]

theorem blockTranspose_rd (bs : ℕ) (g : Grid α) (x y : ℕ) (hx : x < g.w) (hy : y < g.h) :
    (blockTranspose bs g).rd x y = g.rd (x / bs * bs + y % bs) (y / bs * bs + x % bs) :=
  Grid.rd_tab _ _ _ _ _ hx hy

theorem blockTranspose_w (bs : ℕ) (g : Grid α) : (blockTranspose bs g).w = g.w := rfl

theorem blockTranspose_h (bs : ℕ) (g : Grid α) : (blockTranspose bs g).h = g.h := rfl

theorem blockTranspose_rd_top (bs : ℕ) (g : Grid α) (x y : ℕ) (hx : x < g.w) (hy : y < g.h)
    (hb : y < bs) : (blockTranspose bs g).rd x y = g.rd (x / bs * bs + y) (x % bs) := by
  rw [blockTranspose_rd _ _ _ _ hx hy, Nat.div_eq_of_lt hb, Nat.mod_eq_of_lt hb, Nat.zero_mul,
    Nat.zero_add]

theorem blockTranspose_rd_left (bs : ℕ) (g : Grid α) (x y : ℕ) (hx : x < g.w) (hy : y < g.h)
    (hb : x < bs) : (blockTranspose bs g).rd x y = g.rd (y % bs) (y / bs * bs + x) := by
  rw [blockTranspose_rd _ _ _ _ hx hy, Nat.div_eq_of_lt hb, Nat.mod_eq_of_lt hb, Nat.zero_mul,
    Nat.zero_add]

theorem chunkPass_rd (dir : Dir) (g : Grid α) (x y : ℕ) (hx : x < g.w) (hy : y < g.h)
    (hdvd : g.h ∣ g.w) :
    (chunkPass dir g).rd x y =
      rd (dct1 dir g.h (tab g.h fun d => g.rd (x / g.h * g.h + d) y)) (x % g.h) := by
  unfold chunkPass
  rw [Grid.rd_tab _ _ _ _ _ hx hy, getD_ofFn hy,
    getD_ofFn (Nat.div_lt_div_of_lt_of_dvd hdvd hx)]

theorem gatherPass_rd (dir : Dir) (g : Grid α) (x y : ℕ) (hx : x < g.w) (hy : y < g.h) :
    (gatherPass dir g).rd x y =
      rd (dct1 dir g.h (tab g.h fun i => g.rd (i % g.w) (y % g.w + i / g.w * g.w)))
        (y / g.w * g.w + x) := by
  unfold gatherPass
  rw [Grid.rd_tab _ _ _ _ _ hx hy, getD_ofFn (Nat.mod_lt _ (Nat.zero_lt_of_lt hx))]

/-! Both second passes of the general path hand `dct1` the columns of the row-pass result `r`: the
first transpose turns column `x` of `r` into a row segment (wide) or into every `w`-th row (tall),
which is exactly what the pass collects, and the second transpose puts the result back. -/

/-- `block_size == height` -/
theorem transposes_cancel_wide (dir : Dir) (r : Grid α) (hdvd : r.h ∣ r.w)
    (x y : ℕ) (hx : x < r.w) (hy : y < r.h) :
    (blockTranspose r.h (chunkPass dir (blockTranspose r.h r))).rd x y = (colPass dir r).rd x y := by
  have hxm : x % r.h < r.h := Nat.mod_lt _ (Nat.zero_lt_of_lt hy)
  rw [blockTranspose_rd_top r.h (chunkPass dir (blockTranspose r.h r)) x y hx hy hy,
    chunkPass_rd dir (blockTranspose r.h r) _ _ (div_mul_add_lt hdvd hx hy) hxm hdvd,
    colPass_rd dir r x y hx hy, blockTranspose_h, mul_add_div_of_lt hy, Nat.mul_add_mod_of_lt hy]
  refine congrArg (fun v => rd (dct1 dir r.h v) y) (tab_congr fun d hd => ?_)
  rw [blockTranspose_rd_top r.h r _ _ (div_mul_add_lt hdvd hx hd) hxm hxm, mul_add_div_of_lt hd,
    Nat.mul_add_mod_of_lt hd, Nat.div_add_mod']

/-- `block_size == width` -/
theorem transposes_cancel_tall (dir : Dir) (r : Grid α) (hdvd : r.w ∣ r.h)
    (x y : ℕ) (hx : x < r.w) (hy : y < r.h) :
    (blockTranspose r.w (gatherPass dir (blockTranspose r.w r))).rd x y = (colPass dir r).rd x y := by
  have hym : y % r.w < r.w := Nat.mod_lt _ (Nat.zero_lt_of_lt hx)
  rw [blockTranspose_rd_left r.w (gatherPass dir (blockTranspose r.w r)) x y hx hy hx,
    gatherPass_rd dir (blockTranspose r.w r) _ _ hym (div_mul_add_lt hdvd hy hx),
    colPass_rd dir r x y hx hy, blockTranspose_h, blockTranspose_w, mul_add_div_of_lt hx,
    Nat.mul_add_mod_of_lt hx, Nat.div_add_mod']
  refine congrArg (fun v => rd (dct1 dir r.h v) y) (tab_congr fun i hi => ?_)
  have him : i % r.w < r.w := Nat.mod_lt _ (Nat.zero_lt_of_lt hx)
  rw [Nat.add_comm x, blockTranspose_rd_left r.w r _ _ him (div_mul_add_lt hdvd hi hx) him,
    mul_add_div_of_lt hx, Nat.mul_add_mod_of_lt hx, Nat.div_add_mod']

/-- the two-point transform `dct_2d` writes out in place along a side of length 2 -/
def bfly (dir : Dir) (c : ℕ → α) (j : ℕ) : α :=
  if j = 0 then Scalar.mul (Scalar.add (c 0) (c 1)) (dirMul dir)
  else Scalar.mul (Scalar.sub (c 0) (c 1)) (dirMul dir)

/-- The 2 × 2 branch stays as it is: it writes its four outputs out with the sums regrouped, and is
read off over ℝ in `dct2d_two_two`. -/
theorem dct2d_table (dir : Dir) (g : Grid α) : dct2d dir g =
    match g.w, g.h with
    | 1, 1 => g
    | 2, 1 => Grid.tab 2 1 fun x _ => bfly dir (fun u => g.rd u 0) x
    | 1, 2 => Grid.tab 1 2 fun _ y => bfly dir (fun v => g.rd 0 v) y
    | 2, 2 => dct2d dir g
    | _ + 3, 1 => rowPass dir g
    | 1, _ + 3 => colPass dir g
    | _ + 3, 2 => rowPass dir (Grid.tab g.w 2 fun x y => bfly dir (fun v => g.rd x v) y)
    | 2, _ + 3 => colPass dir (Grid.tab 2 g.h fun x y => bfly dir (fun u => g.rd u y) x)
    | _ + 3, _ + 3 => dct2dGeneral dir g
    | _, _ => g := by
  rcases hw : g.w with _ | _ | _ | n <;> rcases hh : g.h with _ | _ | _ | m <;>
    simp only [dct2d, hw, hh, bfly, Nat.add_mul, Nat.mul_add, Nat.mul_zero, Nat.zero_mul,
      Nat.reduceAdd, Nat.reduceMul, Nat.reduceLeDiff, Nat.reduceEqDiff, and_false, and_true,
      ↓reduceIte]
  -- left over: the product of two sides ≥ 3 is not ≤ 1
  exact if_neg (by omega)

theorem dct2d_eq_general (dir : Dir) (g : Grid α) (hw : 2 < g.w) (hh : 2 < g.h) :
    dct2d dir g = dct2dGeneral dir g := by
  obtain ⟨n, hn⟩ := Nat.exists_eq_add_of_le' hw
  obtain ⟨m, hm⟩ := Nat.exists_eq_add_of_le' hh
  rw [dct2d_table, hn, hm]

theorem dct2d_separable (dir : Dir) (g : Grid α) (hw : 2 < g.w) (hh : 2 < g.h)
    (hdvd : g.h ∣ g.w ∨ g.w ∣ g.h) (x y : ℕ) (hx : x < g.w) (hy : y < g.h) :
    (dct2d dir g).rd x y = (dct2dSep dir g).rd x y := by
  rw [dct2d_eq_general dir g hw hh, dct2dGeneral, dct2dSep]
  by_cases hle : g.h ≤ g.w
  · -- `block_size == height`; should it be `w` that divides `h`, the sides are equal
    have hd : g.h ∣ g.w := hdvd.elim id fun h =>
      Nat.le_antisymm hle (Nat.le_of_dvd (by omega) h) ▸ Nat.dvd_refl _
    simp only [Nat.min_eq_right hle, if_true]
    exact transposes_cancel_wide dir (rowPass dir g) hd x y hx hy
  · have hd : g.w ∣ g.h := hdvd.resolve_left fun h => hle (Nat.le_of_dvd (by omega) h)
    have hne : g.w ≠ g.h := by omega
    simp only [Nat.min_eq_left (Nat.le_of_not_le hle), hne, if_false]
    exact transposes_cancel_tall dir (rowPass dir g) hd x y hx hy

end Jxl.Dct
