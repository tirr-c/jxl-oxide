import JxlModel.Proofs.Dct
/-!
# Literal secant constants vs their definition (n = 4 only)
`sec_half(4) = [0.541196100146197, 1.3065629648763764]` (`dct_common.rs`), and the copies
`0.5411961`, `1.306563` used by `dct4` and the SSE kernels.
-/
open Real

namespace Jxl.Dct

theorem sqrt2_bounds : (1.41421356237 : ℝ) < √2 ∧ √2 < (1.41421356238 : ℝ) := by
  constructor
  · rw [Real.lt_sqrt (by norm_num)]; norm_num
  · rw [Real.sqrt_lt' (by norm_num)]; norm_num

theorem secHalf_4_0 : (secHalf 4 0 : ℝ) = 1 / √(2 + √2) := by
  have h : theta 4 0 = π / 8 := by unfold theta; push_cast; ring
  rw [secHalf_real, h, Real.cos_pi_div_eight, mul_div_cancel₀ _ two_ne_zero]

theorem secHalf_4_1 : (secHalf 4 1 : ℝ) = 1 / √(2 - √2) := by
  have h : theta 4 1 = π / 2 - π / 8 := by unfold theta; push_cast; ring
  rw [secHalf_real, h, Real.cos_pi_div_two_sub, Real.sin_pi_div_eight, mul_div_cancel₀ _ two_ne_zero]

/-- no square root is taken: with rational `a b l u` the side conditions are closed numerals -/
theorem one_div_sqrt_bounds {t a b l u : ℝ} (ha : a < t) (hb : t < b) (hl : 0 < l) (hu : 0 < u)
    (h1 : l ^ 2 * b ≤ 1) (h2 : 1 ≤ u ^ 2 * a) : l < 1 / √t ∧ 1 / √t < u := by
  have h1' : l ^ 2 * t < 1 := (mul_lt_mul_of_pos_left hb (pow_pos hl 2)).trans_le h1
  have h2' : 1 < u ^ 2 * t := h2.trans_lt (mul_lt_mul_of_pos_left ha (pow_pos hu 2))
  have ht : 0 < t := pos_of_mul_pos_right (zero_lt_one.trans h2') (sq_nonneg u)
  have hs : 0 < √t := Real.sqrt_pos.mpr ht
  have hsq : √t ^ 2 = t := Real.sq_sqrt ht.le
  rw [lt_div_iff₀ hs, div_lt_iff₀ hs]
  constructor
  · refine lt_of_pow_lt_pow_left₀ 2 zero_le_one ?_
    rw [mul_pow, hsq, one_pow]; exact h1'
  · refine lt_of_pow_lt_pow_left₀ 2 (mul_nonneg hu.le hs.le) ?_
    rw [mul_pow, hsq, one_pow]; exact h2'

/- The brackets below are the ones the `√2` bracket gives through `one_div_sqrt_bounds`, to ten
decimals; the second is wider because `2 - √2 ≈ 0.59` carries the error of `√2` six times larger,
relative to its size, than `2 + √2 ≈ 3.41` does. -/
theorem sec4_0_bounds : (0.5411961001 : ℝ) < secHalf 4 0 ∧ (secHalf 4 0 : ℝ) < 0.5411961002 := by
  obtain ⟨h1, h2⟩ := sqrt2_bounds
  rw [secHalf_4_0]
  exact one_div_sqrt_bounds (add_lt_add_right h1 2) (add_lt_add_right h2 2) (by norm_num)
    (by norm_num) (by norm_num) (by norm_num)

theorem sec4_1_bounds : (1.3065629647 : ℝ) < secHalf 4 1 ∧ (secHalf 4 1 : ℝ) < 1.3065629650 := by
  obtain ⟨h1, h2⟩ := sqrt2_bounds
  rw [secHalf_4_1]
  exact one_div_sqrt_bounds (sub_lt_sub_left h2 2) (sub_lt_sub_left h1 2) (by norm_num)
    (by norm_num) (by norm_num) (by norm_num)

theorem abs_sub_lt_of_bounds {s l u c e : ℝ} (hl : l < s) (hu : s < u) (h1 : c - e ≤ l)
    (h2 : u ≤ c + e) : |s - c| < e :=
  abs_sub_lt_iff.mpr ⟨by linarith, by linarith⟩

end Jxl.Dct
