import JxlModel.Model.Modular.ChainOk
import JxlModel.Proofs.Modular
import JxlModel.Proofs.Util
/-! `wrap sb` on values in range; a list around a window (`exists_window`); `Chan.ofFn` /
`Chan.ofRows` / `Chan.ofCols` against `Chan.get` / `Chan.row` / `Chan.col`, and the list lemmas they
need. -/
namespace Jxl.Modular

theorem wrap_of_inRange {sb : SBits} {v : Int} (h : inRange sb v = true) : wrap sb v = v := by
  simp only [inRange, Bool.and_eq_true, decide_eq_true_eq] at h
  exact wrap_eq_self sb v h.1.1 h.1.2 h.2

theorem inRange_between {sb : SBits} {a b v : Int} (ha : inRange sb a = true) (hb : inRange sb b = true)
    (h1 : min a b ≤ v) (h2 : v ≤ max a b) : inRange sb v = true := by
  simp only [inRange, Bool.and_eq_true, decide_eq_true_eq] at ha hb ⊢
  refine ⟨⟨ha.1.1, ?_⟩, ?_⟩ <;> omega

theorem Chan.with_data (c : Chan) {n : Nat} (f : Nat → Int) (hn : c.data.size = n)
    (hf : ∀ i, i < n → f i = c.data.getD i 0) :
    { c with data := ((List.range n).map f).toArray } = c := by
  obtain ⟨w, h, d⟩ := c
  simp only [Chan.mk.injEq, true_and]
  apply Array.ext
  · simp [hn]
  · intro i h1 h2
    simp at h1
    simp [hf i h1, Array.getD, h2]

theorem map_getD_range_eq_take_drop {α β} (l : List α) (d : α) (g : α → β) (b n : Nat)
    (h : b + n ≤ l.length) :
    (List.range n).map (fun i => g (l.getD (b + i) d)) = ((l.drop b).take n).map g := by
  apply List.ext_getElem
  · simp; omega
  · intro i h1 h2
    simp at h1
    simp [List.getD_eq_getElem?_getD, List.getElem?_eq_getElem (show b + i < l.length by omega)]

theorem take_drop_split {α} (l : List α) (b n : Nat) :
    l.take b ++ (l.drop b).take n ++ l.drop (b + n) = l := by
  rw [List.append_assoc, ← List.drop_drop, List.take_append_drop, List.take_append_drop]

/-- `[b, b + n)` is the window a transform rewrites. With `b` and `n` replaced by the lengths, `simp`
computes what the model reads by position (`take`, `drop`, `[b + i]?`, `set`). -/
theorem exists_window {α} {l : List α} {b n : Nat} (h : b + n ≤ l.length) :
    ∃ L M R, l = L ++ (M ++ R) ∧ L.length = b ∧ M.length = n :=
  ⟨l.take b, (l.drop b).take n, l.drop (b + n), by rw [← List.append_assoc, take_drop_split],
    by simp; omega, by simp; omega⟩

theorem Chan.ofFn_congr (w h : Nat) (f g : Nat → Nat → Int)
    (hfg : ∀ i, i < w * h → f (i % w) (i / w) = g (i % w) (i / w)) : Chan.ofFn w h f = Chan.ofFn w h g := by
  unfold Chan.ofFn
  congr 1
  apply Array.ext
  · simp
  · intro i h1 h2
    simp only [Array.getElem_ofFn]
    apply hfg
    simpa using h1

theorem Chan.get_ofFn (w h : Nat) (f : Nat → Nat → Int) (x y : Nat) (hx : x < w) (hy : y < h) :
    (Chan.ofFn w h f).get x y = f x y :=
  getD_ofFn_raster w h f 0 hx hy

theorem Chan.get_div_mod (c : Chan) (i : Nat) : c.get (i % c.w) (i / c.w) = c.data.getD i 0 := by
  unfold Chan.get
  have : i / c.w * c.w + i % c.w = i := by
    rw [Nat.mul_comm]; exact Nat.div_add_mod i c.w
  rw [this]

theorem Chan.ofFn_get (c : Chan) (h : c.wf = true) : Chan.ofFn c.w c.h (fun x y => c.get x y) = c := by
  simp only [Chan.wf, beq_iff_eq] at h
  obtain ⟨w, ht, data⟩ := c
  simp only at h
  unfold Chan.ofFn
  simp only [Chan.mk.injEq, true_and]
  apply Array.ext
  · simp [h]
  · intro i h1 h2
    simp at h1
    simp only [Array.getElem_ofFn, Chan.get]
    have : i / w * w + i % w = i := by
      rw [Nat.mul_comm]; exact Nat.div_add_mod i w
    simp [this, Array.getD, h2]

theorem Chan.ofFn_wf (w h : Nat) (f : Nat → Nat → Int) : (Chan.ofFn w h f).wf = true := by
  simp [Chan.wf, Chan.ofFn]

theorem Chan.ext_get {a b : Chan} (ha : a.wf = true) (hb : b.wf = true) (hw : a.w = b.w) (hh : a.h = b.h)
    (h : ∀ x y, x < b.w → y < b.h → a.get x y = b.get x y) : a = b := by
  rw [← Chan.ofFn_get a ha, ← Chan.ofFn_get b hb, hw, hh]
  apply Chan.ofFn_congr
  intro i hi
  have hwpos : 0 < b.w := Nat.pos_of_ne_zero fun h0 => by rw [h0, Nat.zero_mul] at hi; omega
  exact h _ _ (Nat.mod_lt _ hwpos) (Nat.div_lt_of_lt_mul hi)

theorem Chan.ofRows_w (w : Nat) (rows : List (List Int)) : (Chan.ofRows w rows).w = w := rfl
theorem Chan.ofRows_h (w : Nat) (rows : List (List Int)) : (Chan.ofRows w rows).h = rows.length := rfl
theorem Chan.ofCols_w (h : Nat) (cols : List (List Int)) : (Chan.ofCols h cols).w = cols.length := rfl
theorem Chan.ofCols_h (h : Nat) (cols : List (List Int)) : (Chan.ofCols h cols).h = h := rfl

theorem Chan.row_length (c : Chan) (y : Nat) : (c.row y).length = c.w := by simp [Chan.row]
theorem Chan.col_length (c : Chan) (x : Nat) : (c.col x).length = c.h := by simp [Chan.col]

theorem flatMap_id_getD (rows : List (List Int)) (w : Nat) (hr : ∀ r ∈ rows, r.length = w)
    (x y : Nat) (hx : x < w) :
    (rows.flatMap id).getD (y * w + x) 0 = (rows.getD y []).getD x 0 := by
  induction rows generalizing y with
  | nil => simp
  | cons r rs ih =>
    have hrl : r.length = w := hr r (List.mem_cons_self)
    have hrs : ∀ r ∈ rs, r.length = w := fun r' h' => hr r' (List.mem_cons_of_mem _ h')
    simp only [List.flatMap_cons, id]
    cases y with
    | zero =>
      simp only [Nat.zero_mul, Nat.zero_add, List.getD_cons_zero]
      simp only [List.getD_eq_getElem?_getD]
      rw [List.getElem?_append_left (by omega)]
    | succ y =>
      have := ih hrs y
      simp only [List.getD_cons_succ]
      rw [← this]
      simp only [List.getD_eq_getElem?_getD]
      rw [List.getElem?_append_right (by rw [hrl, Nat.succ_mul]; omega)]
      congr 2
      rw [hrl, Nat.succ_mul]; omega

/-- with this `Chan.ofRows` is handled as `Chan.ofCols` is, through `Chan.ofFn` -/
theorem Chan.ofRows_eq_ofFn (rows : List (List Int)) (w : Nat) (hr : ∀ r ∈ rows, r.length = w) :
    Chan.ofRows w rows = Chan.ofFn w rows.length fun x y => (rows.getD y []).getD x 0 := by
  unfold Chan.ofRows Chan.ofFn
  congr 1
  apply Array.ext
  · rw [List.size_toArray, length_flatMap_const id w rows hr, Array.size_ofFn]
  · intro i h1 h2
    have hw : 0 < w := Nat.pos_of_ne_zero fun h0 => by simp [h0] at h2
    have := flatMap_id_getD rows w hr (i % w) (i / w) (Nat.mod_lt _ hw)
    rw [Nat.mul_comm, Nat.div_add_mod] at this
    simp at h1
    simpa [h1] using this

theorem Chan.row_ofFn (w h : Nat) (f : Nat → Nat → Int) (y : Nat) (hy : y < h) :
    (Chan.ofFn w h f).row y = (List.range w).map fun x => f x y :=
  List.map_congr_left fun x hx => Chan.get_ofFn w h f x y (List.mem_range.mp hx) hy

theorem Chan.col_ofFn (w h : Nat) (f : Nat → Nat → Int) (x : Nat) (hx : x < w) :
    (Chan.ofFn w h f).col x = (List.range h).map fun y => f x y :=
  List.map_congr_left fun y hy => Chan.get_ofFn w h f x y hx (List.mem_range.mp hy)

theorem Chan.row_ofRows (rows : List (List Int)) (w : Nat) (hr : ∀ r ∈ rows, r.length = w)
    (y : Nat) (hy : y < rows.length) : (Chan.ofRows w rows).row y = rows.getD y [] := by
  rw [Chan.ofRows_eq_ofFn rows w hr, Chan.row_ofFn _ _ _ y hy]
  exact map_getD_range _ 0 (hr _ (by simp [List.getD_eq_getElem?_getD, hy]))

theorem Chan.col_ofCols (cols : List (List Int)) (h : Nat) (hc : ∀ c ∈ cols, c.length = h)
    (x : Nat) (hx : x < cols.length) : (Chan.ofCols h cols).col x = cols.getD x [] := by
  rw [Chan.ofCols, Chan.col_ofFn _ _ _ x hx]
  exact map_getD_range _ 0 (hc _ (by simp [List.getD_eq_getElem?_getD, hx]))

theorem Chan.ofRows_rows (c : Chan) (h : c.wf = true) :
    Chan.ofRows c.w ((List.range c.h).map c.row) = c := by
  rw [Chan.ofRows_eq_ofFn _ _ (by simp [Chan.row]), List.length_map, List.length_range]
  conv => rhs; rw [← Chan.ofFn_get c h]
  apply Chan.ofFn_congr
  intro i hi
  have hw : 0 < c.w := Nat.pos_of_ne_zero fun h0 => by rw [h0, Nat.zero_mul] at hi; omega
  rw [getD_map_range _ _ _ _ (Nat.div_lt_of_lt_mul hi), Chan.row,
    getD_map_range _ _ _ _ (Nat.mod_lt _ hw)]

theorem Chan.ofCols_cols (c : Chan) (h : c.wf = true) :
    Chan.ofCols c.h ((List.range c.w).map c.col) = c := by
  unfold Chan.ofCols
  rw [List.length_map, List.length_range]
  conv => rhs; rw [← Chan.ofFn_get c h]
  apply Chan.ofFn_congr
  intro i hi
  have hw : 0 < c.w := Nat.pos_of_ne_zero fun h0 => by rw [h0, Nat.zero_mul] at hi; omega
  rw [getD_map_range _ _ _ _ (Nat.mod_lt _ hw), Chan.col,
    getD_map_range _ _ _ _ (Nat.div_lt_of_lt_mul hi)]

theorem Chan.ofRows_wf (rows : List (List Int)) (w : Nat) (hr : ∀ r ∈ rows, r.length = w) :
    (Chan.ofRows w rows).wf = true := by
  rw [Chan.ofRows_eq_ofFn rows w hr]
  exact Chan.ofFn_wf _ _ _

end Jxl.Modular
