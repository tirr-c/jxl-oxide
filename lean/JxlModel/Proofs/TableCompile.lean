import JxlModel.Proofs.FlattenBase
/-! `try_compile_to_table` is correct (`tryCompile_correct`): for every in-range value of the property
the table entry `getLeafLoop` reads is the index of a sub-tree that evaluates like the root. The
work-list loop `compileLoop` is the explicit-stack form of `walk`, a recursion over the decision
chain; it appends value ranges in increasing order (`Cuts`, looked up by `pick`), and the index fill
tabulates `pick` (`fill_spec`; the unrepaired fill, finding F14, is in `Proofs/TableOld.lean`). -/
namespace Jxl.Modular

variable (c s pc : Nat)

/-- the state of `compileLoop` without its work list: `(lb, ub, acc)` -/
abbrev CSt := Int × Int × List (Tree × Int)

/-- what `compileLoop` does with the work-list entry `(t, lo, hi)` until that entry and all it
pushes are gone -/
def walk (prop : Nat) (t : Tree) (lo hi : Int) (st : CSt) : CSt :=
  match _h : t.next c s pc with
  | .dec p v l r =>
    if p = prop ∧ v ≥ hi then walk prop r lo hi st
    else if p = prop ∧ v < lo then walk prop l lo hi st
    else if p = prop ∧ max st.2.1 v - min st.1 v ≤ 1022 then
      walk prop l (v + 1) hi (walk prop r lo v (min st.1 v, max st.2.1 v, st.2.2))
    else (st.1, st.2.1, st.2.2 ++ [(t.next c s pc, hi)])
  | .leaf _ => (st.1, st.2.1, st.2.2 ++ [(t.next c s pc, hi)])
termination_by t.size
decreasing_by
  all_goals (have := next_size_le c s pc t; rw [_h, Tree.size] at this; omega)

/-- `walk`'s own equation carries the proof `_h` that `t.next` is what the `match` says -/
theorem walk_eq (prop : Nat) (t : Tree) (lo hi : Int) (st : CSt) :
    walk c s pc prop t lo hi st =
      match t.next c s pc with
      | .dec p v l r =>
        if p = prop ∧ v ≥ hi then walk c s pc prop r lo hi st
        else if p = prop ∧ v < lo then walk c s pc prop l lo hi st
        else if p = prop ∧ max st.2.1 v - min st.1 v ≤ 1022 then
          walk c s pc prop l (v + 1) hi (walk c s pc prop r lo v (min st.1 v, max st.2.1 v, st.2.2))
        else (st.1, st.2.1, st.2.2 ++ [(t.next c s pc, hi)])
      | .leaf _ => (st.1, st.2.1, st.2.2 ++ [(t.next c s pc, hi)]) := by
  rw [walk]
  split <;> simp only [*]

/-- every iteration pops an entry and pushes lighter ones, so `wts` of the work list bounds the
iterations -/
theorem compileLoop_eq_walks (prop : Nat) :
    ∀ (fuel : Nat) (stack : List (Tree × Int × Int)) (lb ub : Int) (acc : List (Tree × Int)),
      wts (stack.map (·.1)) ≤ fuel →
      compileLoop c s pc prop fuel stack lb ub acc =
        stack.foldl (fun st e => walk c s pc prop e.1 e.2.1 e.2.2 st) (lb, ub, acc) := by
  intro fuel
  induction fuel with
  | zero =>
    intro stack lb ub acc hw
    cases stack with
    | nil => rfl
    | cons e stack => have := wt_pos e.1; rw [List.map_cons, wts_cons] at hw; omega
  | succ fuel ih =>
    intro stack lb ub acc hw
    cases stack with
    | nil => rfl
    | cons e stack =>
      obtain ⟨t, lo, hi⟩ := e
      simp only [List.map_cons, wts_cons] at hw
      have hpos := wt_pos t
      rw [compileLoop, List.foldl_cons, walk_eq]
      cases hn : t.next c s pc with
      | leaf l0 => exact ih _ _ _ _ (by omega)
      | dec p v l r =>
        have hwt := wt_of_next_dec c s pc hn
        simp only [beq_iff_eq]
        by_cases hp : p = prop
        · simp only [hp, true_and, if_true]
          by_cases h1 : v ≥ hi
          · simp only [h1, if_true]
            exact ih ((r, lo, hi) :: stack) _ _ _ (by simp only [List.map_cons, wts_cons]; omega)
          · by_cases h2 : v < lo
            · simp only [h1, h2, if_true, if_false]
              exact ih ((l, lo, hi) :: stack) _ _ _ (by simp only [List.map_cons, wts_cons]; omega)
            · by_cases h3 : max ub v - min lb v ≤ 1022
              · have e1 : v + 1 ≤ hi := by omega
                have e2 : lo ≤ v := by omega
                have e3 : ¬ (max ub v - min lb v).toNat > 1024 - 2 := by omega
                simp only [h1, h2, h3, e1, e2, e3, if_true, if_false]
                exact ih ((r, lo, v) :: (l, v + 1, hi) :: stack) _ _ _
                  (by simp only [List.map_cons, wts_cons]; omega)
              · have e3 : (max ub v - min lb v).toNat > 1024 - 2 := by omega
                simp only [h1, h2, h3, e3, if_true, if_false]
                exact ih _ _ _ _ (by omega)
        · simp only [hp, false_and, if_false]
          exact ih _ _ _ _ (by omega)

def compileInit (value : Int) (l r : Tree) : List (Tree × Int × Int) :=
  [(r, i32Min, value)] ++ (if value + 1 ≤ i32Max then [(l, value + 1, i32Max)] else [])

theorem compileInit_wts (v : Int) (l r : Tree) (p : Nat) :
    wts ((compileInit v l r).map (·.1)) ≤ 2 * (Tree.dec p v l r).size + 4 := by
  have := size_pos l; have := size_pos r
  unfold compileInit
  split <;>
    simp only [List.map_cons, List.map_nil, List.cons_append, List.nil_append, wts, List.sum_cons,
      List.sum_nil, wt, Tree.size] <;> omega

theorem walks_init (p : Nat) (v : Int) (l r : Tree) (hstat : isStatic pc p = false)
    (hv1 : i32Min ≤ v) (hv2 : v ≤ i32Max) :
    (compileInit v l r).foldl (fun st e => walk c s pc p e.1 e.2.1 e.2.2 st) (v, v, [])
      = walk c s pc p (.dec p v l r) i32Min i32Max (v, v, []) := by
  have hn : (Tree.dec p v l r).next c s pc = .dec p v l r := by rw [next_dec, hstat]; rfl
  rw [walk_eq, hn]
  unfold compileInit
  dsimp only
  by_cases h : v + 1 ≤ i32Max
  · rw [if_pos h, if_neg (by omega), if_neg (by omega), if_pos ⟨rfl, by omega⟩, Int.min_self,
      Int.max_self]
    rfl
  · -- one entry: the left child is unreachable
    obtain rfl : v = i32Max := by omega
    rw [if_neg h, if_pos ⟨rfl, Int.le_refl _⟩]
    rfl

/-- `l` cuts `[start, cur)` into consecutive ranges, each given by its node and its end -/
def Cuts : Int → List (Tree × Int) → Int → Prop
  | start, [], cur => cur = start
  | start, (_, e) :: rest, cur => start ≤ e ∧ Cuts (e + 1) rest cur

/-- index of the range that holds `x` -/
def pick (l : List (Tree × Int)) (x : Int) : Nat := l.findIdx (x ≤ ·.2)

theorem pick_cons (n : Tree) (e : Int) (l : List (Tree × Int)) (x : Int) :
    pick ((n, e) :: l) x = if x ≤ e then 0 else pick l x + 1 := by
  simp only [pick, List.findIdx_cons]
  split <;> simp [*]

theorem pick_congr {x y : Int} :
    ∀ {l : List (Tree × Int)}, (∀ e ∈ l, x ≤ e.2 ↔ y ≤ e.2) → pick l x = pick l y
  | [], _ => rfl
  | (n, e) :: l, h => by
    rw [pick_cons, pick_cons, pick_congr fun b hb => h b (List.mem_cons_of_mem _ hb)]
    exact ite_congr (propext (h (n, e) (List.mem_cons_self ..))) (fun _ => rfl) (fun _ => rfl)

theorem Cuts.bounds : ∀ {l : List (Tree × Int)} {start cur : Int}, Cuts start l cur →
    start ≤ cur ∧ ∀ b ∈ l, start ≤ b.2 ∧ b.2 < cur
  | [], _, _, h => ⟨Int.le_of_eq h.symm, nofun⟩
  | (_, e) :: l, _, _, ⟨h1, h2⟩ => by
    obtain ⟨g1, g2⟩ := Cuts.bounds h2
    refine ⟨by omega, fun b hb => ?_⟩
    rcases List.mem_cons.1 hb with rfl | hb
    · exact ⟨h1, by omega⟩
    · have := g2 b hb; omega

theorem Cuts.pairwise : ∀ {l : List (Tree × Int)} {start cur : Int}, Cuts start l cur →
    l.Pairwise (fun a b => a.2 ≤ b.2)
  | [], _, _, _ => .nil
  | (_, e) :: l, _, _, ⟨_, h2⟩ =>
    .cons (fun b hb => by have := (Cuts.bounds h2).2 b hb; show e ≤ b.2; omega) (Cuts.pairwise h2)

theorem Cuts.snoc (n : Tree) {e : Int} : ∀ {l : List (Tree × Int)} {start cur : Int},
    Cuts start l cur → cur ≤ e → Cuts start (l ++ [(n, e)]) (e + 1)
  | [], _, _, h, he => ⟨h ▸ he, rfl⟩
  | _ :: _, _, _, ⟨h1, h2⟩, he => ⟨h1, Cuts.snoc n h2 he⟩

theorem Cuts.pick_lt {x : Int} : ∀ {l : List (Tree × Int)} {start cur : Int}, Cuts start l cur →
    start ≤ x → x < cur → pick l x < l.length
  | [], _, _, h, h1, h2 => by simp only [Cuts] at h; omega
  | (n, e) :: l, _, _, ⟨_, h2⟩, h1, h3 => by
    rw [pick_cons]
    split
    · exact Nat.zero_lt_succ _
    · exact Nat.succ_lt_succ (Cuts.pick_lt h2 (by omega) h3)

theorem Cuts.pick_snoc (n : Tree) {e x : Int} (hx : x ≤ e) :
    ∀ {l : List (Tree × Int)} {start cur : Int}, Cuts start l cur →
      pick (l ++ [(n, e)]) x = if x < cur then pick l x else l.length
  | [], _, _, h => by simp [pick, hx]
  | (m, f) :: l, _, _, ⟨_, h2⟩ => by
    have := (Cuts.bounds h2).1
    rw [List.cons_append, pick_cons, pick_cons, Cuts.pick_snoc n hx h2, List.length_cons]
    by_cases h : x ≤ f
    · rw [if_pos h, if_pos h, if_pos (by omega)]
    · rw [if_neg h, if_neg h]; split <;> rfl

/-- a range end: `i32Max`, or a decision value, and those lie inside the bounds -/
def Inside (lb ub e : Int) : Prop := e = i32Max ∨ (lb ≤ e ∧ e ≤ ub)

theorem Inside.mono {lb ub lb' ub' e : Int} (h : Inside lb ub e) (h1 : lb' ≤ lb) (h2 : ub ≤ ub') :
    Inside lb' ub' e :=
  h.imp_right fun g => ⟨Int.le_trans h1 g.1, Int.le_trans g.2 h2⟩

theorem Inside.clamp_le_iff {lb ub e x : Int} (h : Inside lb ub e) (hx : x ≤ i32Max)
    (hlb : lb ≤ i32Max) :
    x ≤ e ↔ min (max x lb) (ub + 1) ≤ e := by
  unfold Inside at h
  omega

/-- for a value `x` of the property and the leaf `L` the root selects for it; `cur` is where the
next range begins. `[lb, ub]` spans at most 1022 — which is what lets `tblIdx_eq` ignore the `i32`
saturation of `get_leaf`. -/
structure WInv (ev : Tree → Leaf) (P : Tree → Prop) (x : Int) (L : Leaf) (st : CSt) (cur : Int) :
    Prop where
  cuts : Cuts i32Min st.2.2 cur
  span : st.1 ≤ st.2.1 ∧ st.2.1 - st.1 ≤ 1022
  ends : ∀ e ∈ st.2.2, Inside st.1 st.2.1 e.2
  sub : ∀ e ∈ st.2.2, AllSub P e.1
  sel : x < cur → ev (st.2.2.getD (pick st.2.2 x) default).1 = L

/-- what the ranges weigh, each charged 3: a decision taken apart is lighter by 3 than its children
(`wt_dec`) and yields one range more -/
def cost (st : CSt) : Nat := wts (st.2.2.map (·.1)) + 3 * st.2.2.length

theorem cost_snoc (lb ub : Int) (acc : List (Tree × Int)) (n : Tree) (e : Int) :
    cost (lb, ub, acc ++ [(n, e)]) = cost (lb, ub, acc) + wt n + 3 := by
  have : wts [] = 0 := rfl
  simp only [cost, List.map_append, wts_append, List.length_append, List.map_cons, List.map_nil,
    wts_cons, List.length_cons, List.length_nil, this]
  omega

theorem WInv.emit {ev : Tree → Leaf} {P : Tree → Prop} {x : Int} {L : Leaf} {st : CSt} {lo hi : Int}
    (hx : i32Min ≤ x) (h : WInv ev P x L st lo) (hlh : lo ≤ hi)
    (hhi : Inside st.1 st.2.1 hi) (n : Tree) (hP : AllSub P n)
    (hL : lo ≤ x → x ≤ hi → ev n = L) :
    WInv ev P x L (st.1, st.2.1, st.2.2 ++ [(n, hi)]) (hi + 1) where
  cuts := h.cuts.snoc n hlh
  span := h.span
  ends := List.forall_mem_append.2 ⟨h.ends, List.forall_mem_singleton.2 hhi⟩
  sub := List.forall_mem_append.2 ⟨h.sub, List.forall_mem_singleton.2 hP⟩
  sel := fun hxh => by
    show ev ((st.2.2 ++ [(n, hi)]).getD (pick (st.2.2 ++ [(n, hi)]) x) default).1 = L
    rw [h.cuts.pick_snoc n (Int.le_of_lt_add_one hxh)]
    split
    · rw [getD_append_left _ _ _ _ (h.cuts.pick_lt hx ‹_›)]; exact h.sel ‹_›
    · rw [getD_append_right _ _ _ _ (Nat.le_refl _), Nat.sub_self]; exact hL (by omega) (by omega)

theorem walk_inv (props : Nat → Int) (P : Tree → Prop) (prop : Nat) (L : Leaf)
    (hx : i32Min ≤ props prop) (t : Tree) (lo hi : Int) (st : CSt) :
    WInv (Tree.evalFor c s pc props) P (props prop) L st lo → lo ≤ hi →
    Inside st.1 st.2.1 hi → AllSub P t →
    (lo ≤ props prop → props prop ≤ hi → Tree.evalFor c s pc props t = L) →
    WInv (Tree.evalFor c s pc props) P (props prop) L (walk c s pc prop t lo hi st) (hi + 1) ∧
      (walk c s pc prop t lo hi st).1 ≤ st.1 ∧ st.2.1 ≤ (walk c s pc prop t lo hi st).2.1 ∧
      cost (walk c s pc prop t lo hi st) ≤ cost st + wt t + 3 := by
  fun_induction walk c s pc prop t lo hi st with
  | case1 t lo hi st p v l r hn hc ih =>
    -- the decision cannot go left on `lo..=hi`
    intro h hlh hhi hP hL
    have hw := wt_of_next_dec c s pc hn
    obtain ⟨rfl, hc⟩ := hc
    obtain ⟨g1, g2, g3, g4⟩ := ih h hlh hhi (AllSub_of_next_dec c s pc hn hP).2 fun a b => by
      rw [← hL a b, evalFor_of_next_dec c s pc props hn, if_neg (by omega)]
    exact ⟨g1, g2, g3, by omega⟩
  | case2 t lo hi st p v l r hn _ hc ih =>
    -- the decision cannot go right on `lo..=hi`
    intro h hlh hhi hP hL
    have hw := wt_of_next_dec c s pc hn
    obtain ⟨rfl, hc⟩ := hc
    obtain ⟨g1, g2, g3, g4⟩ := ih h hlh hhi (AllSub_of_next_dec c s pc hn hP).1 fun a b => by
      rw [← hL a b, evalFor_of_next_dec c s pc props hn, if_pos (by omega)]
    exact ⟨g1, g2, g3, by omega⟩
  | case3 t lo hi st p v l r hn h1 h2 hc ihr ihl =>
    -- the decision value lies inside the range and keeps the span of all decision values within
    -- 1022: the right child on `lo..=v` with the bounds widened by `v`, then the left on `v+1..=hi`
    intro h hlh hhi hP hL
    have hw := wt_of_next_dec c s pc hn
    have hsub := AllSub_of_next_dec c s pc hn hP
    obtain ⟨rfl, hc⟩ := hc
    have hv1 : lo ≤ v := Int.not_lt.1 fun g => h2 ⟨rfl, g⟩
    have hv2 : v < hi := Int.not_le.1 fun g => h1 ⟨rfl, g⟩
    obtain ⟨a1, a2, a3, a4⟩ := ihr
      ⟨h.cuts, ⟨Int.le_trans (Int.min_le_right ..) (Int.le_max_right ..), hc⟩,
        fun e he => (h.ends e he).mono (Int.min_le_left ..) (Int.le_max_left ..), h.sub, h.sel⟩
      hv1 (Or.inr ⟨Int.min_le_right .., Int.le_max_right ..⟩) hsub.2 fun a b => by
        rw [← hL a (by omega), evalFor_of_next_dec c s pc props hn, if_neg (by omega)]
    replace a2 := Int.le_trans a2 (Int.min_le_left st.1 v)
    replace a3 := Int.le_trans (Int.le_max_left st.2.1 v) a3
    change _ ≤ cost st + _ + _ at a4
    clear h1 h2 hc
    obtain ⟨b1, b2, b3, b4⟩ := ihl a1 (by omega) (hhi.mono a2 a3) hsub.1 fun a b => by
      rw [← hL (by omega) b, evalFor_of_next_dec c s pc props hn, if_pos (by omega)]
    exact ⟨b1, Int.le_trans b2 a2, Int.le_trans a3 b3, by omega⟩
  | case4 t lo hi st _ _ _ _ hn | case5 t lo hi st _ hn =>
    -- the node is finished (other property, the span rule, or a leaf): it becomes a range
    intro h hlh hhi hP hL
    have hw := wt_next_le c s pc t
    refine ⟨h.emit hx hlh hhi _ (AllSub_next c s pc P t hP) fun a b => by
      rw [evalFor_next]; exact hL a b, Int.le_refl _, Int.le_refl _, ?_⟩
    rw [cost_snoc]
    show cost st + _ + 3 ≤ _
    omega

theorem span_loop_all {α} (p : α → Bool) : ∀ (l acc : List α), (∀ a ∈ l, p a = true) →
    List.span.loop p l acc = (acc.reverse ++ l, []) := by
  intro l
  induction l with
  | nil => intro acc _; simp [List.span.loop]
  | cons a l ih =>
    intro acc h
    have ha : p a = true := h a (by simp)
    rw [List.span.loop]
    simp only [ha]
    rw [ih (a :: acc) (fun b hb => h b (by simp [hb]))]
    simp

theorem span_all {α} (p : α → Bool) (l : List α) (h : ∀ a ∈ l, p a = true) : l.span p = (l, []) := by
  unfold List.span
  rw [span_loop_all p l [] h]; simp

theorem sortByEnd_foldl :
    ∀ (l pre : List (Tree × Int)), (∀ a ∈ pre, ∀ b ∈ l, a.2 ≤ b.2) →
      l.Pairwise (fun a b => a.2 ≤ b.2) →
      l.foldl (fun acc e =>
        let (a, b) := acc.span (fun x => x.2 ≤ e.2)
        a ++ e :: b) pre = pre ++ l := by
  intro l
  induction l with
  | nil => intro pre _ _; simp
  | cons e l ih =>
    intro pre h1 h2
    rw [List.foldl_cons]
    have hs : pre.span (fun x => decide (x.2 ≤ e.2)) = (pre, []) :=
      span_all _ pre (fun a ha => by simpa using h1 a ha e (by simp))
    simp only [hs]
    rw [ih (pre ++ [e]) ?_ (List.pairwise_cons.mp h2).2]
    · simp
    · intro a ha b hb
      rcases List.mem_append.mp ha with ha | ha
      · exact h1 a ha b (by simp [hb])
      · simp only [List.mem_singleton] at ha
        subst ha
        exact (List.pairwise_cons.mp h2).1 b hb

theorem sortByEnd_eq_self (l : List (Tree × Int)) (h : l.Pairwise (fun a b => a.2 ≤ b.2)) :
    sortByEnd l = l := by
  unfold sortByEnd
  rw [sortByEnd_foldl l [] (by intro a ha; simp at ha) h]
  simp

theorem fillRange_succ (a : Array Nat) (start len val : Nat) :
    fillRange a start (len + 1) val = (fillRange a start len val).setIfInBounds (start + len) val := by
  simp only [fillRange, List.range_succ, List.foldl_append, List.foldl_cons, List.foldl_nil]

theorem fillRange_size (a : Array Nat) (start val : Nat) : ∀ len, (fillRange a start len val).size = a.size := by
  intro len
  induction len with
  | zero => rfl
  | succ len ih => rw [fillRange_succ, Array.size_setIfInBounds, ih]

theorem fillRange_getD (a : Array Nat) (start val q : Nat) : ∀ len,
    (fillRange a start len val).getD q 0 =
      if start ≤ q ∧ q < start + len ∧ q < a.size then val else a.getD q 0 := by
  intro len
  induction len with
  | zero => exact (if_neg (by omega)).symm
  | succ len ih =>
    rw [fillRange_succ, getD_setIfInBounds, fillRange_size, ih]
    by_cases h : start ≤ q ∧ q < start + (len + 1) ∧ q < a.size
    · rw [if_pos h]
      by_cases hq : start + len = q
      · rw [if_pos ⟨hq, by omega⟩]
      · rw [if_neg (by omega), if_pos (by omega)]
    · rw [if_neg h, if_neg (by omega), if_neg (by omega)]

/-- fold state of the index fill: `(indices, nodes, range_start, next_index, idx, done)` -/
abbrev TSt := Array Nat × List Tree × Int × Nat × Nat × Bool

/-- the body of the `for` loop over the sorted range nodes in `tryCompile` -/
def tblStep (nextBase : Nat) (st : TSt) (e : Tree × Int) : TSt :=
  let (ind, nodes, rangeStart, nextIdx, idx, done) := st
  if done then st
  else if e.2 == i32Max then
    (fillRange ind nextIdx (ind.size - nextIdx) (nextBase + idx), nodes ++ [e.1], rangeStart, nextIdx, idx + 1, true)
  else
    let len := (e.2 - rangeStart).toNat
    (fillRange ind nextIdx len (nextBase + idx), nodes ++ [e.1], e.2, nextIdx + len, idx + 1, false)

theorem tryCompile_dec (prop : Nat) (value : Int) (l r : Tree) (nb : Nat) :
    tryCompile c s pc (.dec prop value l r) nb =
      match compileLoop c s pc prop (2 * (Tree.dec prop value l r).size + 4) (compileInit value l r)
          value value [] with
      | (lb, ub, rn) =>
        if rn.length < 4 then none
        else
          match (sortByEnd rn).foldl (tblStep nb)
              (Array.replicate ((ub - lb).toNat + 2) 0, [], lb - 1, 0, 0, false) with
          | (ind, nodes, _, _, _, _) => some (.table prop lb ind, nodes) := rfl

theorem tblStep_done (nb : Nat) (ind : Array Nat) (nodes : List Tree) (rs : Int) (ni idx : Nat)
    (e : Tree × Int) : tblStep nb (ind, nodes, rs, ni, idx, true) e = (ind, nodes, rs, ni, idx, true) := rfl

theorem tblStep_max (nb : Nat) (ind : Array Nat) (nodes : List Tree) (rs : Int) (ni idx : Nat)
    (n : Tree) :
    tblStep nb (ind, nodes, rs, ni, idx, false) (n, i32Max) =
      (fillRange ind ni (ind.size - ni) (nb + idx), nodes ++ [n], rs, ni, idx + 1, true) := by
  simp [tblStep]

theorem tblStep_fill (nb : Nat) (ind : Array Nat) (nodes : List Tree) (rs : Int) (ni idx : Nat)
    (n : Tree) (e : Int) (he : e ≠ i32Max) :
    tblStep nb (ind, nodes, rs, ni, idx, false) (n, e) =
      (fillRange ind ni (e - rs).toNat (nb + idx), nodes ++ [n], e, ni + (e - rs).toNat, idx + 1, false) := by
  simp [tblStep, he]

theorem foldl_tblStep_done (nb : Nat) (ind : Array Nat) (nodes : List Tree) (rs : Int) (ni idx : Nat) :
    ∀ (l : List (Tree × Int)),
      l.foldl (tblStep nb) (ind, nodes, rs, ni, idx, true) = (ind, nodes, rs, ni, idx, true) := by
  intro l
  induction l with
  | nil => rfl
  | cons e l ih => rw [List.foldl_cons, tblStep_done, ih]

/-- position `j` stands for the value `lb + j`, `ni` for `rs + 1`. The last position stands for
`ub + 1`, which is no `i32` when `ub = i32Max`; nothing reads it then, hence `lb + j ≤ i32Max`. -/
theorem fill_spec (nb : Nat) (lb ub : Int) :
    ∀ (rest : List (Tree × Int)) (ind : Array Nat) (nodes : List Tree) (rs : Int) (ni : Nat),
      Cuts (rs + 1) rest (i32Max + 1) → rs < i32Max → (∀ e ∈ rest, e.2 = i32Max ∨ e.2 ≤ ub) →
      ind.size = (ub - lb).toNat + 2 → (ni : Int) = rs - lb + 1 →
      ∃ ind' a b d, rest.foldl (tblStep nb) (ind, nodes, rs, ni, nodes.length, false)
          = (ind', nodes ++ rest.map (·.1), a, b, d, true) ∧ ind'.size = ind.size ∧
        ∀ j : Nat, lb + j ≤ i32Max → ind'.getD j 0 =
          if ni ≤ j ∧ j < ind.size then nb + nodes.length + pick rest (lb + j) else ind.getD j 0 := by
  intro rest
  induction rest with
  | nil => intro _ _ _ _ h; simp only [Cuts] at h; omega
  | cons a rest ih =>
    intro ind nodes rs ni hc hrs hb hsz hni
    obtain ⟨n, e⟩ := a
    obtain ⟨g1, g2⟩ := hc
    have hlt := (Cuts.bounds g2).1
    rw [List.foldl_cons]
    by_cases he : e = i32Max
    · subst he
      obtain rfl : rest = [] := by
        cases rest with
        | nil => rfl
        | cons b _ => have := g2.1; have := (Cuts.bounds g2.2).1; omega
      rw [tblStep_max, List.foldl_nil]
      refine ⟨_, _, _, _, rfl, fillRange_size .., fun j hj => ?_⟩
      rw [fillRange_getD, pick_cons, if_pos hj, Nat.add_zero]
      exact ite_congr (propext (by omega)) (fun _ => rfl) (fun _ => rfl)
    · have hbe : e ≤ ub := (hb (n, e) (List.mem_cons_self ..)).resolve_left he
      rw [tblStep_fill nb ind nodes rs ni _ n e he]
      obtain ⟨ind', a, b, d, r1, r2, r3⟩ :=
        ih (fillRange ind ni (e - rs).toNat (nb + nodes.length)) (nodes ++ [n]) e (ni + (e - rs).toNat)
          g2 (by omega) (fun e' he' => hb e' (List.mem_cons_of_mem _ he'))
          (by rw [fillRange_size]; exact hsz) (by omega)
      rw [List.length_append, List.length_singleton] at r1 r3
      rw [fillRange_size] at r2 r3
      refine ⟨ind', a, b, d, by rw [r1, List.map_cons, List.append_assoc]; rfl, r2, fun j hj => ?_⟩
      rw [r3 j hj, fillRange_getD, pick_cons]
      by_cases h1 : ni + (e - rs).toNat ≤ j ∧ j < ind.size
      · rw [if_pos h1, if_pos (by omega), if_neg (by omega)]; omega
      · rw [if_neg h1]
        by_cases h2 : ni ≤ j ∧ j < ind.size
        · rw [if_pos (by omega), if_pos h2, if_pos (by omega), Nat.add_zero]
        · rw [if_neg (by omega), if_neg h2]

/-- the position `getLeafLoop` reads in a table of `size` entries with base `vb`, for the value `x` -/
def tblIdx (x vb : Int) (size : Nat) : Nat :=
  (clamp (clamp (x - vb) i32Min i32Max) 0 ((size : Int) - 1)).toNat

theorem clamp_clamp (v lo hi lo' hi' : Int) (h1 : lo ≤ lo') (h2 : hi' ≤ hi) (h : lo' ≤ hi') :
    clamp (clamp v lo hi) lo' hi' = clamp v lo' hi' := by
  unfold clamp
  omega

/-- the saturating subtraction of `get_leaf` does not matter for a table of at most 1024 entries -/
theorem tblIdx_eq (x lb ub : Int) (size : Nat) (hs : size = (ub - lb).toNat + 2) (h1 : lb ≤ ub)
    (h2 : ub - lb ≤ 1022) :
    lb + (tblIdx x lb size : Int) = min (max x lb) (ub + 1) ∧ tblIdx x lb size < size := by
  unfold tblIdx
  rw [clamp_clamp _ _ _ _ _ (by decide) (by unfold i32Max; omega) (by omega), clamp]
  split
  · omega
  · split <;> omega

/-- **`try_compile_to_table` is correct.** For a decision node on a non-static property whose value
fits `i32`, and an in-range value of that property: the emitted node is a table, and the entry the
walker reads (`tblIdx`) is `nb + i` where the `i`-th handed-on sub-tree evaluates like the node
itself. -/
theorem tryCompile_correct (props : Nat → Int) (P : Tree → Prop) (p : Nat) (v : Int) (l r : Tree)
    (nb : Nat) (node : FlatNode) (nodes : List Tree)
    (hstat : isStatic pc p = false) (hv1 : i32Min ≤ v) (hv2 : v ≤ i32Max)
    (hx1 : i32Min ≤ props p) (hx2 : props p ≤ i32Max) (hP : AllSub P (.dec p v l r))
    (h : tryCompile c s pc (.dec p v l r) nb = some (node, nodes)) :
    ∃ vb ind i, node = .table p vb ind ∧ ind.getD (tblIdx (props p) vb ind.size) 0 = nb + i ∧
      i < nodes.length ∧
      Tree.evalFor c s pc props (nodes.getD i default) = Tree.evalFor c s pc props (.dec p v l r) ∧
      (∀ n ∈ nodes, AllSub P n) ∧ wts nodes + 3 ≤ wt (.dec p v l r) := by
  obtain ⟨hw, hlb, -, hcost⟩ := walk_inv c s pc props P p (Tree.evalFor c s pc props (.dec p v l r)) hx1
    (.dec p v l r) i32Min i32Max (v, v, [])
    ⟨rfl, ⟨Int.le_refl v, by show v - v ≤ 1022; omega⟩, nofun, nofun, fun h => absurd h (by omega)⟩
    (by decide) (Or.inl rfl) hP fun _ _ => rfl
  rw [tryCompile_dec, compileLoop_eq_walks c s pc p _ _ _ _ _ (compileInit_wts v l r p),
    walks_init c s pc p v l r hstat hv1 hv2] at h
  generalize walk c s pc p (.dec p v l r) i32Min i32Max (v, v, []) = st at h hw hlb hcost
  obtain ⟨lb, ub, acc⟩ := st
  obtain ⟨hcuts, ⟨hs1, hs2⟩, hends, hsub, hsel⟩ := hw
  simp only at hcuts hs1 hs2 hends hsub hsel hlb
  dsimp only at h
  rw [sortByEnd_eq_self acc hcuts.pairwise] at h
  split at h
  · exact absurd h nofun
  · rename_i hlen
    -- the first range begins at `i32Min`; for the fill it begins at `lb`
    have hcuts' : Cuts (lb - 1 + 1) acc (i32Max + 1) := by
      cases acc with
      | nil => exact absurd hlen (by decide)
      | cons a acc =>
        have := hends a (List.mem_cons_self ..); unfold Inside at this; exact ⟨by omega, hcuts.2⟩
    obtain ⟨ind', a, b, d, r1, r2, r3⟩ := fill_spec nb lb ub acc
      (Array.replicate ((ub - lb).toNat + 2) 0) [] (lb - 1) 0 hcuts' (by omega)
      (fun e he => (hends e he).imp_right And.right) Array.size_replicate (by omega)
    rw [List.length_nil] at r1 r3
    rw [r1] at h
    obtain ⟨rfl, rfl⟩ : Prod.mk (FlatNode.table p lb ind') ([] ++ acc.map (·.1)) = (node, nodes) :=
      Option.some.inj h
    obtain ⟨hj, hjs⟩ := tblIdx_eq (props p) lb ub _ rfl hs1 hs2
    have hlt := hcuts.pick_lt hx1 (Int.lt_add_one_of_le hx2)
    rw [Array.size_replicate] at r2 r3
    rw [List.nil_append]
    refine ⟨lb, ind', pick acc (props p), rfl, ?_, by rw [List.length_map]; exact hlt, ?_,
      fun n hn => by obtain ⟨e, he, rfl⟩ := List.mem_map.1 hn; exact hsub e he, ?_⟩
    · rw [r2, r3 _ (by omega), if_pos ⟨Nat.zero_le _, hjs⟩, hj, Nat.add_zero,
        pick_congr fun e he => (hends e he).clamp_le_iff hx2 (Int.le_trans hlb hv2)]
    · rw [getD_map (·.1) acc _ hlt default]
      exact hsel (Int.lt_add_one_of_le hx2)
    · simp only [cost, List.map_nil, List.length_nil, wts, List.sum_nil] at hcost
      simp only [wts]
      omega

end Jxl.Modular
