import JxlModel.Proofs.TableCompile
/-! `getLeaf (flatten …)` walks exactly to the leaf `Tree.evalFor` selects, including sub-trees compiled
to lookup tables (`tryCompile_correct` in `Proofs/TableCompile.lean`). The proof follows the
breadth-first construction with a ghost list `assigned` (the tree promised to every index). -/
namespace Jxl.Modular

variable (c s pc : Nat)

/-- where `getLeafLoop` goes on from a fused node: child `2`/`3` of `base` if the first decision
holds (`≤`), else child `0`/`1`, the second digit by the second-level decision -/
def fusedTarget (props : Nat → Int) (p0 : Nat) (v0 : Int) (pl pr : Nat) (vl vr : Int) (base : Nat) : Nat :=
  base + (if props p0 ≤ v0 then 2 + (if props pr ≤ vr then 1 else 0) else (if props pl ≤ vl then 1 else 0))

theorem getLeafLoop_leaf {nodes : Array FlatNode} {props : Nat → Int} {i : Nat} (n : Nat) {l : Leaf} (h : nodes[i]? = some (.leaf l)) :
    getLeafLoop nodes props (n + 1) i = some l := by
  rw [getLeafLoop, h]

theorem getLeafLoop_fused {nodes : Array FlatNode} {props : Nat → Int} {i : Nat} (n : Nat)
    {p0 pl pr base : Nat} {v0 vl vr : Int}
    (h : nodes[i]? = some (.fused p0 v0 pl pr vl vr base)) :
    getLeafLoop nodes props (n + 1) i
      = getLeafLoop nodes props n (fusedTarget props p0 v0 pl pr vl vr base) := by
  rw [getLeafLoop, h]
  rfl

theorem getLeafLoop_table {nodes : Array FlatNode} {props : Nat → Int} {i : Nat} (n : Nat)
    {prop : Nat} {vb : Int} {ind : Array Nat}
    (h : nodes[i]? = some (.table prop vb ind)) :
    getLeafLoop nodes props (n + 1) i
      = getLeafLoop nodes props n (ind.getD (tblIdx (props prop) vb ind.size) 0) := by
  rw [getLeafLoop, h]
  rfl

/-- the walk goes from index `i` on to a later index `k` whose tree evaluates like that of `i` -/
def Jumps (props : Nat → Int) (assigned : List Tree) (i k : Nat) : Prop :=
  i < k ∧ k < assigned.length ∧
    Tree.evalFor c s pc props (assigned.getD k default) = Tree.evalFor c s pc props (assigned.getD i default)

/-- node `i` of the flat array does what the tree assigned to index `i` does -/
def Good (props : Nat → Int) (assigned : List Tree) (i : Nat) : FlatNode → Prop
  | .leaf l => Tree.evalFor c s pc props (assigned.getD i default) = l
  | .fused p0 v0 pl pr vl vr base =>
    Jumps c s pc props assigned i (fusedTarget props p0 v0 pl pr vl vr base)
  | .table prop vb ind =>
    Jumps c s pc props assigned i (ind.getD (tblIdx (props prop) vb ind.size) 0)

theorem Jumps_mono (props : Nat → Int) (a ext : List Tree) (i k : Nat) (hi : i < a.length)
    (h : Jumps c s pc props a i k) : Jumps c s pc props (a ++ ext) i k := by
  obtain ⟨h1, h2, h3⟩ := h
  refine ⟨h1, by rw [List.length_append]; omega, ?_⟩
  rw [getD_append_left _ _ _ _ hi, getD_append_left _ _ _ _ h2]
  exact h3

theorem Good_mono (props : Nat → Int) (a ext : List Tree) (i : Nat) (hi : i < a.length)
    (n : FlatNode) (h : Good c s pc props a i n) : Good c s pc props (a ++ ext) i n := by
  cases n with
  | leaf l =>
    simp only [Good] at *
    rw [getD_append_left _ _ _ _ hi]; exact h
  | fused p0 v0 pl pr vl vr base => exact Jumps_mono c s pc props a ext i _ hi h
  | table prop vb ind => exact Jumps_mono c s pc props a ext i _ hi h

theorem walk_correct (props : Nat → Int) (nodes : Array FlatNode) (assigned : List Tree)
    (hlen : assigned.length ≤ nodes.size)
    (hgood : ∀ i (h : i < nodes.size), Good c s pc props assigned i nodes[i]) :
    ∀ n i, nodes.size - i ≤ n → i < nodes.size →
      getLeafLoop nodes props (n + 1) i = some (Tree.evalFor c s pc props (assigned.getD i default)) := by
  intro n
  induction n with
  | zero => intro i h1 h2; omega
  | succ n ih =>
    intro i h1 h2
    have jump : ∀ k, Jumps c s pc props assigned i k →
        getLeafLoop nodes props (n + 1) k = some (Tree.evalFor c s pc props (assigned.getD i default)) :=
      fun k hk => hk.2.2 ▸ ih k (by have := hk.1; omega) (by have := hk.2.1; omega)
    have hg := hgood i h2
    have hget : nodes[i]? = some nodes[i] := by simp [h2]
    cases hnode : nodes[i] with
    | leaf l => rw [hnode] at hg hget; rw [getLeafLoop_leaf (n + 1) hget, ← hg]
    | table prop vb ind => rw [hnode] at hg hget; rw [getLeafLoop_table (n + 1) hget]; exact jump _ hg
    | fused p0 v0 pl pr vl vr base =>
      rw [hnode] at hg hget; rw [getLeafLoop_fused (n + 1) hget]; exact jump _ hg

def NoTab (t : Tree) : Prop := ∀ nb, tryCompile c s pc t nb = none

def RootOK : Tree → Prop
  | .dec _ v _ _ => i32Min ≤ v ∧ v ≤ i32Max
  | .leaf _ => True

/-- what the flattening needs of a (sub-)tree: if it compiles to a lookup table then its root value
and the property values are in the `i32` range. Asked of every sub-tree separately (`AllSub`), so
that table-free trees need no range hypothesis at all. -/
def TabSafe (props : Nat → Int) (t : Tree) : Prop :=
  NoTab c s pc t ∨ (RootOK t ∧ ∀ p, i32Min ≤ props p ∧ props p ≤ i32Max)

theorem flattenLoop_dec (fuel : Nat) (t : Tree) (q : List Tree) (out : Array FlatNode) (nb : Nat)
    (p : Nat) (v : Int) (l r : Tree) (ht : t.next c s pc = .dec p v l r)
    (hnt : tryCompile c s pc (.dec p v l r) nb = none) :
    flattenLoop c s pc (fuel + 1) (t :: q) out nb =
      flattenLoop c s pc fuel
        (q ++ [(kids (l.next c s pc)).2.2.1, (kids (l.next c s pc)).2.2.2,
               (kids (r.next c s pc)).2.2.1, (kids (r.next c s pc)).2.2.2])
        (out.push (.fused p v (kids (l.next c s pc)).1 (kids (r.next c s pc)).1
                    (kids (l.next c s pc)).2.1 (kids (r.next c s pc)).2.1 nb)) (nb + 4) := by
  rw [flattenLoop]
  simp only [ht, hnt]
  cases hl : l.next c s pc <;> cases hr : r.next c s pc <;> simp [kids]

theorem flattenLoop_leaf (fuel : Nat) (t : Tree) (q : List Tree) (out : Array FlatNode) (nb : Nat)
    (l : Leaf) (ht : t.next c s pc = .leaf l) :
    flattenLoop c s pc (fuel + 1) (t :: q) out nb = flattenLoop c s pc fuel q (out.push (.leaf l)) nb := by
  rw [flattenLoop]
  simp only [ht, tryCompile]

theorem flattenLoop_table (fuel : Nat) (t : Tree) (q : List Tree) (out : Array FlatNode) (nb : Nat)
    (t' : Tree) (node : FlatNode) (nodes : List Tree) (ht : t.next c s pc = t')
    (hc : tryCompile c s pc t' nb = some (node, nodes)) :
    flattenLoop c s pc (fuel + 1) (t :: q) out nb =
      flattenLoop c s pc fuel (q ++ nodes) (out.push node) (nb + nodes.length) := by
  rw [flattenLoop]
  simp only [ht, hc]

theorem flattenLoop_nil (fuel : Nat) (out : Array FlatNode) (nb : Nat) :
    flattenLoop c s pc fuel [] out nb = out := by
  cases fuel <;> rfl

theorem Good_push (props : Nat → Int) (assigned new : List Tree) (out : Array FlatNode)
    (node : FlatNode) (hle : out.size ≤ assigned.length)
    (hgood : ∀ i (h : i < out.size), Good c s pc props assigned i out[i])
    (hnode : Good c s pc props (assigned ++ new) out.size node) :
    ∀ i (h : i < (out.push node).size),
      Good c s pc props (assigned ++ new) i (out.push node)[i] := by
  intro i h
  rw [Array.size_push] at h
  by_cases hi : i < out.size
  · rw [Array.getElem_push_lt hi]
    exact Good_mono c s pc props assigned new i (by omega) _ (hgood i hi)
  · obtain rfl : i = out.size := by omega
    rw [Array.getElem_push_eq]
    exact hnode

theorem Good_fused (props : Nat → Int) (assigned : List Tree) (i : Nat) (p : Nat) (v : Int)
    (l r : Tree) (hi : i < assigned.length) (hp : isStatic pc p = false)
    (hEi : Tree.evalFor c s pc props (assigned.getD i default) = Tree.evalFor c s pc props (.dec p v l r)) :
    Good c s pc props
      (assigned ++ [(kids (l.next c s pc)).2.2.1, (kids (l.next c s pc)).2.2.2,
                    (kids (r.next c s pc)).2.2.1, (kids (r.next c s pc)).2.2.2]) i
      (.fused p v (kids (l.next c s pc)).1 (kids (r.next c s pc)).1
        (kids (l.next c s pc)).2.1 (kids (r.next c s pc)).2.1 assigned.length) := by
  have hkl := evalFor_kids c s pc props (l.next c s pc) (next_nonstatic c s pc l)
  have hkr := evalFor_kids c s pc props (r.next c s pc) (next_nonstatic c s pc r)
  rw [evalFor_next] at hkl hkr
  simp only [Good, Jumps, fusedTarget]
  rw [getD_append_left _ _ _ _ hi, hEi, evalFor_dec c s pc props p v l r hp, List.length_append]
  by_cases h0 : props p ≤ v
  · rw [if_pos h0, if_neg (show ¬ props p > v by omega), hkr, getD_append_add]
    split <;> exact ⟨by omega, by simp, rfl⟩
  · rw [if_neg h0, if_pos (show props p > v by omega), hkl, getD_append_add]
    split <;> exact ⟨by omega, by simp, rfl⟩

theorem flattenLoop_step (props : Nat → Int) (fuel : Nat) (t : Tree) (q : List Tree)
    (out : Array FlatNode) (assigned : List Tree) (hlt : out.size < assigned.length)
    (hd : assigned.getD out.size default = t) (hsub : AllSub (TabSafe c s pc props) t) :
    ∃ node new,
      flattenLoop c s pc (fuel + 1) (t :: q) out assigned.length
        = flattenLoop c s pc fuel (q ++ new) (out.push node) (assigned.length + new.length) ∧
      Good c s pc props (assigned ++ new) out.size node ∧ wts new + 1 ≤ wt t ∧
      ∀ u ∈ new, AllSub (TabSafe c s pc props) u := by
  have hsubn := AllSub_next c s pc _ t hsub
  have hEt : Tree.evalFor c s pc props (assigned.getD out.size default) = Tree.evalFor c s pc props (t.next c s pc) := by
    rw [hd, evalFor_next]
  have hwt := wt_next_le c s pc t
  cases hn : t.next c s pc with
  | leaf l =>
    refine ⟨.leaf l, [], ?_, ?_, by have := wt_pos t; simp [wts]; omega, by simp⟩
    · rw [flattenLoop_leaf c s pc fuel t q out assigned.length l hn, List.append_nil]; rfl
    · rw [List.append_nil, Good, hEt, hn]; rfl
  | dec p v l r =>
    rw [hn] at hsubn hEt hwt
    have hp : isStatic pc p = false := next_nonstatic c s pc t p v l r hn
    cases hc : tryCompile c s pc (.dec p v l r) assigned.length with
    | some pr =>
      obtain ⟨node, nodes⟩ := pr
      have hok : RootOK (.dec p v l r) ∧ ∀ q, i32Min ≤ props q ∧ props q ≤ i32Max := by
        rcases AllSub_self _ _ hsubn with hnt | hok
        · rw [hnt assigned.length] at hc; exact absurd hc (by simp)
        · exact hok
      obtain ⟨vb, ind, k, rfl, e2, e3, e4, e5, e6⟩ :=
        tryCompile_correct c s pc props (TabSafe c s pc props) p v l r assigned.length node nodes
          hp hok.1.1 hok.1.2 (hok.2 p).1 (hok.2 p).2 hsubn hc
      refine ⟨_, nodes, flattenLoop_table c s pc fuel t q out assigned.length _ _ nodes hn hc,
        ?_, by omega, e5⟩
      simp only [Good, Jumps]
      rw [e2, List.length_append, getD_append_add, getD_append_left _ _ _ _ hlt, hEt]
      exact ⟨by omega, by omega, e4⟩
    | none =>
      have hlk := AllSub_kids _ _ (AllSub_next c s pc _ l hsubn.2.1)
      have hrk := AllSub_kids _ _ (AllSub_next c s pc _ r hsubn.2.2)
      refine ⟨_, _, flattenLoop_dec c s pc fuel t q out assigned.length p v l r hn hc,
        Good_fused c s pc props assigned out.size p v l r hlt hp hEt, ?_, ?_⟩
      · have h1 := kids_next_wt c s pc l
        have h2 := kids_next_wt c s pc r
        rw [wt_dec] at hwt
        simp only [wts, List.map_cons, List.map_nil, List.sum_cons, List.sum_nil]
        omega
      · simp only [List.forall_mem_cons]
        exact ⟨hlk.1, hlk.2, hrk.1, hrk.2, fun _ h => nomatch h⟩

theorem drop_eq_cons {α} {l : List α} {n : Nat} {x : α} {xs : List α} (h : l.drop n = x :: xs)
    (d : α) : n < l.length ∧ l.getD n d = x ∧ l.drop (n + 1) = xs := by
  have hlt : n < l.length := by
    refine Nat.lt_of_not_le fun hle => ?_
    rw [List.drop_eq_nil_of_le hle] at h
    exact absurd h (List.cons_ne_nil x xs).symm
  rw [List.drop_eq_getElem_cons hlt] at h
  injection h with h1 h2
  exact ⟨hlt, by rw [List.getD_eq_getElem?_getD, List.getElem?_eq_getElem hlt, Option.getD_some, h1], h2⟩

/-- `assigned` lists the tree promised to every index handed out so far; the queue holds those not
emitted yet. The conclusion speaks of the indices handed out so far only, so the trees promised
later need not be named. -/
theorem flattenLoop_sem (props : Nat → Int) :
    ∀ (fuel : Nat) (q : List Tree) (out : Array FlatNode) (assigned : List Tree),
      q = assigned.drop out.size → out.size ≤ assigned.length →
      (∀ i (h : i < out.size), Good c s pc props assigned i out[i]) →
      wts q ≤ fuel → (∀ t ∈ q, AllSub (TabSafe c s pc props) t) →
      ∀ n i, (flattenLoop c s pc fuel q out assigned.length).size - i ≤ n → i < assigned.length →
        getLeafLoop (flattenLoop c s pc fuel q out assigned.length) props (n + 1) i
          = some (Tree.evalFor c s pc props (assigned.getD i default)) := by
  intro fuel
  induction fuel with
  | zero =>
    intro q out assigned hq hle hgood hw _ n i hn hi
    cases q with
    | cons t q' => rw [wts_cons] at hw; have := wt_pos t; omega
    | nil =>
      have hlen := List.drop_eq_nil_iff.1 hq.symm
      rw [flattenLoop_nil] at hn ⊢
      exact walk_correct c s pc props out assigned hlen hgood n i hn (Nat.lt_of_lt_of_le hi hlen)
  | succ fuel ih =>
    intro q out assigned hq hle hgood hw hnt n i hn hi
    cases q with
    | nil =>
      have hlen := List.drop_eq_nil_iff.1 hq.symm
      rw [flattenLoop_nil] at hn ⊢
      exact walk_correct c s pc props out assigned hlen hgood n i hn (Nat.lt_of_lt_of_le hi hlen)
    | cons t q' =>
      obtain ⟨hlt, hd, hq'⟩ := drop_eq_cons hq.symm default
      obtain ⟨node, new, heq, hnode, hwt, hnew⟩ :=
        flattenLoop_step c s pc props fuel t q' out assigned hlt hd (hnt t (by simp))
      rw [wts_cons] at hw
      rw [heq] at hn ⊢
      rw [← List.length_append] at hn ⊢
      rw [← getD_append_left assigned new default i hi]
      exact ih (q' ++ new) (out.push node) (assigned ++ new)
        (by rw [Array.size_push, List.drop_append_of_le_length (by omega), hq'])
        (by rw [Array.size_push, List.length_append]; omega)
        (Good_push c s pc props assigned new out node hle hgood hnode)
        (by rw [wts_append]; omega)
        (fun u hu => (List.mem_append.1 hu).elim (fun h => hnt u (List.mem_cons_of_mem _ h)) (hnew u))
        n i hn (by rw [List.length_append]; omega)

/-- for every channel `c`, stream `s` and number `pc` of previous channels -/
theorem flatten_getLeaf_eq_evalFor (t : Tree) (props : Nat → Int)
    (hnt : AllSub (TabSafe c s pc props) t) :
    getLeaf (flatten c s pc t) props = some (t.evalFor c s pc props) := by
  have := flattenLoop_sem c s pc props (4 * t.size + 4) [t.next c s pc] #[] [t.next c s pc]
    rfl (Nat.zero_le _) (fun i h => absurd h (Nat.not_lt_zero i))
    (by
      have := next_size_le c s pc t
      simp [wts, wt]; omega)
    (fun u hu => List.mem_singleton.1 hu ▸ AllSub_next c s pc _ t hnt)
    (flatten c s pc t).size 0 (Nat.le_refl _) Nat.one_pos
  exact this.trans (congrArg some (evalFor_next c s pc props t))

theorem tryCompile_isNone_indep (t : Tree) (nb : Nat) :
    (tryCompile c s pc t nb).isNone = (tryCompile c s pc t 0).isNone := by
  cases t with
  | leaf l => rfl
  | dec prop value l r =>
    simp only [tryCompile]
    generalize compileLoop c s pc prop _ _ value value [] = cl
    obtain ⟨lb, ub, rn⟩ := cl
    by_cases h : rn.length < 4 <;> simp [h]

/-- decidable form of "no subtree compiles to a lookup table" -/
def noTabB : Tree → Bool
  | .leaf _ => true
  | .dec p v l r => (tryCompile c s pc (.dec p v l r) 0).isNone && noTabB l && noTabB r

theorem noTabB_sound (t : Tree) (h : noTabB c s pc t = true) : AllSub (NoTab c s pc) t := by
  induction t with
  | leaf l => intro nb; rfl
  | dec p v l r ihl ihr =>
    simp only [noTabB, Bool.and_eq_true] at h
    refine ⟨?_, ihl h.1.2, ihr h.2⟩
    intro nb
    have := tryCompile_isNone_indep c s pc (.dec p v l r) nb
    rw [h.1.1] at this
    exact Option.isNone_iff_eq_none.mp this

/-- every decision value of the tree fits `i32` (what the Rust type of `value` guarantees) -/
def Tree.valuesInI32 : Tree → Bool
  | .leaf _ => true
  | .dec _ v l r => decide (i32Min ≤ v) && decide (v ≤ i32Max) && l.valuesInI32 && r.valuesInI32

theorem valuesInI32_sound (t : Tree) (h : t.valuesInI32 = true) : AllSub RootOK t := by
  induction t with
  | leaf l => exact True.intro
  | dec p v l r ihl ihr =>
    simp only [Tree.valuesInI32, Bool.and_eq_true, decide_eq_true_eq] at h
    exact ⟨⟨h.1.1.1, h.1.1.2⟩, ihl h.1.2, ihr h.2⟩

end Jxl.Modular
