import JxlModel.Model.Modular.Decode
/-! Sample arithmetic of the Modular transforms: `wrap` on values in range; RCT and squeeze
inverse ∘ forward on one sample triple / one line, for any wrapping function `wr` that leaves alone
what the inverse wraps (`rct_sample_inv_of`, `unsqueeze_squeeze_go_of`), `wr = id` included. -/
namespace Jxl.Modular

theorem wrap_eq_self (b : Nat) (v : Int) (hb : 0 < b)
    (h1 : -(2 : Int) ^ (b - 1) ≤ v) (h2 : v < (2 : Int) ^ (b - 1)) : wrap b v = v := by
  unfold wrap
  have hp : (2 : Int) ^ b = 2 * (2 : Int) ^ (b - 1) := by
    rw [← Int.pow_succ']
    congr 1
    omega
  generalize (2 : Int) ^ (b - 1) = m at *
  simp only [hp]
  by_cases hv : 0 ≤ v
  · rw [Int.emod_eq_of_lt hv (by omega), if_neg (by omega)]
  · rw [← Int.add_mul_emod_self_left v (2 * m) 1, Int.emod_eq_of_lt (by omega) (by omega),
      if_pos (by omega)]
    omega

theorem rct_permute_inv (perm : Nat) (t : Int × Int × Int) :
    rctInvPermute perm (rctFwdPermute perm t) = t := by
  obtain ⟨x, y, z⟩ := t
  match perm with
  | 0 | 1 | 2 | 3 | 4 | 5 | _ + 6 => rfl

def rctFwdT (ty : Nat) (t : Int × Int × Int) : Int × Int × Int := rctFwdSample ty t.1 t.2.1 t.2.2
def rctInvT (wr : Int → Int) (ty : Nat) (t : Int × Int × Int) : Int × Int × Int :=
  rctInvSampleG wr ty t.1 t.2.1 t.2.2

/-- `hdf`, `h6`: the two computed values that get wrapped before a halving, the sum `d + f` for the
types 4 and 5, the value `tmp` (between `d` and `f`) for type 6 -/
theorem rct_sample_inv_of (wr : Int → Int) (ty : Nat) (d e f : Int)
    (hd : wr d = d) (he : wr e = e) (hf : wr f = f) (hdf : ty / 2 = 2 → wr (d + f) = d + f)
    (h6 : ty = 6 → wr (f + (d - f) / 2) = f + (d - f) / 2) :
    rctInvT wr ty (rctFwdT ty (d, e, f)) = (d, e, f) := by
  unfold rctInvT rctFwdT rctFwdSample rctInvSampleG
  by_cases t6 : ty = 6
  · have htmp := h6 t6
    subst t6
    simp only [beq_self_eq_true, if_true]
    rw [Int.add_sub_cancel, htmp, Int.sub_add_cancel, he, Int.add_sub_cancel, hf, Int.add_comm f,
      Int.sub_add_cancel, hd]
  · simp only [beq_false_of_ne t6, Bool.false_eq_true, if_false]
    -- the third component first: the second one uses it for the types 4 and 5
    have hF : (if ty % 2 == 1 then wr ((if ty % 2 == 1 then f - d else f) + d)
        else (if ty % 2 == 1 then f - d else f)) = f := by
      cases ty % 2 == 1
      · rfl
      · simp only [if_true]
        rw [Int.sub_add_cancel, hf]
    rw [hF]
    refine Prod.ext rfl (Prod.ext ?_ rfl)
    cases h1 : ty / 2 == 1
    · cases h2 : ty / 2 == 2
      · rfl
      · simp only [Bool.false_eq_true, if_false, if_true]
        rw [hdf (beq_iff_eq.mp h2), Int.sub_add_cancel, he]
    · simp only [if_true]
      rw [Int.sub_add_cancel, he]

theorem rct_sample_inv (ty : Nat) (t : Int × Int × Int) : rctInvT id ty (rctFwdT ty t) = t :=
  rct_sample_inv_of id ty t.1 t.2.1 t.2.2 rfl rfl rfl (fun _ => rfl) (fun _ => rfl)

theorem squeeze_pair (a b : Int) :
    let avg := (a + b + (if a > b then 1 else 0)) / 2
    avg + tdiv (a - b) 2 = a ∧ (avg + tdiv (a - b) 2) - (a - b) = b := by
  simp only [tdiv]
  by_cases h : a > b
  · simp only [h, if_true]
    have : Int.tdiv (a - b) 2 = (a - b) / 2 := Int.tdiv_eq_ediv_of_nonneg (by omega)
    rw [this]
    omega
  · simp only [h, if_false]
    have h2 : Int.tdiv (a - b) 2 = -((b - a) / 2) := by
      have : a - b = -(b - a) := by omega
      rw [this, Int.neg_tdiv, Int.tdiv_eq_ediv_of_nonneg (by omega)]
    rw [h2]
    omega

theorem squeezeAvgs_headD (l : List Int) (x : Int) (h : l ≠ []) :
    (squeezeAvgs l).headD x = match l with
      | a :: b :: _ => (a + b + (if a > b then 1 else 0)) / 2
      | [a] => a
      | [] => x := by
  match l with
  | [] => exact absurd rfl h
  | [a] => simp [squeezeAvgs]
  | a :: b :: r => simp [squeezeAvgs]

/-- `wr` leaves alone what the inverse squeeze of the line wraps: of every pair `(a, b)` the two
samples and their difference -/
def SqFix (wr : Int → Int) : List Int → Prop
  | a :: b :: rest => wr a = a ∧ wr b = b ∧ wr (a - b) = a - b ∧ SqFix wr rest
  | _ => True

theorem unsqueeze_squeeze_go_of (wr : Int → Int) (T : Int → Int → Int → Int) (line : List Int) (left : Int)
    (h : SqFix wr line) :
    unsqueezeGo wr T (squeezeAvgs line) (squeezeRes T line (squeezeAvgs line) left) left = line := by
  induction line using squeezeAvgs.induct generalizing left with
  | case1 a b rest ih =>
    obtain ⟨ha, hb, hab, hrest⟩ := h
    simp only [squeezeAvgs, squeezeRes, unsqueezeGo]
    have hp := squeeze_pair a b
    simp only at hp
    rw [Int.sub_add_cancel, hab, hp.1, ha, Int.sub_sub_self, hb, ih _ hrest]
  | case2 a => simp [squeezeAvgs, squeezeRes, unsqueezeGo]
  | case3 => simp [squeezeAvgs, unsqueezeGo]

theorem sqFix_id (line : List Int) : SqFix id line := by
  induction line using squeezeAvgs.induct with
  | case1 a b rest ih => exact ⟨rfl, rfl, rfl, ih⟩
  | case2 a => trivial
  | case3 => trivial

theorem unsqueeze_squeeze_go (T : Int → Int → Int → Int) (line : List Int) (left : Int) :
    unsqueezeGo id T (squeezeAvgs line) (squeezeRes T line (squeezeAvgs line) left) left = line :=
  unsqueeze_squeeze_go_of id T line left (sqFix_id line)

end Jxl.Modular
