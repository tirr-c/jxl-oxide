import JxlModel.Model.Container
/-!
Container parser, the lemmas behind C10.  The step function is characterised once (its equations per
state, `stepHeader_spec`, `step_shape`, `step_inv`); everything about runs follows by `feed_induct`:
chunking (`feed_append`), well-formed files (`box_step` → `feed_boxes` → `feed_wf`), the normal form
of event streams (`normalize_toks`, `normalize_bytewise`).
-/
namespace Jxl.Container
open Spec

theorem beNat_append_single (l : Bytes) (b : UInt8) : beNat (l ++ [b]) = beNat l * 256 + b.toNat := by
  simp [beNat, List.foldl_append]

@[simp] theorem beEnc_length (n v : Nat) : (beEnc n v).length = n := by
  induction n generalizing v with
  | zero => rfl
  | succ n ih => simp [beEnc, ih]

theorem beNat_beEnc (n v : Nat) : beNat (beEnc n v) = v % 256 ^ n := by
  induction n generalizing v with
  | zero => simp [beEnc, beNat, Nat.mod_one]
  | succ n ih =>
    rw [beEnc, beNat_append_single, ih]
    have : (UInt8.ofNat (v % 256)).toNat = v % 256 := by
      simp [UInt8.toNat_ofNat']
    rw [this, Nat.pow_succ, Nat.mul_comm (256 ^ n) 256, Nat.mod_mul]
    omega

theorem beNat_beEnc_lt {n v : Nat} (h : v < 256 ^ n) : beNat (beEnc n v) = v := by
  rw [beNat_beEnc, Nat.mod_eq_of_lt h]

def Spec.fits (n : Nat) : Enc → Prop
  | .short => n + 8 < 2 ^ 32
  | .long => n + 16 < 2 ^ 64
  | .toEof => True

abbrev Spec.Enc.size (e : Enc) (n : Nat) : Option Nat := if e = .toEof then none else some n

theorem parseHeader_size32 (ty : Bytes) (hty : ty.length = 4) (v : Nat) (hv : v < 2 ^ 32) (rest : Bytes) :
    parseHeader (beEnc 4 v ++ ty ++ rest) =
      if v = 1 then
        (if rest.length < 8 then .needMore
         else if beNat (rest.take 8) < 16 then .invalid else .done ⟨ty, some (beNat (rest.take 8) - 16)⟩ 16)
      else if v = 0 then .done ⟨ty, none⟩ 8
      else if v < 8 then .invalid else .done ⟨ty, some (v - 8)⟩ 8 := by
  have hl : ¬ (beEnc 4 v ++ ty ++ rest).length < 8 := by simp [hty]; omega
  have hl16 : (beEnc 4 v ++ ty ++ rest).length < 16 ↔ rest.length < 8 := by simp [hty]; omega
  have t4 : (beEnc 4 v ++ ty ++ rest).take 4 = beEnc 4 v := by
    rw [List.append_assoc]; exact List.take_left' (by simp)
  have d4 : ((beEnc 4 v ++ ty ++ rest).drop 4).take 4 = ty := by
    rw [List.append_assoc, List.drop_left' (by simp)]; exact List.take_left' hty
  have d8 : (beEnc 4 v ++ ty ++ rest).drop 8 = rest := List.drop_left' (by simp [hty])
  simp only [parseHeader, hl, hl16, if_false, t4, d4, d8, beNat_beEnc_lt (show v < 256 ^ 4 by omega)]

theorem header_roundtrip (ty : Bytes) (hty : ty.length = 4) (n : Nat) (e : Enc) (hf : fits n e)
    (rest : Bytes) :
    parseHeader (serHeader ty n e ++ rest) =
      .done ⟨ty, if e = .toEof then none else some n⟩ (serHeader ty n e).length := by
  cases e with
  | short =>
    simp only [fits] at hf
    rw [serHeader, parseHeader_size32 ty hty (n + 8) hf rest, if_neg (by omega), if_neg (by omega),
      if_neg (by omega)]
    simp [hty]
  | long =>
    simp only [fits] at hf
    have t8 : (beEnc 8 (n + 16) ++ rest).take 8 = beEnc 8 (n + 16) := List.take_left' (by simp)
    rw [serHeader, List.append_assoc, parseHeader_size32 ty hty 1 (by decide), if_pos rfl,
      if_neg (by simp), t8, beNat_beEnc_lt (show n + 16 < 256 ^ 8 by omega), if_neg (by omega)]
    simp [hty]
  | toEof =>
    rw [serHeader, parseHeader_size32 ty hty 0 (by decide) rest]
    simp [hty]

theorem parseHeader_append (a b : Bytes) (h : parseHeader a ≠ .needMore) :
    parseHeader (a ++ b) = parseHeader a := by
  unfold parseHeader at h ⊢
  by_cases h8 : a.length < 8
  · simp [h8] at h
  · have h8' : ¬ (a ++ b).length < 8 := by simp; omega
    have t4 : (a ++ b).take 4 = a.take 4 := List.take_append_of_le_length (by omega)
    have d4 : ((a ++ b).drop 4).take 4 = (a.drop 4).take 4 := by
      rw [List.drop_append_of_le_length (by omega), List.take_append_of_le_length (by simp; omega)]
    simp only [h8, h8', if_false, t4, d4] at h ⊢
    by_cases h1 : beNat (a.take 4) = 1
    · simp only [h1, if_true] at h ⊢
      by_cases h16 : a.length < 16
      · simp [h16] at h
      · have h16' : ¬ (a ++ b).length < 16 := by simp; omega
        have d8 : ((a ++ b).drop 8).take 8 = (a.drop 8).take 8 := by
          rw [List.drop_append_of_le_length (by omega), List.take_append_of_le_length (by simp; omega)]
        simp only [h16, h16', if_false, d8]
    · simp only [h1, if_false]

theorem parseHeader_cases (a : Bytes) :
    (parseHeader a = .needMore ∧ a.length < 16) ∨ parseHeader a = .invalid ∨
      ∃ h hs, parseHeader a = .done h hs ∧ 8 ≤ hs ∧ hs ≤ a.length := by
  fun_cases parseHeader a
  · exact .inl ⟨rfl, by omega⟩
  · exact .inl ⟨rfl, by omega⟩
  · exact .inr (.inl rfl)
  · exact .inr (.inr ⟨_, _, rfl, by omega, by omega⟩)
  · exact .inr (.inr ⟨_, _, rfl, by omega, by omega⟩)
  · exact .inr (.inl rfl)
  · exact .inr (.inr ⟨_, _, rfl, by omega, by omega⟩)

/-! In the equations of `step`, a state that reads a field (signature, box header, jxlp index, brob
inner type) answers `Ok(None)` until the field is complete, so its equation holds for the empty
buffer too; the data states need a byte. -/

theorem step_nil (s : PState) : step s [] = .stop := rfl

theorem step_signature (jx : JxlpState) (buf : Bytes) :
    step ⟨.waitingSignature, jx⟩ buf =
      if csSig.isPrefixOf buf then
        .cont (some (.kind .bare)) ⟨.inCodestream .bare none true, jx⟩ buf
      else if contSig.isPrefixOf buf then
        .cont (some (.kind .container)) ⟨.waitingBoxHeader, jx⟩ (buf.drop 12)
      else if !buf.isPrefixOf csSig && !buf.isPrefixOf contSig then
        .cont (some (.kind .invalid)) ⟨.inCodestream .invalid none true, jx⟩ buf
      else .stop := by
  cases buf <;> rfl

theorem step_boxHeader (jx : JxlpState) (buf : Bytes) :
    step ⟨.waitingBoxHeader, jx⟩ buf =
      match parseHeader buf with
      | .invalid => .err .invalidBox buf
      | .needMore => .stop
      | .done h hs => stepHeader jx h (buf.drop hs) := by
  cases buf <;> rfl

theorem step_jxlpIndex (h : Header) (jx : JxlpState) (buf : Bytes) :
    step ⟨.waitingJxlpIndex h, jx⟩ buf =
      if buf.length < 4 then .stop
      else
        match jx with
        | .jxlp expected =>
          if expected = beNat (buf.take 4) % 2 ^ 31 then
            match h.size with
            | some n =>
              if n < 4 then .err .panicUnderflow (buf.drop 4)
              else .cont none ⟨.inCodestream .container (some (n - 4)) false,
                if decide (2 ^ 31 ≤ beNat (buf.take 4)) then .finished else .jxlp expected⟩ (buf.drop 4)
            | none =>
              .cont none ⟨.inCodestream .container none true,
                if decide (2 ^ 31 ≤ beNat (buf.take 4)) then .finished else .jxlp expected⟩ (buf.drop 4)
          else .err .invalidBox (buf.drop 4)
        | _ => .err .panicUnreachable (buf.drop 4) := by
  cases buf <;> rfl

theorem step_pending (k : Kind) (left : Option Nat) (jx : JxlpState) {buf : Bytes} (hne : buf ≠ []) :
    step ⟨.inCodestream k left true, jx⟩ buf =
      .cont (some .noMoreAux) ⟨.inCodestream k left false, jx⟩ buf := by
  cases buf
  · exact absurd rfl hne
  · rfl

theorem step_csEof (k : Kind) (jx : JxlpState) {buf : Bytes} (hne : buf ≠ []) :
    step ⟨.inCodestream k none false, jx⟩ buf =
      .cont (some (.codestream buf)) ⟨.inCodestream k none false, jx⟩ [] := by
  cases buf
  · exact absurd rfl hne
  · rfl

theorem step_csSized (k : Kind) (n : Nat) (jx : JxlpState) {buf : Bytes} (hne : buf ≠ []) :
    step ⟨.inCodestream k (some n) false, jx⟩ buf =
      if n ≤ buf.length then
        .cont (some (.codestream (buf.take n))) ⟨.waitingBoxHeader, jx⟩ (buf.drop n)
      else
        .cont (some (.codestream buf)) ⟨.inCodestream k (some (n - buf.length)) false, jx⟩ [] := by
  cases buf
  · exact absurd rfl hne
  · rfl

theorem step_brobInner (h : Header) (left : Option Nat) (jx : JxlpState) (hty : h.ty = tyBrob)
    (buf : Bytes) :
    step ⟨.inAuxBox h none left, jx⟩ buf =
      if buf.length < 4 then .stop
      else
        match left with
        | some n =>
          if n < 4 then .err .panicUnderflow (buf.drop 4)
          else if reservedInner (buf.take 4) then .err .validationFailed (buf.drop 4)
          else .cont (some (.auxStart (buf.take 4) true false))
                 ⟨.inAuxBox h (some (buf.take 4)) (some (n - 4)), jx⟩ (buf.drop 4)
        | none =>
          if reservedInner (buf.take 4) then .err .validationFailed (buf.drop 4)
          else .cont (some (.auxStart (buf.take 4) true true))
                 ⟨.inAuxBox h (some (buf.take 4)) none, jx⟩ (buf.drop 4) := by
  cases buf
  · rfl
  · simp only [step, hty, and_self, if_true]; rfl

theorem step_auxData (h : Header) (bty : Option Bytes) (left : Option Nat) (jx : JxlpState)
    (hopen : ¬(h.ty = tyBrob ∧ bty = none)) {buf : Bytes} (hne : buf ≠ []) :
    step ⟨.inAuxBox h bty left, jx⟩ buf =
      match left with
      | some n =>
        if n = 0 then .cont (some (.auxEnd (bty.getD h.ty))) ⟨.waitingBoxHeader, jx⟩ buf
        else .cont (some (.auxData (bty.getD h.ty) (buf.take (min n buf.length))))
               ⟨.inAuxBox h bty (some (n - min n buf.length)), jx⟩ (buf.drop (min n buf.length))
      | none => .cont (some (.auxData (bty.getD h.ty) buf)) ⟨.inAuxBox h bty none, jx⟩ [] := by
  cases buf
  · exact absurd rfl hne
  · cases left <;> simp only [step, hopen, if_false] <;> rfl

/-- a sized box without room for the 4-byte jxlp index or brob inner type -/
def Header.noRoom (h : Header) : Bool :=
  match h.size with
  | some n => decide (n < 4)
  | none => false

theorem Header.room {h : Header} (hs : h.noRoom = false) (n : Nat) (hn : h.size = some n) : 4 ≤ n := by
  simpa [Header.noRoom, hn] using hs

theorem Header.noRoom_size (ty : Bytes) (e : Enc) (n : Nat) :
    Header.noRoom ⟨ty, e.size n⟩ = decide (e ≠ .toEof ∧ n < 4) := by
  cases e <;> simp [Header.noRoom, Enc.size]

def JxlpState.next : JxlpState → Option Nat
  | .initial => some 0
  | .jxlp i => some (i + 1)
  | _ => none

theorem stepHeader_jxlc (jx : JxlpState) (size : Option Nat) (rest : Bytes) :
    stepHeader jx ⟨tyJxlc, size⟩ rest =
      match jx with
      | .initial => .cont none ⟨.inCodestream .container size size.isNone, .singleJxlc⟩ rest
      | _ => .err .invalidBox rest := rfl

theorem stepHeader_jxlp (jx : JxlpState) (size : Option Nat) (rest : Bytes) :
    stepHeader jx ⟨tyJxlp, size⟩ rest =
      if Header.noRoom ⟨tyJxlp, size⟩ then .err .invalidBox rest
      else
        match jx.next with
        | some i => .cont none ⟨.waitingJxlpIndex ⟨tyJxlp, size⟩, .jxlp i⟩ rest
        | none => .err .invalidBox rest := by
  cases jx <;> rfl

theorem stepHeader_brob (jx : JxlpState) (size : Option Nat) (rest : Bytes) :
    stepHeader jx ⟨tyBrob, size⟩ rest =
      if Header.noRoom ⟨tyBrob, size⟩ then .err .invalidBox rest
      else .cont none ⟨.inAuxBox ⟨tyBrob, size⟩ none size, jx⟩ rest := rfl

theorem stepHeader_other (jx : JxlpState) (h : Header) (rest : Bytes) (h1 : h.ty ≠ tyJxlc)
    (h2 : h.ty ≠ tyJxlp) (h3 : h.ty ≠ tyBrob) :
    stepHeader jx h rest =
      .cont (some (.auxStart h.ty false h.size.isNone)) ⟨.inAuxBox h none h.size, jx⟩ rest := by
  unfold stepHeader
  rw [if_neg h1, if_neg h2, if_neg h3]

/-- holds in every reachable state: a box waiting for its jxlp index or brob inner type has room for
that field, because the header arm has checked it -/
def Inv (s : PState) : Prop :=
  match s.st with
  | .waitingJxlpIndex h => (∃ e, s.jx = .jxlp e) ∧ (∀ n, h.size = some n → 4 ≤ n)
  | .inAuxBox h bty left => (h.ty = tyBrob ∧ bty = none) → ∀ n, left = some n → 4 ≤ n
  | _ => True

theorem inv_init : Inv init := trivial

theorem stepHeader_spec (jx : JxlpState) (h : Header) :
    (∀ rest, stepHeader jx h rest = .err .invalidBox rest) ∨
    ∃ ev s', (∀ rest, stepHeader jx h rest = .cont ev s' rest) ∧ Inv s' ∧
      ∀ ty, ev ≠ some (.auxData ty []) := by
  by_cases h1 : h.ty = tyJxlc
  · obtain ⟨ty, size⟩ := h
    subst h1
    simp only [stepHeader_jxlc]
    cases jx
    · exact .inr ⟨_, _, fun _ => rfl, trivial, nofun⟩
    all_goals exact .inl fun _ => rfl
  by_cases h2 : h.ty = tyJxlp
  · obtain ⟨ty, size⟩ := h
    subst h2
    simp only [stepHeader_jxlp]
    cases hs : Header.noRoom ⟨tyJxlp, size⟩
    · cases hn : jx.next with
      | none => exact .inl fun _ => rfl
      | some i => exact .inr ⟨_, _, fun _ => rfl, ⟨⟨_, rfl⟩, Header.room hs⟩, nofun⟩
    · exact .inl fun _ => rfl
  by_cases h3 : h.ty = tyBrob
  · obtain ⟨ty, size⟩ := h
    subst h3
    simp only [stepHeader_brob]
    cases hs : Header.noRoom ⟨tyBrob, size⟩
    · exact .inr ⟨_, _, fun _ => rfl, fun _ => Header.room hs, nofun⟩
    · exact .inl fun _ => rfl
  · simp only [stepHeader_other jx h _ h1 h2 h3]
    exact .inr ⟨_, _, fun _ => rfl, fun hb => absurd hb.1 h3, nofun⟩

/-- `Ok(None)` only while a field (at most 16 bytes) is incomplete; otherwise `k` bytes are consumed,
with `k = 0` only if the rank drops (termination: `step_cont`) and `4 ≤ k`, a whole field, on a step
without event (no livelock: `C10_no_livelock`). -/
def Step.Shape (s : PState) (buf : Bytes) : Step → Prop
  | .stop => buf.length < 16
  | .err _ rest => ∃ k, rest = buf.drop k
  | .cont ev s' rest => ∃ k, k ≤ buf.length ∧ rest = buf.drop k ∧
      (k = 0 → rank s'.st < rank s.st) ∧ (ev = none → 4 ≤ k) ∧ ∀ ty, ev ≠ some (.auxData ty [])

theorem step_shape (s : PState) (buf : Bytes) : (step s buf).Shape s buf := by
  by_cases hne : buf = []
  · subst hne; exact Nat.zero_lt_succ _
  have hpos : 0 < buf.length := List.length_pos_iff.mpr hne
  obtain ⟨st, jx⟩ := s
  cases st with
  | waitingSignature =>
    rw [step_signature]
    split
    · exact ⟨0, Nat.zero_le _, rfl, fun _ => by simp [rank], nofun, nofun⟩
    split
    · rename_i hc
      have : 12 ≤ buf.length := (List.isPrefixOf_iff_prefix.mp hc).length_le
      exact ⟨12, this, rfl, by omega, nofun, nofun⟩
    split
    · exact ⟨0, Nat.zero_le _, rfl, fun _ => by simp [rank], nofun, nofun⟩
    · -- the buffer is a proper prefix of one of the two signatures
      rename_i hp
      simp only [Bool.and_eq_true, Bool.not_eq_true', not_and, Bool.not_eq_false] at hp
      cases hc : buf.isPrefixOf csSig with
      | true => exact Nat.lt_of_le_of_lt (List.isPrefixOf_iff_prefix.mp hc).length_le (by decide)
      | false => exact Nat.lt_of_le_of_lt (List.isPrefixOf_iff_prefix.mp (hp hc)).length_le (by decide)
  | waitingBoxHeader =>
    rw [step_boxHeader]
    rcases parseHeader_cases buf with ⟨hp, hl⟩ | hp | ⟨h, hs, hp, h8, hle⟩ <;> simp only [hp]
    · exact hl
    · exact ⟨0, rfl⟩
    · rcases stepHeader_spec jx h with he | ⟨ev, s', hc, -, hev⟩
      · rw [he]; exact ⟨hs, rfl⟩
      · rw [hc]
        exact ⟨hs, hle, rfl, by omega, fun _ => by omega, hev⟩
  | waitingJxlpIndex h =>
    rw [step_jxlpIndex]
    split
    · show buf.length < 16; omega
    repeat' split
    all_goals first | exact ⟨4, rfl⟩ | exact ⟨4, by omega, rfl, by omega, fun _ => Nat.le_refl 4, nofun⟩
  | inCodestream k left pending =>
    cases pending with
    | true =>
      rw [step_pending k left jx hne]
      exact ⟨0, Nat.zero_le _, rfl, fun _ => by simp [rank], nofun, nofun⟩
    | false =>
      cases left with
      | none =>
        rw [step_csEof k jx hne]
        exact ⟨buf.length, Nat.le_refl _, List.drop_length.symm, by omega, nofun, nofun⟩
      | some n =>
        rw [step_csSized k n jx hne]
        split
        · rename_i hn
          refine ⟨n, hn, rfl, ?_, nofun, nofun⟩
          rintro rfl; simp [rank]
        · exact ⟨buf.length, Nat.le_refl _, List.drop_length.symm, by omega, nofun, nofun⟩
  | inAuxBox h bty left =>
    by_cases hb : h.ty = tyBrob ∧ bty = none
    · obtain ⟨hty, rfl⟩ := hb
      rw [step_brobInner h left jx hty]
      split
      · show buf.length < 16; omega
      repeat' split
      all_goals first | exact ⟨4, rfl⟩ | exact ⟨4, by omega, rfl, by omega, nofun, nofun⟩
    · rw [step_auxData h bty left jx hb hne]
      cases left with
      | none =>
        refine ⟨buf.length, Nat.le_refl _, List.drop_length.symm, by omega, nofun, ?_⟩
        intro ty he; cases he; exact hne rfl
      | some n =>
        simp only
        split
        · rename_i hn
          subst hn
          exact ⟨0, Nat.zero_le _, rfl, fun _ => by simp [rank], nofun, nofun⟩
        · refine ⟨min n buf.length, Nat.min_le_right _ _, rfl, by omega, nofun, ?_⟩
          intro ty he
          have := congrArg List.length (Event.auxData.inj (Option.some.inj he)).2
          simp only [List.length_take, List.length_nil] at this
          omega

theorem step_shape_of {s : PState} {buf : Bytes} {r : Step} (h : step s buf = r) : r.Shape s buf :=
  h ▸ step_shape s buf

def Err.isPanic : Err → Bool
  | .panicUnreachable | .panicUnderflow => true
  | _ => false

def Step.Sound : Step → Prop
  | .stop => True
  | .err e _ => e.isPanic = false
  | .cont _ s' _ => Inv s'

theorem step_inv (s : PState) (buf : Bytes) (hi : Inv s) : (step s buf).Sound := by
  by_cases hne : buf = []
  · subst hne; trivial
  obtain ⟨st, jx⟩ := s
  cases st with
  | waitingSignature =>
    rw [step_signature]
    repeat' split
    all_goals trivial
  | waitingBoxHeader =>
    rw [step_boxHeader]
    cases parseHeader buf with
    | invalid => rfl
    | needMore => trivial
    | done h hs =>
      rcases stepHeader_spec jx h with he | ⟨ev, s', hc, hinv, -⟩
      · simp only [he]; rfl
      · simp only [hc]; exact hinv
  | waitingJxlpIndex h =>
    obtain ⟨⟨e0, rfl⟩, hroom⟩ := hi
    -- `unreachable!` needs `jx` not to be `.jxlp _`, the underflow a size below 4
    rw [step_jxlpIndex]
    split
    · trivial
    simp only
    split
    · cases hsz : h.size with
      | none => trivial
      | some n => simp only [if_neg (Nat.not_lt.mpr (hroom n hsz))]; trivial
    · rfl
  | inCodestream k left pending =>
    cases pending with
    | true => rw [step_pending k left jx hne]; trivial
    | false =>
      cases left with
      | none => rw [step_csEof k jx hne]; trivial
      | some n => rw [step_csSized k n jx hne]; split <;> trivial
  | inAuxBox h bty left =>
    by_cases hb : h.ty = tyBrob ∧ bty = none
    · have hroom := hi hb
      obtain ⟨hty, rfl⟩ := hb
      rw [step_brobInner h left jx hty]
      split
      · trivial
      cases left with
      | none => simp only; split <;> first | rfl | exact fun hc => nomatch hc.2
      | some n =>
        simp only [if_neg (Nat.not_lt.mpr (hroom n rfl))]
        split <;> first | rfl | exact fun hc => nomatch hc.2
    · rw [step_auxData h bty left jx hb hne]
      cases left with
      | none => exact fun hc => absurd hc hb
      | some n => simp only; split <;> first | trivial | exact fun hc => absurd hc hb

theorem rank_le (d : DState) : rank d ≤ 3 := by
  unfold rank; split <;> (try split) <;> (try split) <;> omega

theorem step_cont (s : PState) (buf : Bytes) (ev : Option Event) (s' : PState) (rest : Bytes)
    (h : step s buf = .cont ev s' rest) : measure s' rest < measure s buf := by
  obtain ⟨k, hk, rfl, h0, -, -⟩ := step_shape_of h
  have := rank_le s'.st
  simp only [measure, List.length_drop]
  by_cases hz : k = 0
  · have := h0 hz; omega
  · omega

/-- 16: the longest field a state waits for (box header with 64-bit size; the signature has 12 bytes,
jxlp index and brob inner type 4). -/
theorem step_stop_short (s : PState) (buf : Bytes) (h : step s buf = .stop) : buf.length < 16 :=
  step_shape_of h

theorem run_fuel (f1 : Nat) : ∀ (f2 : Nat) (s : PState) (buf : Bytes),
    measure s buf < f1 → measure s buf < f2 → run f1 s buf = run f2 s buf := by
  induction f1 with
  | zero => intro f2 s buf h; omega
  | succ f1 ih =>
    intro f2 s buf h1 h2
    cases f2 with
    | zero => omega
    | succ f2 =>
      unfold run
      cases hs : step s buf with
      | stop => rfl
      | err e rest => rfl
      | cont ev s' rest =>
        have := step_cont s buf ev s' rest hs
        simp only
        rw [ih f2 s' rest (by omega) (by omega)]

theorem feed_eq (s : PState) (buf : Bytes) :
    feed s buf =
      match step s buf with
      | .stop => ⟨[], s, buf, none⟩
      | .err e rest => ⟨[], s, rest, some e⟩
      | .cont ev s' rest =>
        ⟨ev.toList ++ (feed s' rest).events, (feed s' rest).state, (feed s' rest).rest,
         (feed s' rest).error⟩ := by
  unfold feed feedFuel
  rw [show 4 * buf.length + 4 = (4 * buf.length + 3) + 1 from rfl, run]
  cases hs : step s buf with
  | stop => rfl
  | err e rest => rfl
  | cont ev s' rest =>
    have h1 := step_cont s buf ev s' rest hs
    have h2 := rank_le s.st
    have h3 := rank_le s'.st
    simp only [measure] at h1
    simp only
    rw [run_fuel (4 * buf.length + 3) (4 * rest.length + 4) s' rest
      (by simp only [measure]; omega) (by simp only [measure]; omega)]

theorem feed_of_stop {s : PState} {buf : Bytes} (h : step s buf = .stop) :
    feed s buf = ⟨[], s, buf, none⟩ := by rw [feed_eq, h]

theorem feed_of_err {s : PState} {buf : Bytes} {e : Err} {rest : Bytes}
    (h : step s buf = .err e rest) : feed s buf = ⟨[], s, rest, some e⟩ := by rw [feed_eq, h]

theorem feed_of_cont {s : PState} {buf : Bytes} {ev : Option Event} {s' : PState} {rest : Bytes}
    (h : step s buf = .cont ev s' rest) :
    feed s buf = ⟨ev.toList ++ (feed s' rest).events, (feed s' rest).state, (feed s' rest).rest,
      (feed s' rest).error⟩ := by rw [feed_eq, h]

theorem feed_nil (s : PState) : feed s [] = ⟨[], s, [], none⟩ := feed_of_stop (step_nil s)

theorem feed_induct {P : PState → Bytes → Prop}
    (ind : ∀ s buf, (∀ ev s' rest, step s buf = .cont ev s' rest → P s' rest) → P s buf) :
    ∀ s buf, P s buf := by
  intro s buf
  induction hm : measure s buf using Nat.strongRecOn generalizing s buf with
  | ind n ih =>
    subst hm
    exact ind s buf fun ev s' rest hs => ih _ (step_cont s buf ev s' rest hs) s' rest rfl

def Step.app : Step → Bytes → Step
  | .stop, _ => .stop
  | .err e rest, b => .err e (rest ++ b)
  | .cont ev s rest, b => .cont ev s (rest ++ b)

theorem isEmpty_append_cons (x : UInt8) (a b : Bytes) : ((x :: a) ++ b).isEmpty = false := by simp

theorem isPrefixOf_append {sig a : Bytes} (b : Bytes) (h : ¬ a <+: sig) :
    sig.isPrefixOf (a ++ b) = sig.isPrefixOf a := by
  rw [Bool.eq_iff_iff, List.isPrefixOf_iff_prefix, List.isPrefixOf_iff_prefix]
  exact ⟨fun h' => (List.prefix_or_prefix_of_prefix h' (List.prefix_append a b)).resolve_right h,
    fun h' => h'.trans (List.prefix_append a b)⟩

def FeedResult.equiv (x y : FeedResult) : Prop :=
  toks x.events = toks y.events ∧ x.state = y.state ∧ x.rest = y.rest ∧ x.error = y.error

def thenFeed (r : FeedResult) (b : Bytes) : FeedResult :=
  match r.error with
  | some e => ⟨r.events, r.state, r.rest ++ b, some e⟩
  | none =>
    let r' := feed r.state (r.rest ++ b)
    ⟨r.events ++ r'.events, r'.state, r'.rest, r'.error⟩

theorem toks_append (x y : List Event) : toks (x ++ y) = toks x ++ toks y := by
  simp [toks]

theorem toks_cons (e : Event) (r : List Event) : toks (e :: r) = e.toks ++ toks r := rfl

theorem thenFeed_cons (ev : Option Event) (r : FeedResult) (b : Bytes) :
    thenFeed ⟨ev.toList ++ r.events, r.state, r.rest, r.error⟩ b =
      ⟨ev.toList ++ (thenFeed r b).events, (thenFeed r b).state, (thenFeed r b).rest,
       (thenFeed r b).error⟩ := by
  unfold thenFeed
  cases r.error <;> simp

/-- The run ends because nothing more can be done, not because fuel ran out. -/
theorem feed_final_stop : ∀ (s : PState) (buf : Bytes), (feed s buf).error = none →
    step (feed s buf).state (feed s buf).rest = .stop := by
  apply feed_induct
  intro s buf ih
  cases hs : step s buf with
  | stop => rw [feed_of_stop hs]; intro _; exact hs
  | err e rest => rw [feed_of_err hs]; intro h; cases h
  | cont ev s' rest => rw [feed_of_cont hs]; exact ih ev s' rest hs

/-! `feed_append`: the goal `Ext b s a` is the same for every parser state; each state closes it in one of three
ways: the step on `a` is `Ok(None)`; it is the same step on `a ++ b` (then the run goes on by induction); or
`a` is payload that the state took whole and `a ++ b` gives the same tokens in one event (then both runs meet
after that event). -/

abbrev Ext (b : Bytes) (s : PState) (a : Bytes) : Prop := (feed s (a ++ b)).equiv (thenFeed (feed s a) b)

theorem ext_stop {b : Bytes} {s : PState} {a : Bytes} (h : step s a = .stop) : Ext b s a := by
  -- `thenFeed` unfolded first: left to `rfl`, the comparison runs `feed`
  rw [Ext, feed_of_stop h, thenFeed]; exact ⟨rfl, rfl, rfl, rfl⟩

theorem ext_same {b : Bytes} {s : PState} {a : Bytes} (h : step s (a ++ b) = (step s a).app b)
    (ih : ∀ ev s' rest, step s a = .cont ev s' rest → Ext b s' rest) : Ext b s a := by
  cases hsa : step s a with
  | stop => exact ext_stop hsa
  | err e rest =>
    rw [hsa] at h
    rw [Ext, feed_of_err hsa, feed_of_err h]; exact ⟨rfl, rfl, rfl, rfl⟩
  | cont ev s' rest =>
    rw [hsa] at h
    rw [Ext, feed_of_cont hsa, feed_of_cont h, thenFeed_cons]
    obtain ⟨h1, h2, h3, h4⟩ := ih ev s' rest hsa
    exact ⟨by simp only [toks_append, h1], h2, h3, h4⟩

theorem ext_join {b : Bytes} {s s1 s2 : PState} {a r : Bytes} {e1 e2 e3 : Event}
    (h1 : step s a = .cont (some e1) s1 []) (h2 : step s1 b = .cont (some e2) s2 r)
    (h3 : step s (a ++ b) = .cont (some e3) s2 r) (ht : e3.toks = e1.toks ++ e2.toks) : Ext b s a := by
  rw [Ext, feed_of_cont h1, feed_nil, feed_of_cont h3]
  simp only [thenFeed, List.nil_append, List.append_nil]
  rw [feed_of_cont h2]
  exact ⟨by simp [toks, ht], rfl, rfl, rfl⟩

theorem ext_nil {s : PState} {a : Bytes} : Ext [] s a := by
  rw [Ext, List.append_nil, thenFeed]
  cases he : (feed s a).error with
  | some e => exact ⟨rfl, rfl, (List.append_nil _).symm, he⟩
  | none =>
    simp only [List.append_nil, feed_of_stop (feed_final_stop s a he)]
    exact ⟨rfl, rfl, rfl, he⟩

theorem feed_append (b : Bytes) : ∀ (s : PState) (a : Bytes),
    (feed s (a ++ b)).equiv (thenFeed (feed s a) b) := by
  by_cases hb : b = []
  · subst hb; exact fun _ _ => ext_nil
  apply feed_induct
  intro s a ih
  by_cases hne : a = []
  · subst hne; exact ext_stop (step_nil s)
  have hab : a ++ b ≠ [] := by simp [hne]
  have hlen : (a ++ b).length = a.length + b.length := List.length_append
  have same : (step s a = .stop ∨ step s (a ++ b) = (step s a).app b) → Ext b s a :=
    fun h => h.elim ext_stop (ext_same · ih)
  obtain ⟨st, jx⟩ := s
  cases st with
  | waitingSignature =>
    apply same
    rw [step_signature, step_signature]
    have bt : ∀ {x y : Bytes}, x <+: y → x.isPrefixOf y = true := List.isPrefixOf_iff_prefix.mpr
    have bf : ∀ {x y : Bytes}, ¬ x <+: y → x.isPrefixOf y = false := fun h =>
      Bool.eq_false_iff.mpr (mt List.isPrefixOf_iff_prefix.mp h)
    have ext : ∀ {sig : Bytes}, ¬ a <+: sig → ¬ a ++ b <+: sig := fun h c =>
      h ((List.prefix_append a b).trans c)
    by_cases c1 : csSig <+: a
    · right
      simp only [bt c1, bt (c1.trans (List.prefix_append a b)), if_true]
      rfl
    by_cases c2 : contSig <+: a
    · right
      have l12 : 12 ≤ a.length := c2.length_le
      have c3 : ¬ a <+: csSig := fun h => absurd h.length_le (by simp [csSig]; omega)
      simp only [isPrefixOf_append b c3, bf c1, bt c2, bt (c2.trans (List.prefix_append a b)),
        Bool.false_eq_true, if_true, if_false, List.drop_append_of_le_length l12]
      rfl
    by_cases c3 : a <+: csSig
    · left; simp only [bf c1, bf c2, bt c3, Bool.false_eq_true, if_false, Bool.not_true, Bool.false_and]
    by_cases c4 : a <+: contSig
    · left; simp only [bf c1, bf c2, bt c4, Bool.false_eq_true, if_false, Bool.not_true, Bool.and_false]
    · right
      simp only [isPrefixOf_append b c3, isPrefixOf_append b c4, bf c1, bf c2, bf c3, bf c4,
        bf (ext c3), bf (ext c4), Bool.false_eq_true, if_false, Bool.not_false, Bool.and_self, if_true]
      rfl
  | waitingBoxHeader =>
    apply same
    rw [step_boxHeader, step_boxHeader]
    rcases parseHeader_cases a with ⟨hp, -⟩ | hp | ⟨h, hs, hp, -, hle⟩
    · left; simp only [hp]
    · right
      simp only [parseHeader_append a b (by rw [hp]; nofun), hp]; rfl
    · right
      simp only [parseHeader_append a b (by rw [hp]; nofun), hp, List.drop_append_of_le_length hle]
      rcases stepHeader_spec jx h with he | ⟨ev, s', hc, -⟩
      · simp only [he]; rfl
      · simp only [hc]; rfl
  | waitingJxlpIndex h =>
    apply same
    rw [step_jxlpIndex, step_jxlpIndex]
    by_cases h4 : a.length < 4
    · left; rw [if_pos h4]
    · right
      rw [if_neg h4, if_neg (by omega), List.take_append_of_le_length (by omega),
        List.drop_append_of_le_length (by omega)]
      repeat' split
      all_goals rfl
  | inCodestream k left pending =>
    cases pending with
    | true => exact same (.inr (by rw [step_pending k left jx hab, step_pending k left jx hne]; rfl))
    | false =>
      cases left with
      | none => exact ext_join (step_csEof k jx hne) (step_csEof k jx hb) (step_csEof k jx hab) (by simp [Event.toks])
      | some n =>
        have e1 := step_csSized k n jx hne
        have e3 := step_csSized k n jx hab
        by_cases hn : n ≤ a.length
        · refine same (.inr ?_)
          rw [e3, e1, if_pos hn, if_pos (by omega), List.take_append_of_le_length hn,
            List.drop_append_of_le_length hn]
          rfl
        · rw [if_neg hn] at e1
          have e2 := step_csSized k (n - a.length) jx hb
          by_cases h2 : n ≤ a.length + b.length
          · rw [if_pos (show n - a.length ≤ b.length by omega)] at e2
            rw [if_pos (show n ≤ (a ++ b).length by omega), List.take_append, List.drop_append,
              List.take_of_length_le (show a.length ≤ n by omega),
              List.drop_of_length_le (show a.length ≤ n by omega), List.nil_append] at e3
            exact ext_join e1 e2 e3 (by simp [Event.toks])
          · rw [if_neg (show ¬ n - a.length ≤ b.length by omega)] at e2
            rw [if_neg (show ¬ n ≤ (a ++ b).length by omega), hlen, Nat.sub_add_eq] at e3
            exact ext_join e1 e2 e3 (by simp [Event.toks])
  | inAuxBox h bty left =>
    by_cases hbr : h.ty = tyBrob ∧ bty = none
    · obtain ⟨hty, rfl⟩ := hbr
      apply same
      rw [step_brobInner h left jx hty, step_brobInner h left jx hty]
      by_cases h4 : a.length < 4
      · left; rw [if_pos h4]
      · right
        rw [if_neg h4, if_neg (by omega), List.take_append_of_le_length (by omega),
          List.drop_append_of_le_length (by omega)]
        repeat' split
        all_goals rfl
    · have e1 := step_auxData h bty left jx hbr hne
      have e3 := step_auxData h bty left jx hbr hab
      cases left with
      | none => exact ext_join e1 (step_auxData h bty none jx hbr hb) e3 (by simp [Event.toks])
      | some n =>
        by_cases hn : n ≤ a.length
        · refine same (.inr ?_)
          rw [e3, e1]
          simp only [hlen, show min n (a.length + b.length) = n by omega,
            show min n a.length = n by omega, List.take_append_of_le_length hn,
            List.drop_append_of_le_length hn]
          split <;> rfl
        · have m : min n a.length = a.length := by omega
          have m2 : min n (a.length + b.length) = a.length + min (n - a.length) b.length := by omega
          simp only [if_neg (show n ≠ 0 by omega), m, hlen, m2, List.take_length, List.drop_length,
            List.take_append, List.drop_append,
            List.take_of_length_le (show a.length ≤ a.length + min (n - a.length) b.length by omega),
            List.drop_of_length_le (show a.length ≤ a.length + min (n - a.length) b.length by omega),
            Nat.add_sub_cancel_left, List.nil_append, Nat.sub_add_eq] at e1 e3
          have e2 := step_auxData h bty (some (n - a.length)) jx hbr hb
          simp only [if_neg (show n - a.length ≠ 0 by omega)] at e2
          exact ext_join e1 e2 e3 (by simp [Event.toks])

/-- `rest` only if there was no error: after an error `feedChunks` keeps the rest of the failing
call, which lacks the chunks never offered -/
def FeedResult.same (x y : FeedResult) : Prop :=
  toks x.events = toks y.events ∧ x.error = y.error ∧ x.state = y.state ∧
    (x.error = none → x.rest = y.rest)

/-- `h`: with no chunk `feedChunks` makes no call, so `pending` has to be a leftover (`Ok(None)` on
it). -/
theorem feedChunks_same (s : PState) (pending : Bytes) (cs : List Bytes)
    (h : cs = [] → step s pending = .stop) :
    (feedChunks s pending cs).same (feed s (pending ++ cs.flatten)) := by
  fun_induction feedChunks s pending cs with
  | case1 s pending =>
    rw [List.flatten_nil, List.append_nil, feed_of_stop (h rfl)]
    exact ⟨rfl, rfl, rfl, fun _ => rfl⟩
  | case2 s pending c cs r e he =>
    have a := feed_append cs.flatten s (pending ++ c)
    rw [thenFeed, he] at a
    obtain ⟨a1, a2, -, a4⟩ := a
    rw [List.flatten_cons, ← List.append_assoc]
    exact ⟨a1.symm, by rw [a4, he], a2.symm, by intro hc; rw [he] at hc; cases hc⟩
  | case3 s pending c cs r he r' ih =>
    have a := feed_append cs.flatten s (pending ++ c)
    rw [thenFeed, he] at a
    obtain ⟨a1, a2, a3, a4⟩ := a
    obtain ⟨b1, b2, b3, b4⟩ := ih fun _ => feed_final_stop s _ he
    rw [List.flatten_cons, ← List.append_assoc]
    refine ⟨?_, ?_, ?_, ?_⟩
    · rw [a1, toks_append, toks_append, b1]
    · rw [a4, b2]
    · rw [a2, b3]
    · intro hn; rw [a3]; exact b4 hn

theorem feed_rest_suffix : ∀ (s : PState) (buf : Bytes), (feed s buf).rest <:+ buf := by
  apply feed_induct
  intro s buf ih
  cases hs : step s buf with
  | stop => rw [feed_of_stop hs]; exact List.suffix_refl _
  | err e rest =>
    rw [feed_of_err hs]
    obtain ⟨k, hk⟩ := step_shape_of hs
    exact hk ▸ List.drop_suffix k buf
  | cont ev s' rest =>
    rw [feed_of_cont hs]
    obtain ⟨k, -, hk, -⟩ := step_shape_of hs
    exact (ih ev s' rest hs).trans (hk ▸ List.drop_suffix k buf)

/-- The call `r` delivers the tokens `tk` and then goes on as `r'` does (same error, same unconsumed
bytes); `none`: it is rejected as an invalid box. -/
def Reaches (r : FeedResult) (tk : List Tok) : Option FeedResult → Prop
  | some r' => toks r.events = tk ++ toks r'.events ∧ r.error = r'.error ∧ r.rest = r'.rest
  | none => r.error = some .invalidBox

theorem Reaches.refl (r : FeedResult) : Reaches r [] (some r) := ⟨rfl, rfl, rfl⟩

theorem Reaches.trans {r r' : FeedResult} {o : Option FeedResult} {t t' : List Tok}
    (h : Reaches r t (some r')) (h' : Reaches r' t' o) : Reaches r (t ++ t') o := by
  cases o with
  | none => exact h.2.1.trans h'
  | some r'' => exact ⟨by rw [h.1, h'.1, List.append_assoc], h.2.1.trans h'.2.1, h.2.2.trans h'.2.2⟩

theorem reaches_cont {s : PState} {buf : Bytes} {ev : Option Event} {s' : PState} {rest : Bytes}
    {tk : List Tok} {o : Option FeedResult}
    (h : step s buf = .cont ev s' rest) (hd : Reaches (feed s' rest) tk o) :
    Reaches (feed s buf) (toks ev.toList ++ tk) o := by
  rw [feed_of_cont h]
  exact Reaches.trans (r' := feed s' rest) ⟨by rw [toks_append], rfl, rfl⟩ hd

theorem reaches_err {s : PState} {buf rest : Bytes} {tk : List Tok}
    (h : step s buf = .err .invalidBox rest) : Reaches (feed s buf) tk none :=
  congrArg FeedResult.error (feed_of_err h)

theorem reaches_nil (s s' : PState) : Reaches (feed s []) [] (some (feed s' [])) := by
  rw [feed_nil, feed_nil]; exact ⟨rfl, rfl, rfl⟩

theorem deliver_cs (jx : JxlpState) (d T : Bytes) (e : Enc) (hT : e = .toEof → T = []) :
    Reaches (feed ⟨.inCodestream .container (e.size d.length) (decide (e = .toEof)), jx⟩ (d ++ T))
      ((if e = .toEof ∧ d ≠ [] then [Tok.noMoreAux] else []) ++ d.map .cs)
      (some (feed ⟨.waitingBoxHeader, jx⟩ T)) := by
  by_cases hn : d ++ T = []
  · obtain ⟨rfl, rfl⟩ := List.append_eq_nil_iff.mp hn
    simpa using reaches_nil _ _
  by_cases he : e = .toEof
  · obtain rfl := hT he
    rw [List.append_nil] at hn ⊢
    simpa [Enc.size, he, hn, toks, Event.toks] using reaches_cont (step_pending .container none jx hn)
      (reaches_cont (step_csEof .container jx hn) (reaches_nil _ ⟨.waitingBoxHeader, jx⟩))
  · have hs := step_csSized .container d.length jx hn
    rw [if_pos (by simp), List.take_left' rfl, List.drop_left' rfl] at hs
    simpa [Enc.size, he, toks, Event.toks] using reaches_cont hs (.refl _)

theorem deliver_aux (h : Header) (bty : Option Bytes) (jx : JxlpState) (d T : Bytes) (e : Enc)
    (hb : ¬ (h.ty = tyBrob ∧ bty = none)) (hT : e = .toEof → T = []) :
    Reaches (feed ⟨.inAuxBox h bty (e.size d.length), jx⟩ (d ++ T))
      (d.map (.aux (bty.getD h.ty)) ++
        (if e ≠ .toEof ∧ (!T.isEmpty) = true then [Tok.auxEnd (bty.getD h.ty)] else []))
      (some (feed ⟨.waitingBoxHeader, jx⟩ T)) := by
  -- once the payload is through, `AuxBoxEnd` comes with the first byte that follows
  have tail : Reaches (feed ⟨.inAuxBox h bty (e.size 0), jx⟩ T)
      (if e ≠ .toEof ∧ (!T.isEmpty) = true then [Tok.auxEnd (bty.getD h.ty)] else [])
      (some (feed ⟨.waitingBoxHeader, jx⟩ T)) := by
    by_cases hn : T = []
    · subst hn; simpa using reaches_nil _ _
    · have he : e ≠ .toEof := fun he => hn (hT he)
      have hs := step_auxData h bty (some 0) jx hb hn
      simpa [Enc.size, he, hn, toks, Event.toks] using reaches_cont hs (.refl _)
  by_cases hd : d = []
  · subst hd; exact tail
  · have hs : step ⟨.inAuxBox h bty (e.size d.length), jx⟩ (d ++ T) =
        .cont (some (.auxData (bty.getD h.ty) d)) ⟨.inAuxBox h bty (e.size 0), jx⟩ T := by
      rw [step_auxData h bty _ jx hb (by simp [hd])]
      by_cases he : e = .toEof
      · simp [Enc.size, he, hT he]
      · simp [Enc.size, he, hd]
    simpa [toks, Event.toks] using reaches_cont hs tail

theorem step_boxHeader_ser (jx : JxlpState) (ty : Bytes) (hty : ty.length = 4) (n : Nat) (e : Enc)
    (hf : fits n e) (rest : Bytes) :
    step ⟨.waitingBoxHeader, jx⟩ (serHeader ty n e ++ rest) =
      stepHeader jx ⟨ty, e.size n⟩ rest := by
  rw [step_boxHeader, header_roundtrip ty hty n e hf rest]
  simp only [List.drop_left' rfl]

theorem ok_fits (b : Box) (h : b.ok = true) : fits b.payload.length b.enc := by
  unfold Box.ok at h
  simp only [Bool.and_eq_true] at h
  have h1 := h.1
  cases he : b.enc <;> simp only [he, fits] at h1 ⊢
  · simpa using h1
  · simpa using h1

theorem step_jxlpIndex_ser (e : Enc) (n expected i : Nat) (last : Bool) (hi : i < 2 ^ 31) (rest : Bytes) :
    step ⟨.waitingJxlpIndex ⟨tyJxlp, e.size (4 + n)⟩, .jxlp expected⟩
        (beEnc 4 (i + if last then 2 ^ 31 else 0) ++ rest) =
      if expected = i then
        .cont none ⟨.inCodestream .container (e.size n)
          (decide (e = .toEof)), if last then .finished else .jxlp expected⟩ rest
      else .err .invalidBox rest := by
  have hv : beNat (beEnc 4 (i + if last then 2 ^ 31 else 0)) = i + if last then 2 ^ 31 else 0 :=
    beNat_beEnc_lt (by cases last <;> simp <;> omega)
  have hidx : (i + if last then 2 ^ 31 else 0) % 2 ^ 31 = i := by cases last <;> simp <;> omega
  have hlast : decide (2 ^ 31 ≤ i + if last then 2 ^ 31 else 0) = last := by
    cases last <;> simp <;> omega
  rw [step_jxlpIndex, if_neg (by simp), List.take_left' (by simp), List.drop_left' (by simp), hv, hidx,
    hlast]
  cases e <;> simp [Enc.size, show ¬ 4 + n < 4 by omega]

theorem seqStep_jxlp (jx : JxlpState) (i : Nat) (last : Bool) (d : Bytes) (e : Enc) :
    seqStep jx (.jxlp i last d e) =
      match jx.next with
      | some x => if i = x then some (if last then .finished else .jxlp x) else none
      | none => none := by
  cases jx <;> rfl

theorem encSize_isNone (e : Enc) (n : Nat) :
    (e.size n).isNone = decide (e = .toEof) := by
  cases e <;> rfl

theorem box_step (jx : JxlpState) (b : Box) (T : Bytes) (hok : b.ok = true)
    (hT : b.enc = .toEof → T = []) :
    Reaches (feed ⟨.waitingBoxHeader, jx⟩ (b.ser ++ T)) (boxToks b (!T.isEmpty))
      ((seqStep jx b).map fun jx' => feed ⟨.waitingBoxHeader, jx'⟩ T) := by
  have hf := ok_fits b hok
  have hty : b.ty.length = 4 := by
    cases b <;> first | rfl | simp_all [Box.ok, Box.ty]
  have hs := step_boxHeader_ser jx b.ty hty b.payload.length b.enc hf (b.payload ++ T)
  rw [Box.ser, List.append_assoc]
  cases b <;> simp only [Box.ok, Box.ty, Box.enc, Box.payload, Bool.and_eq_true, List.append_assoc,
    List.length_append, beEnc_length] at hs hok hT ⊢
  case jxlc d e =>
    rw [stepHeader_jxlc, encSize_isNone] at hs
    cases jx with
    | initial => exact reaches_cont hs (deliver_cs .singleJxlc d T e hT)
    | _ => exact reaches_err hs
  case jxlp i last d e =>
    have hroom : Header.noRoom ⟨tyJxlp, e.size (4 + d.length)⟩ = false := by
      simp [Header.noRoom_size]
    rw [stepHeader_jxlp, hroom, if_neg Bool.false_ne_true] at hs
    rw [seqStep_jxlp]
    cases hn : jx.next with
    | none => rw [hn] at hs; exact reaches_err hs
    | some x =>
      rw [hn] at hs
      have hx := step_jxlpIndex_ser e d.length x i last (by simpa using hok.2) (d ++ T)
      by_cases hix : i = x
      · subst hix
        rw [if_pos rfl] at hx
        simp only [if_true]
        exact reaches_cont hs (reaches_cont hx (deliver_cs _ d T e hT))
      · rw [if_neg (Ne.symm hix)] at hx
        simp only [hix, if_false]
        exact reaches_cont hs (reaches_err hx)
  case aux ty d e =>
    obtain ⟨-, n1, n2, n3⟩ : ty.length = 4 ∧ ty ≠ tyJxlc ∧ ty ≠ tyJxlp ∧ ty ≠ tyBrob := by
      simpa [and_assoc] using hok.2
    rw [stepHeader_other _ _ _ n1 n2 n3, encSize_isNone] at hs
    simpa [toks, Event.toks, boxToks, seqStep] using
      reaches_cont hs (deliver_aux _ none jx d T e (fun h => n3 h.1) hT)
  case brob inner d e =>
    obtain ⟨h4, hres⟩ : inner.length = 4 ∧ reservedInner inner = false := by simpa using hok.2
    have hroom : Header.noRoom ⟨tyBrob, e.size (inner.length + d.length)⟩ = false := by
      simp [Header.noRoom_size, h4]
    rw [stepHeader_brob, hroom] at hs
    have hs2 : step ⟨.inAuxBox ⟨tyBrob, e.size (inner.length + d.length)⟩ none
          (e.size (inner.length + d.length)), jx⟩ (inner ++ (d ++ T)) =
        .cont (some (.auxStart inner true (decide (e = .toEof))))
          ⟨.inAuxBox ⟨tyBrob, e.size (inner.length + d.length)⟩ (some inner)
            (e.size d.length), jx⟩ (d ++ T) := by
      rw [step_brobInner _ _ jx rfl, if_neg (by simp [h4]), List.take_left' h4, List.drop_left' h4]
      cases e <;> simp [Enc.size, hres, h4]
    simpa [toks, Event.toks, boxToks, seqStep] using
      reaches_cont hs (reaches_cont hs2 (deliver_aux _ (some inner) jx d T e (by simp) hT))

theorem serHeader_length_ge (ty : Bytes) (n : Nat) (e : Enc) : 4 ≤ (serHeader ty n e).length := by
  cases e <;> simp [serHeader] <;> omega

theorem serBoxes_append_isEmpty (bs : List Box) (t : Bytes) :
    (serBoxes bs ++ t).isEmpty = (bs.isEmpty && t.isEmpty) := by
  cases bs with
  | nil => rfl
  | cons b r =>
    have := serHeader_length_ge b.ty b.payload.length b.enc
    rw [List.isEmpty_cons, Bool.false_and, List.isEmpty_eq_false_iff, ← List.length_pos_iff]
    simp only [serBoxes, List.flatMap_cons, Box.ser, List.length_append]
    omega

theorem feed_boxes (t : Bytes) (bs : List Box) : ∀ (jx : JxlpState), shapeOk bs = true →
    (t ≠ [] → ∀ b ∈ bs, b.enc ≠ .toEof) →
    Reaches (feed ⟨.waitingBoxHeader, jx⟩ (serBoxes bs ++ t)) (expectedM (!t.isEmpty) bs)
      ((seqFrom jx bs).map fun jx' => feed ⟨.waitingBoxHeader, jx'⟩ t) := by
  induction bs with
  | nil => intro jx _ _; exact .refl _
  | cons b r ih =>
    intro jx hshape ht
    simp only [shapeOk, Bool.and_eq_true, Bool.or_eq_true, bne_iff_ne, ne_eq] at hshape
    obtain ⟨⟨hok, heof⟩, hr⟩ := hshape
    have hT : b.enc = .toEof → serBoxes r ++ t = [] := by
      intro he
      obtain rfl : r = [] := by simpa using heof.resolve_left (fun h => h he)
      by_cases htn : t = []
      · rw [htn]; rfl
      · exact absurd he (ht htn b (by simp))
    have hb := box_step jx b (serBoxes r ++ t) hok hT
    rw [serBoxes_append_isEmpty, Bool.not_and, Bool.or_comm] at hb
    rw [show serBoxes (b :: r) ++ t = b.ser ++ (serBoxes r ++ t) by simp [serBoxes], seqFrom, expectedM]
    cases hq : seqStep jx b with
    | none => rw [hq] at hb; exact hb
    | some jx' =>
      rw [hq] at hb
      exact hb.trans (ih jx' hr fun htn b' hb' => ht htn b' (List.mem_cons_of_mem _ hb'))

theorem step_init_container (X : Bytes) :
    step init (contSig ++ X) = .cont (some (.kind .container)) ⟨.waitingBoxHeader, .initial⟩ X := by
  have h1 : csSig.isPrefixOf (contSig ++ X) = false := rfl
  have h2 : contSig.isPrefixOf (contSig ++ X) = true :=
    List.isPrefixOf_iff_prefix.mpr (List.prefix_append _ _)
  rw [init, step_signature, h1, h2]
  rfl

theorem feed_wf (bs : List Box) (hwf : wf bs = true) :
    (feed init (serFile bs)).error = none ∧ (feed init (serFile bs)).rest = [] ∧
      toks (feed init (serFile bs)).events = Tok.kind .container :: expected bs := by
  simp only [wf, Bool.and_eq_true] at hwf
  obtain ⟨jx, hq⟩ := Option.isSome_iff_exists.1 hwf.2
  have hb := feed_boxes [] bs .initial hwf.1 (fun h => absurd rfl h)
  rw [hq, List.append_nil] at hb
  obtain ⟨h1, h2, h3⟩ : Reaches _ _ (some (feed _ [])) := reaches_cont (step_init_container _) hb
  rw [feed_nil] at h1 h2 h3
  exact ⟨h2, h3, h1.trans (List.append_nil _)⟩

theorem boxToks_cases (b : Box) (more : Bool) :
    (∃ d, boxToks b more = (if b.enc = .toEof ∧ d ≠ [] then [Tok.noMoreAux] else []) ++ d.map .cs ∧
        (∀ r, codestream (b :: r) = d ++ codestream r) ∧ ∀ r, aux (b :: r) = aux r) ∨
    (∃ x : AuxBox, boxToks b more = Tok.auxStart x.ty x.brotli (b.enc = .toEof) ::
          (x.payload.map (.aux x.ty) ++ if b.enc ≠ .toEof ∧ more then [Tok.auxEnd x.ty] else []) ∧
        (∀ r, codestream (b :: r) = codestream r) ∧ ∀ r, aux (b :: r) = x :: aux r) := by
  cases b with
  | jxlc d e => exact .inl ⟨d, rfl, fun _ => rfl, fun _ => rfl⟩
  | jxlp i l d e => exact .inl ⟨d, rfl, fun _ => rfl, fun _ => rfl⟩
  | aux ty d e => exact .inr ⟨⟨ty, false, d⟩, rfl, fun _ => rfl, fun _ => rfl⟩
  | brob ty d e => exact .inr ⟨⟨ty, true, d⟩, rfl, fun _ => rfl, fun _ => rfl⟩

theorem codestreamOf_append (x y : List Tok) : codestreamOf (x ++ y) = codestreamOf x ++ codestreamOf y := by
  induction x with
  | nil => rfl
  | cons t x ih => cases t <;> simp [codestreamOf, ih]

theorem codestreamOf_cs (d : Bytes) : codestreamOf (d.map .cs) = d := by
  induction d with
  | nil => rfl
  | cons b d ih => simp [codestreamOf, ih]

theorem codestreamOf_aux (ty d : Bytes) : codestreamOf (d.map (.aux ty)) = [] := by
  induction d with
  | nil => rfl
  | cons b d ih => simp [codestreamOf, ih]

theorem codestreamOf_expectedM (m : Bool) (bs : List Box) :
    codestreamOf (expectedM m bs) = codestream bs := by
  induction bs with
  | nil => rfl
  | cons b r ih =>
    rw [expectedM, codestreamOf_append, ih]
    rcases boxToks_cases b (m || !r.isEmpty) with ⟨d, h, hc, -⟩ | ⟨x, h, hc, -⟩ <;> rw [h, hc]
    · split <;> simp [codestreamOf, codestreamOf_cs]
    · simp [codestreamOf, codestreamOf_append, codestreamOf_aux]; split <;> rfl

theorem auxPayload_map (ty d : Bytes) (y : List Tok) :
    auxPayload (d.map (.aux ty) ++ y) = d ++ auxPayload y := by
  induction d with
  | nil => rfl
  | cons b d ih => simp [auxPayload, ih]

theorem auxOf_aux (ty d : Bytes) (y : List Tok) : auxOf (d.map (.aux ty) ++ y) = auxOf y := by
  induction d with
  | nil => rfl
  | cons b d ih => simp [auxOf, ih]

theorem auxOf_cs (d : Bytes) (y : List Tok) : auxOf (d.map .cs ++ y) = auxOf y := by
  induction d with
  | nil => rfl
  | cons b d ih => simp [auxOf, ih]

theorem auxPayload_expectedM (m : Bool) (bs : List Box) : auxPayload (expectedM m bs) = [] := by
  induction bs with
  | nil => rfl
  | cons b r ih =>
    rw [expectedM]
    rcases boxToks_cases b (m || !r.isEmpty) with ⟨d, h, -, -⟩ | ⟨x, h, -, -⟩ <;> rw [h]
    · split
      · rfl
      · cases d with
        | nil => exact ih
        | cons => rfl
    · rfl

theorem auxOf_expectedM (m : Bool) (bs : List Box) : auxOf (expectedM m bs) = aux bs := by
  induction bs with
  | nil => rfl
  | cons b r ih =>
    rw [expectedM]
    rcases boxToks_cases b (m || !r.isEmpty) with ⟨d, h, -, ha⟩ | ⟨x, h, -, ha⟩ <;> rw [h, ha]
    · split <;> simp [auxOf, auxOf_cs, ih]
    · rw [List.cons_append, auxOf, List.append_assoc, auxPayload_map, auxOf_aux]
      split <;> simp [auxOf, auxPayload, auxPayload_expectedM, ih]

theorem feed_inv : ∀ (s : PState) (buf : Bytes), Inv s →
    Inv (feed s buf).state ∧ ∀ e, (feed s buf).error = some e → e.isPanic = false := by
  apply feed_induct
  intro s buf ih hi
  have hstep := step_inv s buf hi
  cases hs : step s buf with
  | stop => rw [feed_of_stop hs]; exact ⟨hi, nofun⟩
  | err e rest =>
    rw [feed_of_err hs]
    rw [hs] at hstep
    exact ⟨hi, fun e' h => by cases h; exact hstep⟩
  | cont ev s' rest =>
    rw [feed_of_cont hs]
    rw [hs] at hstep
    exact ih ev s' rest hs hstep

theorem feedChunks_inv (cs : List Bytes) (s : PState) (pending : Bytes) (hi : Inv s) :
    Inv (feedChunks s pending cs).state ∧
      ∀ e, (feedChunks s pending cs).error = some e → e.isPanic = false := by
  fun_induction feedChunks s pending cs with
  | case1 => exact ⟨hi, nofun⟩
  | case2 => exact feed_inv _ _ hi
  | case3 => rename_i ih; exact ih (feed_inv _ _ hi).1

inductive Undersized : Bytes → Prop
  /-- 32-bit size field 2..7: smaller than the header itself -/
  | sizeField (v : Nat) (ty rest : Bytes) : 2 ≤ v → v < 8 → ty.length = 4 →
      Undersized (beEnc 4 v ++ ty ++ rest)
  /-- 64-bit size smaller than the 16-byte header -/
  | xlSize (v : Nat) (ty rest : Bytes) : v < 16 → ty.length = 4 →
      Undersized (beEnc 4 1 ++ ty ++ (beEnc 8 v ++ rest))
  /-- `jxlp` box too small for its 4-byte index -/
  | jxlpSmall (n : Nat) (e : Enc) (rest : Bytes) : n < 4 → e ≠ .toEof → fits n e →
      Undersized (serHeader tyJxlp n e ++ rest)
  /-- `brob` box too small for its 4-byte inner type -/
  | brobSmall (n : Nat) (e : Enc) (rest : Bytes) : n < 4 → e ≠ .toEof → fits n e →
      Undersized (serHeader tyBrob n e ++ rest)

theorem undersized_err (jx : JxlpState) (t : Bytes) (h : Undersized t) :
    (feed ⟨.waitingBoxHeader, jx⟩ t).error = some .invalidBox := by
  suffices ∃ rest, step ⟨.waitingBoxHeader, jx⟩ t = .err .invalidBox rest from
    this.elim fun _ hs => reaches_err (tk := []) hs
  have small : ∀ {ty : Bytes} {n : Nat} {e : Enc}, n < 4 → e ≠ .toEof →
      Header.noRoom ⟨ty, e.size n⟩ = true := fun hn he => by
    simp [Header.noRoom_size, he, hn]
  cases h with
  | sizeField v ty rest h2 h8 hty =>
    exact ⟨_, by rw [step_boxHeader, parseHeader_size32 ty hty v (by omega) rest, if_neg (by omega),
      if_neg (by omega), if_pos h8]⟩
  | xlSize v ty rest h16 hty =>
    exact ⟨_, by rw [step_boxHeader, parseHeader_size32 ty hty 1 (by decide), if_pos rfl,
      if_neg (by simp), List.take_left' (by simp), beNat_beEnc_lt (show v < 256 ^ 8 by omega),
      if_pos h16]⟩
  | jxlpSmall n e rest hn he hf =>
    exact ⟨_, by rw [step_boxHeader_ser jx tyJxlp rfl n e hf, stepHeader_jxlp, small hn he, if_pos rfl]⟩
  | brobSmall n e rest hn he hf =>
    exact ⟨_, by rw [step_boxHeader_ser jx tyBrob rfl n e hf, stepHeader_brob, small hn he, if_pos rfl]⟩

theorem brob_reserved_err (jx : JxlpState) (n : Nat) (e : Enc) (inner rest : Bytes)
    (hin : inner.length = 4) (hres : reservedInner inner = true) (hf : fits n e)
    (hn : e = .toEof ∨ 4 ≤ n) :
    (feed ⟨.waitingBoxHeader, jx⟩ (serHeader tyBrob n e ++ (inner ++ rest))).error =
      some .validationFailed := by
  have hs := step_boxHeader_ser jx tyBrob rfl n e hf (inner ++ rest)
  have hroom : Header.noRoom ⟨tyBrob, e.size n⟩ = false := by
    rw [Header.noRoom_size]
    exact decide_eq_false fun h => hn.elim h.1 (by omega)
  rw [stepHeader_brob, hroom] at hs
  have hs2 : step ⟨.inAuxBox ⟨tyBrob, e.size n⟩ none
      (e.size n), jx⟩ (inner ++ rest) = .err .validationFailed rest := by
    rw [step_brobInner _ _ jx rfl, if_neg (by simp [hin]), List.take_left' hin, List.drop_left' hin]
    rcases hn with rfl | hn
    · simp [Enc.size, hres]
    · cases e <;> simp [Enc.size, hres, show ¬ n < 4 by omega]
  rw [feed_of_cont hs, feed_of_err hs2]

/-! `normalize` is a function of the flattening: it keeps the tokens (`normalize_toks`), and it does not see
how the data is cut into events: cutting every data event into one-byte events, which is all that the tokens
remember, leaves it unchanged (`normalize_bytewise`). -/

theorem normalize_toks (evs : List Event) : toks (normalize evs) = toks evs := by
  induction evs with
  | nil => rfl
  | cons e r ih =>
    rw [toks_cons, ← ih]
    cases e with
    | codestream d =>
      rw [normalize]
      generalize normalize r = x
      cases x with
      | nil => cases d <;> simp [toks, Event.toks]
      | cons e r' => cases e <;> cases d <;> simp [toks, Event.toks]
    | auxData ty d =>
      rw [normalize]
      generalize normalize r = x
      cases x with
      | nil => cases d <;> simp [toks, Event.toks]
      | cons e r' =>
        cases e with
        | auxData ty' d' => by_cases h : ty = ty' <;> cases d <;> simp [toks, Event.toks, h]
        | _ => cases d <;> simp [toks, Event.toks]
    | _ => rfl

theorem normalize_congr (e : Event) {x y : List Event} (h : normalize x = normalize y) :
    normalize (e :: x) = normalize (e :: y) := by
  cases e <;> simp only [normalize, h]

theorem normalize_cs_nil (r : List Event) : normalize (.codestream [] :: r) = normalize r := by
  rw [normalize]; split <;> simp_all

theorem normalize_aux_nil (ty : Bytes) (r : List Event) : normalize (.auxData ty [] :: r) = normalize r := by
  rw [normalize]; split
  · split <;> simp_all
  · simp

theorem normalize_cs_append (a b : Bytes) (r : List Event) :
    normalize (.codestream a :: .codestream b :: r) = normalize (.codestream (a ++ b) :: r) := by
  simp only [normalize]
  generalize normalize r = x
  cases x with
  | nil => cases b <;> simp
  | cons e r' => cases e <;> cases b <;> simp

theorem normalize_aux_append (ty a b : Bytes) (r : List Event) :
    normalize (.auxData ty a :: .auxData ty b :: r) = normalize (.auxData ty (a ++ b) :: r) := by
  simp only [normalize]
  generalize normalize r = x
  cases x with
  | nil => cases b <;> simp
  | cons e r' =>
    cases e with
    | auxData ty' d' => by_cases h : ty = ty' <;> cases b <;> simp [h]
    | _ => cases b <;> simp

theorem normalize_cs_bytewise (d : Bytes) (r : List Event) :
    normalize (d.map (fun b => .codestream [b]) ++ r) = normalize (.codestream d :: r) := by
  induction d with
  | nil => exact (normalize_cs_nil r).symm
  | cons b d ih => exact (normalize_congr _ ih).trans (normalize_cs_append [b] d r)

theorem normalize_aux_bytewise (ty d : Bytes) (r : List Event) :
    normalize (d.map (fun b => .auxData ty [b]) ++ r) = normalize (.auxData ty d :: r) := by
  induction d with
  | nil => exact (normalize_aux_nil ty r).symm
  | cons b d ih => exact (normalize_congr _ ih).trans (normalize_aux_append ty [b] d r)

/-- the one-byte event a token stands for -/
def Tok.event : Tok → Event
  | .kind k => .kind k
  | .cs b => .codestream [b]
  | .noMoreAux => .noMoreAux
  | .auxStart ty b l => .auxStart ty b l
  | .aux ty b => .auxData ty [b]
  | .auxEnd ty => .auxEnd ty

theorem normalize_bytewise (evs : List Event) : normalize evs = normalize ((toks evs).map Tok.event) := by
  induction evs with
  | nil => rfl
  | cons e r ih =>
    rw [toks_cons, List.map_append]
    cases e with
    | codestream d =>
      rw [Event.toks, List.map_map]
      exact (normalize_congr _ ih).trans (normalize_cs_bytewise d _).symm
    | auxData ty d =>
      rw [Event.toks, List.map_map]
      exact (normalize_congr _ ih).trans (normalize_aux_bytewise ty d _).symm
    | _ => exact normalize_congr _ ih

end Jxl.Container
