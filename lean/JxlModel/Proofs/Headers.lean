import JxlModel.Proofs.Bundle
import JxlModel.Model.Headers
import JxlModel.Proofs.Util
/-!
# Derived header values (C14)

Size forms, TOC offsets and order; the TOC with a permutation read back from its writer, given the
entropy coder's round trip as a hypothesis (`parseToc_writeToc_permuted`).
-/
namespace Jxl.Headers
open Jxl Jxl.Bundle

/-- the aspect ratios of the format: 1:1, 12:10, 4:3, 3:2, 16:9, 5:4, 2:1 -/
def ratioWidth (ratio h : Nat) : Nat :=
  match ratio with
  | 1 => h
  | 2 => h * 12 / 10
  | 3 => h * 4 / 3
  | 4 => h * 3 / 2
  | 5 => h * 16 / 9
  | 6 => h * 5 / 4
  | 7 => h * 2
  | _ => 0

def specDefaultWidth (ratio wDiv8 height : Nat) : Nat :=
  if ratio = 0 then 8 * wDiv8 else ratioWidth ratio height

/-- the scope in which `make_parse!` evaluates the `width` field of `SizeHeader`/`PreviewHeader` -/
def sizeScope (d : Bool) (a h r b : Nat) : Env :=
  [("div8", .bool d), ("h_div8", .nat a), ("height", .nat h), ("ratio", .nat r), ("w_div8", .nat b)]

def fieldDefault (b : Bundle) (i : Nat) : Expr := ((b.getD i default).dflt).getD .unit
def fieldCond (b : Bundle) (i : Nat) : Expr := (b.getD i default).cond

def wrapU (bits : Nat) (i : Int) : Nat := (i % (2 : Int) ^ bits).toNat

theorem wrapU_ofNat (bits n : Nat) (h : n < 2 ^ bits) : wrapU bits (Int.ofNat n) = n := by
  unfold wrapU
  have h2 : ((n : Nat) : Int) < (2 : Int) ^ bits := by exact_mod_cast h
  rw [Int.ofNat_eq_natCast, Int.emod_eq_of_lt (by omega) h2]
  simp

/-- `SizeHeader::compute_default_width`, as inlined into the description of `SizeHeader.width`,
computes the format's ratio table for every height (and 8·w_div8 for ratio 0). The inlined body is
`as_u32 (table ratio (as_u64 w_div8) (as_u64 height))`; under the bounds (`2^30` is the largest
coded height) neither cast changes its argument. -/
theorem sizeHeader_width_default (d : Bool) (a h r b : Nat) (hr : r < 8) (hh : h ≤ 2 ^ 30)
    (hb : b ≤ 2 ^ 20) :
    eval (sizeScope d a h r b) (fieldDefault Pinned.SizeHeader 5) =
      some (.nat (specDefaultWidth r b h)) := by
  have e : eval (sizeScope d a h r b) (fieldDefault Pinned.SizeHeader 5) = some (.nat (wrapU 32
      (Int.ofNat (specDefaultWidth r (wrapU 64 (Int.ofNat b)) (wrapU 64 (Int.ofNat h)))))) :=
    match r, hr with
    | 0, _ | 1, _ | 2, _ | 3, _ | 4, _ | 5, _ | 6, _ | 7, _ => rfl
  have lt : specDefaultWidth r b h < 2 ^ 32 :=
    match r, hr with
    | 0, _ | 1, _ | 2, _ | 3, _ | 4, _ | 5, _ | 6, _ | 7, _ => by
      simp only [specDefaultWidth, ratioWidth]
      split <;> omega
  rw [e, wrapU_ofNat 64 b (by omega), wrapU_ofNat 64 h (by omega), wrapU_ofNat 32 _ lt]

theorem sizeHeader_height_default (d : Bool) (a : Nat) :
    eval [("div8", .bool d), ("h_div8", .nat a)] (fieldDefault Pinned.SizeHeader 2) = some (.nat (8 * a)) := rfl

theorem sizeHeader_conds (d : Bool) (a h r b : Nat) :
    evalBool [("div8", .bool d)] (fieldCond Pinned.SizeHeader 1) = some d ∧
    evalBool [("div8", .bool d), ("h_div8", .nat a)] (fieldCond Pinned.SizeHeader 2) = some (!d) ∧
    evalBool (sizeScope d a h r b) (fieldCond Pinned.SizeHeader 4) = some (d && r == 0) ∧
    evalBool (sizeScope d a h r b) (fieldCond Pinned.SizeHeader 5) = some (!d && r == 0) := by
  have hb : (Val.nat r == Val.nat 0) = (r == 0) := by
    show decide (Val.nat r = Val.nat 0) = decide (r = 0)
    simp only [Val.nat.injEq]
  refine ⟨by cases d <;> rfl, by cases d <;> rfl, ?_, ?_⟩
  · cases d
    · rfl
    · exact congrArg some hb
  · cases d
    · exact congrArg some hb
    · rfl

theorem prefixSums_length (l : List Nat) : ∀ b, (prefixSums b l).length = l.length := by
  induction l with
  | nil => intro b; rfl
  | cons s r ih => intro b; simp [prefixSums, ih]

theorem prefixSums_getD (l : List Nat) : ∀ b i, i < l.length →
    (prefixSums b l).getD i 0 = b + (l.take i).sum := by
  induction l with
  | nil => intro b i h; simp at h
  | cons s r ih =>
    intro b i h
    cases i with
    | zero => simp [prefixSums]
    | succ i =>
      simp only [prefixSums, List.getD_cons_succ, List.take_succ_cons, List.sum_cons]
      rw [ih (b + s) i (by simpa using h)]
      omega

def fillInv (a : Array Nat) (l : List (Nat × Nat)) : Array Nat :=
  l.foldl (fun (a : Array Nat) (pj : Nat × Nat) => a.setIfInBounds pj.1 pj.2) a

theorem fillInv_cons (a : Array Nat) (x : Nat × Nat) (t : List (Nat × Nat)) :
    fillInv a (x :: t) = fillInv (a.setIfInBounds x.1 x.2) t := rfl

theorem fillInv_not_mem (l : List (Nat × Nat)) : ∀ a p, p ∉ l.map Prod.fst →
    (fillInv a l)[p]? = a[p]? := by
  induction l with
  | nil => intro a p _; rfl
  | cons x t ih =>
    intro a p h
    simp only [List.map_cons, List.mem_cons, not_or] at h
    rw [fillInv_cons, ih _ p h.2, Array.getElem?_setIfInBounds]
    simp [Ne.symm h.1]

theorem fillInv_mem (l : List (Nat × Nat)) : ∀ a p j, (l.map Prod.fst).Nodup → (p, j) ∈ l →
    p < a.size → (fillInv a l)[p]? = some j := by
  induction l with
  | nil => intro a p j _ h; simp at h
  | cons x t ih =>
    intro a p j hnd hm hp
    simp only [List.map_cons, List.nodup_cons] at hnd
    rw [fillInv_cons]
    rcases List.mem_cons.mp hm with h | h
    · subst h
      rw [fillInv_not_mem t _ _ hnd.1, Array.getElem?_setIfInBounds]
      simp [hp]
    · exact ih _ p j hnd.2 h (by simpa using hp)

theorem invPerm_spec (perm : List Nat) (hnd : perm.Nodup) (hb : ∀ x ∈ perm, x < perm.length)
    (j : Nat) (hj : j < perm.length) : (invPerm perm)[perm[j]]? = some j := by
  unfold invPerm
  have := fillInv_mem perm.zipIdx (Array.replicate perm.length 0) perm[j] j
    (by rw [List.zipIdx_map_fst]; exact hnd)
    (List.mk_mem_zipIdx_iff_getElem?.mpr (List.getElem?_eq_getElem hj))
    (by simpa using hb _ (List.getElem_mem hj))
  simpa [fillInv] using this

theorem lehmerGo_perm : ∀ (lehmer temp : List Nat), lehmerValid temp.length lehmer = true →
    (lehmerGo temp lehmer).Perm temp := by
  intro lehmer
  induction lehmer with
  | nil => intro temp _; exact List.Perm.refl _
  | cons i r ih =>
    intro temp h
    simp only [lehmerValid, Bool.and_eq_true, decide_eq_true_eq] at h
    simp only [lehmerGo]
    have := ih (temp.eraseIdx i) (by rw [List.length_eraseIdx_of_lt h.1]; exact h.2)
    rw [← List.getElem_eq_getD (h := h.1) 0]
    exact (List.Perm.cons _ this).trans (cons_eraseIdx_perm temp i h.1)

theorem lehmerToPerm_perm (size : Nat) (lehmer : List Nat) (h : lehmerValid size lehmer = true) :
    (lehmerToPerm size lehmer).Perm (List.range size) := by
  unfold lehmerToPerm
  exact lehmerGo_perm lehmer (List.range size) (by simpa using h)

theorem allCanon_sizes (sc : Env) (sizes : List Nat) :
    allCanon (canonicalTy sc tocSizeTy) (sizes.map Val.nat) = true := by
  induction sizes with
  | nil => rfl
  | cons x r ih => simp [allCanon, canonicalTy_nat, ih]

theorem tocHead_canonical (k : Nat) (b : Bool) : canonicalFields [("entry_count", .nat k)] tocHead []
    [("_count_ok", .unit), ("permuted", .bool b)] = true := rfl

theorem tocTail_canonical (k : Nat) (sizes : List Nat) : canonicalFields [("entry_count", .nat k)] tocTail []
    [("_pad0", .unit), ("sizes", .list (sizes.map .nat)), ("_pad1", .unit)] = true := by
  simp [canonicalFields, tocTail, Parts.always, Parts.tt, evalBool, eval, canonicalTy,
    allCanon_sizes _ sizes]

theorem map_nat!_map_nat (l : List Nat) : (l.map Val.nat).map Val.nat! = l := by
  induction l with
  | nil => rfl
  | cons x r ih => simp [Val.nat!, ih]

theorem parseToc_writeToc_permuted (dec : PermDecoder) (ch : Nat → Nat) (pos g l : Nat)
    (sizes lehmer : List Nat) (enc bits rest : Bits)
    (hdec : ∀ r, dec sizes.length (enc ++ r) = .ok (lehmer, r))
    (hw : writeToc ch pos sizes (some enc) = some bits) :
    parseToc dec (pos + (bits ++ rest).length) g l sizes.length (bits ++ rest) =
      .ok ({ entryCount := sizes.length, numLfGroups := l, numGroups := g, permuted := true,
             perm := lehmerToPerm sizes.length lehmer, sizes := sizes,
             base := (pos + bits.length) / 8 }, rest) := by
  unfold writeToc at hw
  simp only [Option.isSome_some, Option.getD_some] at hw
  split at hw
  · exact nomatch hw
  · rename_i hb hh
    split at hw
    · exact nomatch hw
    · rename_i tb ht
      obtain rfl := Option.some.inj hw
      have hhead := parseFields_writeFields ch tocHead _ [] pos _ hb (enc ++ (tb ++ rest))
        (pos + (hb ++ enc ++ tb ++ rest).length) (tocHead_canonical sizes.length true) hh
        (by simp [List.length_append]; omega)
      have htail := parseFields_writeFields ch tocTail _ [] _ _ tb rest
        (pos + (hb ++ enc ++ tb ++ rest).length) (tocTail_canonical sizes.length sizes) ht
        (by simp [List.length_append]; omega)
      have e1 : hb ++ enc ++ tb ++ rest = hb ++ (enc ++ (tb ++ rest)) := by simp
      unfold parseToc
      simp only
      rw [e1] at hhead htail ⊢
      rw [hhead]
      simp only [List.nil_append]
      have hp : ((Val.record [("_count_ok", Val.unit), ("permuted", Val.bool true)]).get "permuted").bool! = true := by
        decide
      simp only [hp, if_true, hdec, htail, List.nil_append]
      have hs : ((Val.record [("_pad0", Val.unit), ("sizes", Val.list (sizes.map Val.nat)), ("_pad1", Val.unit)]).get "sizes").list! = sizes.map Val.nat :=
        rfl
      rw [hs, map_nat!_map_nat]
      congr 3
      simp [List.length_append]; omega

/-! The hand-made trivial code satisfies the coder hypothesis (`hdec` above) on a concrete stream.
`demoPermBits`: alphabet of 5, simple prefix code with the four symbols 0..3 of length 2, then
`end = 3` and the Lehmer digits 3, 0, 2. -/

def demoPermBits : Bits := [false, true, false, false, true, true, true, true, true, true, false, true, false, false, false, false, true,
 false, true, true, false, false, false, true, false, false, false, true, false, true, true, false, false, true, true,
 true, true, false, false, true, false]

theorem demoPermBits_eq : trivialPermWrite 5 [0, 1, 2, 3] [3, 0, 2] = some demoPermBits := by decide

theorem trivialPermDecoder_demo (r : Bits) : trivialPermDecoder 5 (demoPermBits ++ r) = .ok ([3, 0, 2], r) :=
  rfl

end Jxl.Headers
