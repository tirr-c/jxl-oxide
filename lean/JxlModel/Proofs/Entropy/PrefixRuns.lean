import JxlModel.Proofs.Entropy.PrefixLens
/-! Run-length grouping and trailing-zero trimming of a code-length vector; what `clTokens` denotes. -/
namespace Jxl.Entropy
open Jxl.Enc

theorem groupRuns_cons_nil (a : Nat) (l : List Nat) (hg : groupRuns l = []) :
    groupRuns (a :: l) = [(a, 1)] := by
  rw [groupRuns, hg]

theorem groupRuns_cons_cons (a : Nat) (l : List Nat) (b n : Nat) (t : List (Nat × Nat))
    (hg : groupRuns l = (b, n) :: t) :
    groupRuns (a :: l) = if a = b then (b, n + 1) :: t else (a, 1) :: (b, n) :: t := by
  rw [groupRuns, hg]

theorem groupRuns_spec (l : List Nat) : runsExpand (groupRuns l) = l ∧ RunsWF none (groupRuns l) := by
  induction l with
  | nil => exact ⟨rfl, trivial⟩
  | cons a l ih =>
    obtain ⟨ihe, ihw⟩ := ih
    cases hg : groupRuns l with
    | nil =>
      rw [hg] at ihe
      cases ihe
      rw [groupRuns_cons_nil a _ hg]
      exact ⟨rfl, Nat.le_refl 1, nofun, trivial⟩
    | cons r t =>
      obtain ⟨b, n⟩ := r
      rw [hg] at ihe ihw
      rw [groupRuns_cons_cons a l b n t hg, ← ihe]
      split
      · rename_i hab
        subst hab
        exact ⟨rfl, Nat.le_succ_of_le ihw.1, nofun, ihw.2.2⟩
      · rename_i hab
        exact ⟨rfl, Nat.le_refl 1, nofun, ihw.1, fun h => hab (Option.some.inj h), ihw.2.2⟩

theorem groupRuns_head (l : List Nat) : (groupRuns l).head?.map (·.1) = l.head? := by
  cases l with
  | nil => rfl
  | cons a l =>
    cases hg : groupRuns l with
    | nil => rw [groupRuns_cons_nil a l hg]; rfl
    | cons r t =>
      obtain ⟨b, n⟩ := r
      rw [groupRuns_cons_cons a l b n t hg]
      by_cases hab : a = b
      · subst hab; simp
      · simp [hab]

theorem groupRuns_last (l : List Nat) : (groupRuns l).getLast?.map (·.1) = l.getLast? := by
  induction l with
  | nil => rfl
  | cons a l ih =>
    cases hg : groupRuns l with
    | nil =>
      rw [groupRuns_cons_nil a l hg]
      have : l = [] := by
        have := (groupRuns_spec l).1
        rw [hg] at this
        exact this.symm
      subst this; rfl
    | cons r t =>
      obtain ⟨b, n⟩ := r
      rw [groupRuns_cons_cons a l b n t hg]
      rw [hg] at ih
      have hne : l ≠ [] := by
        intro h; subst h; simp [groupRuns] at hg
      obtain ⟨c, l', rfl⟩ := List.exists_cons_of_ne_nil hne
      rw [List.getLast?_cons_cons, ← ih]
      by_cases hab : a = b
      · subst hab
        simp only [if_true]
        cases t with
        | nil => rfl
        | cons r' t' => rw [List.getLast?_cons_cons, List.getLast?_cons_cons]
      · simp only [hab, if_false]
        rw [List.getLast?_cons_cons]

theorem trim_append_zeros (l : List Nat) :
    trimTrailingZeros l ++ List.replicate (l.length - (trimTrailingZeros l).length) 0 = l :=
  dropTrailingZeros_append l

theorem trimTZ_length_le (l : List Nat) : (trimTrailingZeros l).length ≤ l.length := by
  have := congrArg List.length (trim_append_zeros l)
  simp only [List.length_append, List.length_replicate] at this
  omega

theorem trim_last (l : List Nat) : ∀ x ∈ (trimTrailingZeros l).getLast?, x ≠ 0 := by
  intro x hx
  unfold trimTrailingZeros at hx
  rw [List.getLast?_reverse] at hx
  have := List.head?_dropWhile_not (fun x : Nat => decide (x = 0)) l.reverse
  rw [Option.mem_def] at hx
  rw [hx] at this
  simpa using this

theorem kraft_trim (l : List Nat) : kraft (trimTrailingZeros l) = kraft l := by
  conv => rhs; rw [← trim_append_zeros l]
  rw [kraft_append, kraft_replicate]; rfl

theorem trim_mem (l : List Nat) (x : Nat) (h : x ∈ trimTrailingZeros l) : x ∈ l := by
  rw [← trim_append_zeros l]
  exact List.mem_append_left _ h

theorem toksOut_clTokens (rle : Bool) (lens : List Nat) (h15 : ∀ l ∈ lens, l ≤ 15)
    (hlen : lens.length ≤ 2 ^ 15) (st : ClState) (hp : st.prevSym ≠ 17) :
    toksOut st (clTokens rle lens) = trimTrailingZeros lens ∧ ∀ t ∈ clTokens rle lens, TokOK t := by
  have := toks_runs rle (groupRuns (trimTrailingZeros lens)) none st (groupRuns_spec _).2
  rw [(groupRuns_spec _).1] at this
  exact this (fun x hx => h15 x (trim_mem lens x hx)) (by have := trimTZ_length_le lens; omega)
    (fun h => absurd h hp)

end Jxl.Entropy
