import Mathlib.Tactic.IntervalCases
import JxlModel.Model.Entropy.Decoder
import JxlModel.Model.Enc.EntropyEnc
import JxlModel.Proofs.Entropy.Reader
import JxlModel.Proofs.Entropy.Hybrid
/-! Header fields: each small reader inverts its writer. -/
namespace Jxl.Entropy
open Jxl.Enc

theorem integerConfig_roundtrip (la : Nat) (hla : la < 2 ^ 32) (c : IntegerConfig)
    (hv : c.valid la = true) (rest : Bits) :
    IntegerConfig.parse la (writeConfig la c ++ rest) = .ok (c, rest) := by
  obtain ⟨se, msb, lsb⟩ := c
  simp only [IntegerConfig.valid, Bool.and_eq_true, decide_eq_true_eq] at hv
  obtain ⟨hse, hrest⟩ := hv
  unfold IntegerConfig.parse writeConfig
  rw [List.append_assoc, rbits_toBits _ _ _ (le_lt_pow_addLog2Ceil se la hla hse)]
  by_cases heq : se = la
  · simp only [heq, beq_self_eq_true, if_true, Bool.and_eq_true, beq_iff_eq] at hrest
    simp [heq, hrest.1, hrest.2]
  · simp only [beq_iff_eq, heq, if_false, decide_eq_true_eq] at hrest
    simp only [ne_eq, heq, not_false_eq_true, if_true, List.append_assoc,
      rbits_toBits _ _ _ (le_lt_pow_addLog2Ceil msb se (by omega) (by omega)),
      rbits_toBits _ _ _ (le_lt_pow_addLog2Ceil lsb (se - msb) (by omega) (by omega)),
      show ¬ msb > se by omega, show ¬ lsb + msb > se by omega, if_false]

theorem readU8_writeU8 (v : Nat) (hv : v < 256) (rest : Bits) :
    readU8 (writeU8 v ++ rest) = .ok (v, rest) := by
  unfold writeU8
  by_cases h0 : v = 0
  · subst h0; rfl
  · simp only [h0, if_false]
    have hl := Nat.log2_self_le h0
    have hu : v < 2 ^ (Nat.log2 v + 1) := Nat.lt_log2_self
    have hn : Nat.log2 v < 8 := (Nat.log2_lt h0).2 (by omega)
    simp only [readU8, List.cons_append, rbool_cons, List.append_assoc]
    rw [rbits_toBits 3 _ _ (by omega)]
    simp only
    rw [rbits_toBits _ _ _ (by rw [Nat.pow_succ] at hu; omega)]
    simp only
    have : 2 ^ Nat.log2 v + (v - 2 ^ Nat.log2 v) = v := by omega
    rw [this, Nat.mod_eq_of_lt hv]

theorem readLogCount_write (c : Nat) (hc : c ≤ 13) (rest : Bits) :
    readLogCount (writeLogCount c ++ rest) = .ok (c, rest) := by
  -- every codeword starts with a three-bit head; once `rbits 3` has returned it as a literal the
  -- rest evaluates quickly (evaluating through `rbits` recomputes the head in every arm of the `match`)
  have head : ∀ k tail, k < 8 → rbits 3 (toBits 3 k ++ tail ++ rest) = .ok (k, tail ++ rest) :=
    fun k tail hk => by rw [List.append_assoc, rbits_toBits 3 k _ hk]
  unfold readLogCount
  interval_cases c
  all_goals
    erw [head _ _ (by decide)]
    rfl

/-- the shift field as `parseAnsDist` reads it -/
def readShift (s : Bits) : R Nat :=
  match readShiftLen 3 0 s with
  | .error e => .error e
  | .ok (len, s1) =>
    match rbits len s1 with
    | .error e => .error e
    | .ok (sb, s2) => .ok (sb + 2 ^ len - 1, s2)

theorem readShift_write (shift : Nat) (hs : shift ≤ 13) (rest : Bits) :
    readShift (writeShift shift ++ rest) = .ok (shift, rest) := by
  interval_cases shift <;> rfl

theorem parseAns_single (la v : Nat) (hv : v < 2 ^ la) (hv8 : v < 256) (rest : Bits) :
    parseAnsDist la ([true, false] ++ writeU8 v ++ rest)
      = .ok (⟨(List.replicate (2 ^ la) 0).set v 4096, v + 1⟩, rest) := by
  simp only [parseAnsDist, List.cons_append, List.nil_append, rbool_cons]
  rw [readU8_writeU8 v hv8]
  simp only
  have : ¬ v + 1 > 2 ^ la := by omega
  simp [this]

theorem parseAns_binary (la v0 v1 p : Nat) (h0 : v0 < 2 ^ la) (h1 : v1 < 2 ^ la) (hne : v0 ≠ v1)
    (h08 : v0 < 256) (h18 : v1 < 256) (hp : p < 4096) (rest : Bits) :
    parseAnsDist la ([true, true] ++ writeU8 v0 ++ writeU8 v1 ++ toBits 12 p ++ rest)
      = .ok (⟨((List.replicate (2 ^ la) 0).set v0 p).set v1 (4096 - p), max v0 v1 + 1⟩, rest) := by
  simp only [parseAnsDist, List.cons_append, List.nil_append, rbool_cons, List.append_assoc]
  rw [readU8_writeU8 v0 h08]
  simp only
  rw [readU8_writeU8 v1 h18]
  simp only [hne, if_false]
  have : ¬ max v0 v1 + 1 > 2 ^ la := by omega
  simp only [this, if_false]
  rw [rbits_toBits 12 p _ hp]

theorem parseAns_flat (la a : Nat) (ha1 : 1 ≤ a) (ha : a ≤ 2 ^ la) (ha8 : a ≤ 256) (rest : Bits) :
    parseAnsDist la ([false, true] ++ writeU8 (a - 1) ++ rest)
      = .ok (⟨flatDist a ++ List.replicate (2 ^ la - a) 0, a⟩, rest) := by
  simp only [parseAnsDist, List.cons_append, List.nil_append, rbool_cons, List.append_assoc]
  rw [readU8_writeU8 (a - 1) (by omega)]
  simp only
  have e : a - 1 + 1 = a := by omega
  rw [e]
  have : ¬ a > 2 ^ la := by omega
  simp only [this, if_false, flatDist, List.append_assoc]

theorem readClcLen_write (l : Nat) (hl : l ≤ 5) (rest : Bits) :
    readClcLen (writeClcLen l ++ rest) = .ok (l, rest) := by
  interval_cases l <;> rfl

theorem readPrefixCount_write (count : Nat) (h1 : 1 ≤ count) (h2 : count ≤ 2 ^ 15) (rest : Bits) :
    readPrefixCount (writePrefixCount count ++ rest) = .ok (count, rest) := by
  unfold writePrefixCount
  by_cases hc : count ≤ 1
  · have : count = 1 := by omega
    subst this; rfl
  · simp only [hc, if_false]
    have h0 : count - 1 ≠ 0 := by omega
    have hl := Nat.log2_self_le h0
    have hu : count - 1 < 2 ^ (Nat.log2 (count - 1) + 1) := Nat.lt_log2_self
    have hn : Nat.log2 (count - 1) < 15 := (Nat.log2_lt h0).2 (by omega)
    simp only [readPrefixCount, List.cons_append, List.nil_append, rbool_cons, List.append_assoc]
    rw [rbits_toBits 4 _ _ (by omega)]
    simp only
    rw [rbits_toBits _ _ _ (by rw [Nat.pow_succ] at hu; omega)]
    simp only
    have e : 1 + 2 ^ Nat.log2 (count - 1) + (count - 1 - 2 ^ Nat.log2 (count - 1)) = count := by omega
    rw [e]
    have : ¬ count > 2 ^ 15 := by omega
    rw [if_neg this]

theorem parsePrefix_simple1 (n sym : Nat) (hn : 2 ≤ n) (hn15 : n ≤ 2 ^ 15) (hs : sym < n) (rest : Bits) :
    parsePrefix n (writeSimple n [sym] none ++ rest) = .ok (.single sym, rest) := by
  have hlt : sym < 2 ^ clog2 n := Nat.lt_of_lt_of_le hs (le_pow_clog2 n (by omega))
  have h1 : ¬ n = 1 := by omega
  have h2 : ¬ n > 2 ^ 15 := by omega
  simp only [parsePrefix, h1, h2, if_false, writeSimple, List.length_singleton, List.flatMap_cons,
    List.flatMap_nil, List.append_nil, List.append_assoc]
  rw [rbits_toBits 2 1 _ (by omega)]
  simp only [if_true, parseSimple]
  rw [rbits_toBits 2 0 _ (by omega)]
  simp only [rsyms]
  rw [rbits_toBits _ sym _ hlt]
  simp only [List.getD_cons_zero]
  have : ¬ sym ≥ n := by omega
  simp [this]

theorem readU32_const (d0 d1 d2 d3 : U32Arm) (k c : Nat) (hk : k < 4)
    (harm : (match k with | 0 => d0 | 1 => d1 | 2 => d2 | _ => d3) = .const c) (s : Bits) :
    readU32 d0 d1 d2 d3 (toBits 2 k ++ s) = .ok (c, s) := by
  unfold readU32
  rw [rbits_toBits 2 k s hk]
  obtain rfl | rfl | rfl | rfl : k = 0 ∨ k = 1 ∨ k = 2 ∨ k = 3 := by omega
  all_goals
    simp only at harm ⊢
    rw [harm]

theorem readU32_bits (d0 d1 d2 d3 : U32Arm) (k off n v : Nat) (hk : k < 4)
    (harm : (match k with | 0 => d0 | 1 => d1 | 2 => d2 | _ => d3) = .bits off n)
    (hoff : off ≤ v) (hv : v - off < 2 ^ n) (hv32 : v < 2 ^ 32) (s : Bits) :
    readU32 d0 d1 d2 d3 (toBits 2 k ++ toBits n (v - off) ++ s) = .ok (v, s) := by
  unfold readU32
  rw [List.append_assoc, rbits_toBits 2 k _ hk]
  obtain rfl | rfl | rfl | rfl : k = 0 ∨ k = 1 ∨ k = 2 ∨ k = 3 := by omega
  all_goals
    simp only at harm ⊢
    rw [harm]
    simp only [rbits_toBits n _ s hv, Nat.sub_add_cancel hoff, Nat.mod_eq_of_lt hv32]

/-- the LZ77 parameters `writeLz77` can express: `min_symbol` and `min_length` within the range of
their `U32` fields -/
def Lz77OK (q : Lz77Params) : Prop :=
  (q.minSymbol = 224 ∨ q.minSymbol = 512 ∨ q.minSymbol = 4096 ∨
    (8 ≤ q.minSymbol ∧ q.minSymbol < 8 + 2 ^ 15)) ∧
  (3 ≤ q.minLength ∧ q.minLength ≤ 264) ∧ q.lenConf.valid 8 = true

theorem parseLz77_writeLz77 (lz : Option Lz77Params) (h : ∀ q, lz = some q → Lz77OK q) (rest : Bits) :
    parseLz77 (writeLz77 lz ++ rest) = .ok (lz, rest) := by
  cases lz with
  | none => rfl
  | some lz =>
    obtain ⟨hms, hml, hc⟩ := h lz rfl
    obtain ⟨ms, ml, c⟩ := lz
    simp only at hms hml hc
    have hA : ∀ tail : Bits,
        readU32 (.const 224) (.const 512) (.const 4096) (.bits 8 15)
          ((if ms = 224 then toBits 2 0 else if ms = 512 then toBits 2 1
            else if ms = 4096 then toBits 2 2 else toBits 2 3 ++ toBits 15 (ms - 8)) ++ tail)
          = .ok (ms, tail) := by
      intro tail
      split_ifs with h1 h2 h3
      · subst h1; exact readU32_const _ _ _ _ 0 224 (by decide) rfl tail
      · subst h2; exact readU32_const _ _ _ _ 1 512 (by decide) rfl tail
      · subst h3; exact readU32_const _ _ _ _ 2 4096 (by decide) rfl tail
      · exact readU32_bits _ _ _ _ 3 8 15 ms (by decide) rfl (by omega) (by omega) (by omega) tail
    have hB : ∀ tail : Bits,
        readU32 (.const 3) (.const 4) (.bits 5 2) (.bits 9 8)
          ((if ml = 3 then toBits 2 0 else if ml = 4 then toBits 2 1
            else if ml ≤ 8 then toBits 2 2 ++ toBits 2 (ml - 5)
            else toBits 2 3 ++ toBits 8 (ml - 9)) ++ tail)
          = .ok (ml, tail) := by
      intro tail
      split_ifs with h1 h2 h3
      · subst h1; exact readU32_const _ _ _ _ 0 3 (by decide) rfl tail
      · subst h2; exact readU32_const _ _ _ _ 1 4 (by decide) rfl tail
      · exact readU32_bits _ _ _ _ 2 5 2 ml (by decide) rfl (by omega) (by omega) (by omega) tail
      · exact readU32_bits _ _ _ _ 3 9 8 ml (by decide) rfl (by omega) (by omega) (by omega) tail
    simp only [writeLz77, parseLz77, List.cons_append, List.nil_append, rbool_cons, List.append_assoc,
      hA, hB, integerConfig_roundtrip 8 (by omega) c hc rest]

theorem readMany_roundtrip_map {α β : Type} (f : Bits → R β) (w : α → Bits) (g : α → β) (xs : List α)
    (h : ∀ x ∈ xs, ∀ rest, f (w x ++ rest) = .ok (g x, rest)) (rest : Bits) :
    readMany f xs.length (xs.flatMap w ++ rest) = .ok (xs.map g, rest) := by
  induction xs with
  | nil => rfl
  | cons a r ih =>
    simp only [List.length_cons, readMany, List.flatMap_cons, List.append_assoc, List.map_cons,
      h a (by simp), ih (fun x hx => h x (by simp [hx]))]

theorem readMany_roundtrip {α : Type} (f : Bits → R α) (w : α → Bits) (xs : List α)
    (h : ∀ x ∈ xs, ∀ rest, f (w x ++ rest) = .ok (x, rest)) (rest : Bits) :
    readMany f xs.length (xs.flatMap w ++ rest) = .ok (xs, rest) := by
  have := readMany_roundtrip_map f w id xs h rest
  rwa [List.map_id] at this

theorem readEach_roundtrip {α β γ : Type} (f : β → Bits → R γ) (w : α → Bits) (k : α → β) (g : α → γ)
    (xs : List α) (h : ∀ x ∈ xs, ∀ rest, f (k x) (w x ++ rest) = .ok (g x, rest)) (rest : Bits) :
    readEach f (xs.map k) (xs.flatMap w ++ rest) = .ok (xs.map g, rest) := by
  induction xs with
  | nil => rfl
  | cons a r ih =>
    simp only [List.map_cons, readEach, List.flatMap_cons, List.append_assoc, h a (by simp),
      ih (fun x hx => h x (by simp [hx]))]

theorem readMany_rbits (nbits : Nat) (l : List Nat) (h : ∀ x ∈ l, x < 2 ^ nbits) (rest : Bits) :
    readMany (rbits nbits) l.length (l.flatMap (toBits nbits) ++ rest) = .ok (l, rest) :=
  readMany_roundtrip _ _ l (fun x hx r => rbits_toBits nbits x r (h x hx)) rest

end Jxl.Entropy
