import JxlModel.Proofs.Entropy.Lz
/-! RLE mode (`as_rle`, `DecoderRleMode::read_varint_clustered`) against the general LZ77 path. -/
namespace Jxl.Entropy
open Jxl.Enc

theorem lzCopyDistance_one (mult n : Nat) (hm : mult ≠ 0) (hn : 1 ≤ n) : lzCopyDistance mult 1 n = 1 := by
  unfold lzCopyDistance lzRawDistance
  have ht : Jxl.Gen.lz77SpecialDistances.getD 1 (0, 0) = (1, 0) := by decide
  simp only [hm, if_false, show (1 : Nat) < 120 by omega, if_true, ht]
  simp [lzWindow]
  omega

/-- how the caller (jxl-modular `RleState`) expands RLE tokens: a value is emitted once and
remembered, a repeat emits the remembered value `n` times -/
def rleExpand : List RleToken → Nat → List Nat
  | [], _ => []
  | .value v :: r, _ => v :: rleExpand r v
  | .rep n :: r, last => List.replicate n last ++ rleExpand r last

def rleTokOf : Item → RleToken
  | .lit _ v => .value v
  | .copy _ len _ => .rep len

theorem copyBack_dist1 (n a : Nat) (h : List Nat) :
    copyBack 1 n (a :: h) = List.replicate n a ++ a :: h := by
  induction n generalizing h with
  | zero => rfl
  | succ n ih =>
    rw [copyBack, Nat.sub_self, List.getD_cons_zero, ih, List.replicate_succ', List.append_assoc]
    rfl

def AllDist1 : List Item → Prop
  | [] => True
  | .lit _ _ :: r => AllDist1 r
  | .copy _ _ dc :: r => dc = 1 ∧ AllDist1 r

theorem foldl_lzStep_rle (mult : Nat) (hm : mult ≠ 0) (items : List Item) (a : Nat) (h : List Nat)
    (hd : AllDist1 items) :
    items.foldl (lzStep mult) (a :: h) = (rleExpand (items.map rleTokOf) a).reverse ++ a :: h := by
  induction items generalizing a h with
  | nil => rfl
  | cons i r ih =>
    cases i with
    | lit c v =>
      simp only [List.foldl_cons, lzStep, List.map_cons, rleTokOf, rleExpand, ih v (a :: h) hd,
        List.reverse_cons, List.append_assoc, List.singleton_append]
    | copy c len dc =>
      obtain ⟨rfl, hd'⟩ := hd
      simp only [List.foldl_cons, lzStep, List.map_cons, rleTokOf, rleExpand]
      rw [lzCopyDistance_one mult _ hm (by simp), copyBack_dist1]
      cases len with
      | zero => simpa using ih a h hd'
      | succ n =>
        rw [List.replicate_succ, List.cons_append, ih a _ hd', List.reverse_append,
          List.reverse_cons, List.reverse_replicate, ← List.replicate_succ',
          List.replicate_succ, List.append_assoc]
        rfl

/-- one `read_varint_clustered` per context -/
def readRleSeq (d : Decoder) (lz : Lz77Params) : List Nat → DState → Bits → R (List RleToken × DState)
  | [], st, s => .ok (([], st), s)
  | c :: cs, st, s =>
    match d.readRle lz st (d.clusters.getD c 0) s with
    | .error e => .error e
    | .ok ((t, st1), s1) =>
      match readRleSeq d lz cs st1 s1 with
      | .error e => .error e
      | .ok ((ts, st2), s2) => .ok ((t :: ts, st2), s2)

/-- the distance token of an RLE-shaped stream costs nothing: no bits and no state change.
(Holds for prefix plans whose distance cluster is the zero-bit code of symbol 1 with
`split_exponent = 0`, see `distTok_free_prefix`; for ANS it is the fact that a probability-4096
symbol leaves the state untouched.) -/
def DistTokFree (p : EntropyPlan) : Prop :=
  ∀ r : List Tok,
    streamOf p (⟨p.lzCluster, tokenOf (p.config p.lzCluster) 1, uintBits (p.config p.lzCluster) 1⟩ :: r)
      = streamOf p r

theorem rle_seq (p : EntropyPlan) (lz : Lz77Params) (hlz : p.lz77 = some lz) (hfree : DistTokFree p)
    (items : List Item) (st : DState) (rest : Bits)
    (hitems : ItemsOK p items True) (hd : AllDist1 items)
    (hok : ToksOK p (p.toks items)) (hst : StateAt p (p.toks items) st) :
    ∃ x, readRleSeq (planDecoder p) lz (items.map itemCtx) st ((streamOf p (p.toks items)).2 ++ rest)
        = .ok ((items.map rleTokOf, { st with ansState := x }), rest) ∧
      StateAt p [] { st with ansState := x } := by
  induction items generalizing st with
  | nil =>
    refine ⟨st.ansState, ?_, hst⟩
    simp only [EntropyPlan.toks, List.flatMap_nil, streamOf_nil, List.nil_append, List.map_nil,
      readRleSeq]
  | cons i r ih =>
    obtain ⟨hi, hr⟩ := hitems
    cases i with
    | lit ctx v =>
      obtain ⟨hv32, hcfg, hmin⟩ := hi
      rw [toks_lit] at hok hst ⊢
      obtain ⟨x, hpop, hst'⟩ := pop p _ _ hok st hst rest
      obtain ⟨x', hseq, hfin⟩ := ih _ hr hd hok.tail hst'
      refine ⟨x', ?_, hfin⟩
      simp only [List.map_cons, itemCtx, readRleSeq, rleTokOf, planDecoder_cluster, Decoder.readRle,
        hpop, Nat.not_le.2 (hmin lz hlz), if_false, planDecoder_config,
        readUint_splitUint _ hcfg v hv32, hseq]
    | copy ctx len dc =>
      obtain ⟨rfl, hd'⟩ := hd
      obtain ⟨_, hdc, hlen, hlen1, hcfgd, lz', hlz', hml, hcfgl⟩ := hi
      obtain rfl : lz = lz' := Option.some.inj (hlz ▸ hlz')
      rw [toks_copy p lz hlz] at hok hst ⊢
      obtain ⟨x, hpop, hst'⟩ := pop p _ _ hok st hst rest
      rw [hfree] at hpop
      rw [StateAt, hfree] at hst'
      obtain ⟨x', hseq, hfin⟩ := ih _ hr hd' hok.tail.tail hst'
      refine ⟨x', ?_, hfin⟩
      simp only [List.map_cons, itemCtx, readRleSeq, rleTokOf, planDecoder_cluster, Decoder.readRle,
        hpop, Nat.le_add_right, ge_iff_le, if_true, Nat.add_sub_cancel_left,
        readUint_splitUint _ hcfgl _ (show len - lz.minLength < 2 ^ 32 by omega),
        Nat.sub_add_cancel hml, Nat.not_le.2 hlen, if_false, hseq]

theorem distTok_free_prefix (p : EntropyPlan) (hc : p.coder = .prefix)
    (hcode : (p.codes.map CodeSpec.prefixCode).getD p.lzCluster default = .single 1)
    (hse : (p.config p.lzCluster).splitExponent = 0) (hcfg : CfgOK (p.config p.lzCluster)) :
    DistTokFree p := by
  intro r
  unfold streamOf
  simp only [hc, encodeToksPrefix, hcode, PrefixCode.encode, List.nil_append]
  have : uintBits (p.config p.lzCluster) 1 = [] := by
    unfold CfgOK at hcfg
    generalize p.config p.lzCluster = c at *
    obtain ⟨se, msb, lsb⟩ := c
    simp only at hse hcfg
    subst hse
    have hm : msb = 0 := by omega
    have hl : lsb = 0 := by omega
    subst hm; subst hl
    rfl
  rw [this]
  rfl

end Jxl.Entropy
