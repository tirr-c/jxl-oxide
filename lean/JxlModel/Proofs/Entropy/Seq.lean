import JxlModel.Model.Entropy.Decoder
import JxlModel.Model.Enc.EntropyEnc
import JxlModel.Proofs.Entropy.Reader
import JxlModel.Proofs.Entropy.Hybrid
import JxlModel.Proofs.Entropy.Prefix
import JxlModel.Proofs.Entropy.AnsStep
/-! The symbol layer: decoding pops the tokens that `encodeToksPrefix` / `encodeToksAns` wrote,
one at a time, for both coders. -/
namespace Jxl.Entropy
open Jxl.Enc

/-- a prefix code can encode `sym` -/
def PrefixSymOK (c : PrefixCode) (sym : Nat) : Prop :=
  c = .single sym ∨
  ∃ lens : List Nat, c = .table (sortedSyms lens) ∧ (∀ l ∈ lens, l ≤ 15) ∧ kraft lens ≤ 2 ^ 15 ∧
    lens.getD sym 0 ≠ 0

theorem prefix_pop (c : PrefixCode) (sym : Nat) (h : PrefixSymOK c sym) (rest : Bits) :
    c.read (c.encode sym ++ rest) = .ok (sym, rest) := by
  rcases h with rfl | ⟨lens, rfl, hle, hk, hu⟩
  · simp [PrefixCode.read, PrefixCode.encode]
  · exact (prefix_read_encode lens hle hk sym hu rest).1

theorem aliasInv_spec (h : AnsHist) (rev : Array (Array Nat)) (sym : Nat) (hs : AnsSymOK h sym)
    (k : Nat) (hk : k < symDist h sym) :
    h.lookup (aliasInv h rev sym k) = (sym, k, symDist h sym) ∧ aliasInv h rev sym k < 4096 := by
  obtain ⟨_, _, hex⟩ := hs
  obtain ⟨idx, hidx, hl⟩ := hex k hk
  unfold aliasInv
  simp only
  split
  · rename_i hc
    obtain ⟨hc1, hc2⟩ := hc
    simp only [decide_eq_true_eq] at hc2
    exact ⟨hc2, hc1⟩
  · cases hf : (List.range 4096).find? fun idx => decide (h.lookup idx = (sym, k, symDist h sym)) with
    | none => exact absurd hl (by simpa using List.find?_eq_none.1 hf idx (List.mem_range.2 hidx))
    | some j =>
      exact ⟨by simpa using List.find?_some hf, List.mem_range.1 (List.mem_of_find?_eq_some hf)⟩

def AnsToksOK (hs : List AnsHist) (ts : List Tok) : Prop :=
  ∀ t ∈ ts, AnsSymOK (hs.getD t.cluster default) t.sym

theorem ans_stream (hs : List AnsHist) (revs : List (Array (Array Nat))) (ts : List Tok)
    (hok : AnsToksOK hs ts) :
    (2 ^ 16 ≤ (encodeToksAns hs revs ts).1 ∧ (encodeToksAns hs revs ts).1 < 2 ^ 32) ∧
    ∀ t r, ts = t :: r → ∀ rest : Bits,
      (hs.getD t.cluster default).readSymbol (encodeToksAns hs revs ts).1
          ((encodeToksAns hs revs ts).2 ++ rest)
        = .ok ((t.sym, (encodeToksAns hs revs r).1),
               t.extra ++ ((encodeToksAns hs revs r).2 ++ rest)) := by
  induction ts with
  | nil => exact ⟨by simp [encodeToksAns, ansFinalState], fun _ _ h => nomatch h⟩
  | cons t r ih =>
    have ht := hok t (by simp)
    obtain ⟨hr1, hr2⟩ := (ih fun t' ht' => hok t' (by simp [ht'])).1
    have hne : symDist (hs.getD t.cluster default) t.sym ≠ 0 := by have := ht.1; omega
    have step := fun rest => ans_step_inv (hs.getD t.cluster default) t.sym _ _ ht.1 ht.2.1
      (aliasInv_spec _ (revs.getD t.cluster #[]) t.sym ht) (encodeToksAns hs revs r).1 hr1 hr2
      (t.extra ++ ((encodeToksAns hs revs r).2 ++ rest))
    simp only [encodeToksAns, hne, if_false, List.append_assoc]
    refine ⟨⟨(step []).1, (step []).2.1⟩, fun t' r' h rest => ?_⟩
    obtain ⟨rfl, rfl⟩ := List.cons.inj h
    exact (step rest).2.2

/-- start state and bits of a token list under plan `p` -/
def streamOf (p : EntropyPlan) (ts : List Tok) : Nat × Bits :=
  match p.coder with
  | .prefix => (0, encodeToksPrefix (p.codes.map CodeSpec.prefixCode) ts)
  | .ans la =>
    encodeToksAns (p.codes.map (CodeSpec.ansHist la))
      ((p.codes.map (CodeSpec.ansHist la)).map fun h => buildRev h (2 ^ la)) ts

theorem encodeToks_eq (p : EntropyPlan) (ts : List Tok) :
    encodeToks p ts = match p.coder with
      | .prefix => (streamOf p ts).2
      | .ans _ => toBits 32 (streamOf p ts).1 ++ (streamOf p ts).2 := by
  unfold encodeToks streamOf
  cases p.coder <;> rfl

def ToksOK (p : EntropyPlan) (ts : List Tok) : Prop :=
  match p.coder with
  | .prefix => ∀ t ∈ ts, PrefixSymOK ((p.codes.map CodeSpec.prefixCode).getD t.cluster default) t.sym
  | .ans la => AnsToksOK (p.codes.map (CodeSpec.ansHist la)) ts

theorem toksOK_iff {p : EntropyPlan} {ts : List Tok} : ToksOK p ts ↔ ∀ t ∈ ts, ToksOK p [t] := by
  unfold ToksOK AnsToksOK
  cases p.coder <;> simp

theorem ToksOK.tail {p : EntropyPlan} {t : Tok} {r : List Tok} (h : ToksOK p (t :: r)) : ToksOK p r :=
  toksOK_iff.2 fun t' ht' => toksOK_iff.1 h t' (List.mem_cons_of_mem _ ht')

theorem ToksOK.append {p : EntropyPlan} {a b : List Tok} (ha : ToksOK p a) (hb : ToksOK p b) :
    ToksOK p (a ++ b) :=
  toksOK_iff.2 fun t ht => (List.mem_append.1 ht).elim (toksOK_iff.1 ha t) (toksOK_iff.1 hb t)

/-- the decoder's ANS state is where the stream of `ts` starts (nothing to say for prefix codes) -/
def StateAt (p : EntropyPlan) (ts : List Tok) (st : DState) : Prop :=
  match p.coder with
  | .prefix => True
  | .ans _ => st.initial = false ∧ st.ansState = (streamOf p ts).1

theorem pop (p : EntropyPlan) (t : Tok) (r : List Tok) (hok : ToksOK p (t :: r)) (st : DState)
    (hst : StateAt p (t :: r) st) (rest : Bits) :
    ∃ x, (planDecoder p).readSymbol st t.cluster ((streamOf p (t :: r)).2 ++ rest)
        = .ok ((t.sym, { st with ansState := x }), t.extra ++ ((streamOf p r).2 ++ rest)) ∧
      StateAt p r { st with ansState := x } := by
  unfold ToksOK at hok
  unfold StateAt at hst ⊢
  unfold Decoder.readSymbol planDecoder planCode streamOf at *
  cases hc : p.coder with
  | «prefix» =>
    rw [hc] at hok
    simp only [hc] at hst ⊢
    refine ⟨st.ansState, ?_, trivial⟩
    simp only [encodeToksPrefix, List.append_assoc]
    rw [prefix_pop _ _ (hok t (by simp))]
  | ans la =>
    rw [hc] at hok
    simp only [hc] at hst ⊢
    obtain ⟨hi, hx⟩ := hst
    refine ⟨(encodeToksAns (p.codes.map (CodeSpec.ansHist la))
      ((p.codes.map (CodeSpec.ansHist la)).map fun h => buildRev h (2 ^ la)) r).1, ?_, ⟨hi, rfl⟩⟩
    simp only [hi, Bool.false_eq_true, if_false]
    rw [hx, (ans_stream _ _ _ hok).2 t r rfl rest]

end Jxl.Entropy
