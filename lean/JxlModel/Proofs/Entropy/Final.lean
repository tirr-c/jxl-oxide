import JxlModel.Proofs.Entropy.AnsHistAll
import JxlModel.Proofs.Entropy.PrefixHist
import JxlModel.Proofs.Entropy.HeaderNested
/-! From the encoder's Boolean `check` to the headline round trip: `checkD` gives what one header
level needs (`parseDecoder_level`), level by level along the nested cluster-map plans
(`parse_of_checkD`), and what the stream needs at any depth (`check_roundtrip`). -/
namespace Jxl.Entropy
open List Jxl.Enc

def ExactD : Nat → EntropyPlan → Prop
  | 0, p => p.configs.length = p.numClusters ∧ p.codes.length = p.numClusters
  | d+1, p => (p.configs.length = p.numClusters ∧ p.codes.length = p.numClusters) ∧
      (match p.clusterInner with | some (_, ip) => ExactD d ip | none => True)

theorem ExactD.lens {d : Nat} {p : EntropyPlan} (h : ExactD d p) :
    p.configs.length = p.numClusters ∧ p.codes.length = p.numClusters := by
  cases d with
  | zero => exact h
  | succ d => exact h.1

theorem noHole_of_distinct (cm : List Nat) (h : distinctCount cm = listMax cm + 1) :
    ∀ k, k < listMax cm + 1 → k ∈ cm := by
  apply (checkClusters_ok_iff cm).1
  unfold checkClusters
  simp only
  rw [if_neg (by simpa using h)]

theorem cm_single (cm : List Nat) (hl : cm.length = 1) (h : distinctCount cm = listMax cm + 1) :
    cm = [0] := by
  obtain ⟨x, rfl⟩ := List.length_eq_one_iff.1 hl
  have := noHole_of_distinct [x] h 0 (by omega)
  simp at this
  rw [← this]

theorem simple_of_check {depth : Nat} {p : EntropyPlan} {items : List Item} {Q : Prop}
    (F : CheckDFacts depth p items) (h : p.totalDist = 1 ∨ Q) :
    if p.totalDist = 1 then p.clusterMap = [0] else Q := by
  by_cases h1 : p.totalDist = 1
  · rw [if_pos h1]
    exact cm_single p.clusterMap (by rw [F.cmLen, h1]) F.distinct
  · rw [if_neg h1]
    exact h.resolve_left h1

theorem histRT_of_check {depth : Nat} {p : EntropyPlan} {items : List Item}
    (F : CheckDFacts depth p items) : HistRT (trimD 0 p) := by
  unfold HistRT
  rw [trimD_coder, trimD_codes]
  cases hc : p.coder with
  | «prefix» =>
    intro c hcm
    obtain ⟨tokens, hok⟩ := F.codes c hcm
    rw [hc] at hok
    cases c with
    | dist d form => simp [codeOk] at hok
    | auto a b => simp [codeOk] at hok
    | lengths count lens form =>
      have hrt := prefix_histogram_rt count lens form tokens hok
      simp only [codeOk, Bool.and_eq_true, decide_eq_true_eq] at hok
      exact ⟨count, lens, form, rfl, hok.1.1.1.1.2, hok.1.1.1.2, hrt⟩
  | ans la =>
    intro c hcm
    obtain ⟨tokens, hok⟩ := F.codes c hcm
    rw [hc] at hok
    cases c with
    | lengths count lens form => simp [codeOk] at hok
    | auto a b => simp [codeOk] at hok
    | dist d form => exact ⟨d, form, rfl, ans_histogram_rt la d form tokens hok⟩

/-- the first code's `codeOk` bounds `log_alphabet_size` -/
theorem la_of_check {depth : Nat} {p : EntropyPlan} {items : List Item}
    (F : CheckDFacts depth p items) :
    match p.coder with | .prefix => True | .ans la => 5 ≤ la ∧ la ≤ 8 := by
  cases hc : p.coder with
  | «prefix» => trivial
  | ans la =>
    have hnc : 0 < p.numClusters := Nat.succ_pos _
    obtain ⟨tokens, hok⟩ := F.codes _ (getD_mem_take hnc (Nat.lt_of_lt_of_le hnc F.ncode) default)
    rw [hc] at hok
    cases hc0 : p.codes.getD 0 default <;> rw [hc0] at hok
    case lengths count lens form => simp [codeOk] at hok
    case auto a b => simp [codeOk] at hok
    case dist d form =>
      simp only [codeOk, Bool.and_eq_true, decide_eq_true_eq] at hok
      exact ⟨hok.1.1.1.1, hok.1.1.1.2⟩

/-- The nested plan needs no trimming: its decoder is only asked to read its own stream back. -/
theorem parse_of_checkD (depth : Nat) :
    ∀ (fuel : Nat) (p : EntropyPlan) (allowLz : Bool) (items : List Item) (rest : Bits),
      depth < fuel → p.checkD depth items = true → (allowLz = false → p.lz77 = none) →
      parseDecoder fuel allowLz p.numDist (encodeHeaderD depth p ++ rest)
        = .ok (planDecoder (trimD 0 p), rest) := by
  induction depth using Nat.strong_induction_on with | _ depth ih => ?_
  intro fuel p allowLz items rest hf h hno
  obtain ⟨f, rfl⟩ : ∃ f, fuel = f + 1 := ⟨fuel - 1, by omega⟩
  have F := (checkD_facts depth p items h).1
  have hnh := noHole_of_distinct p.clusterMap F.distinct
  refine parseDecoder_level f depth p allowLz rest ⟨F.ncfg, F.ncode⟩ F.cfgs (la_of_check F) F.lz
    (histRT_of_check F) hno ?_
  have hin := F.inner
  rcases hci : p.clusterInner with _ | ⟨mtf, ip⟩ <;> rw [hci] at hin
  · exact readClusters_plain p f depth _ (Or.inl hci) F.cmLen hnh
      (simple_of_check F (by cases depth <;> exact hin))
  · by_cases h1 : p.totalDist = 1
    · exact readClusters_plain p f depth _ (Or.inr h1) F.cmLen hnh (simple_of_check F (Or.inl h1))
    · cases depth with
      | zero => exact hin.elim
      | succ d =>
        obtain ⟨hnd1, hlzin, hchk⟩ := hin
        have h256 : ∀ x ∈ p.clusterMap, x < 256 := fun x hx => by
          have := le_listMax p.clusterMap x hx
          have := F.nc256
          unfold EntropyPlan.numClusters at this
          omega
        exact readClusters_nested f d p ip mtf _ hci h1 F.cmLen h256 hnh hchk fun t =>
          hnd1 ▸ ih d (by omega) f ip _ _ t (by omega) hchk
            fun hdec => hlzin.resolve_left (by simpa using hdec)

theorem header_roundtrip_of_check (p : EntropyPlan) (items : List Item)
    (h : p.check items = true) (rest : Bits) :
    Decoder.parse p.numDist (encodeHeader p ++ rest)
      = .ok (planDecoder (trimD planDepth p), rest) :=
  parse_of_checkD planDepth parseFuel p true items rest (by decide) h (by simp)

theorem entropy_roundtrip_of_check (p : EntropyPlan) (mult : Nat) (items : List Item)
    (ctxs : List Nat) (rest : Bits) (hctx : CtxsFor items ctxs) (h : p.check items = true)
    (hlen : ∀ i ∈ items, match i with | .copy _ len _ => len < 2 ^ 32 | .lit _ _ => True) :
    ∃ st0 s0 st1,
      Decoder.parse p.numDist (encodeHeader p ++ encodeItems p items ++ rest)
        = .ok (planDecoder (trimD planDepth p), encodeItems p items ++ rest) ∧
      (planDecoder (trimD planDepth p)).begin {} (encodeItems p items ++ rest) = .ok (st0, s0) ∧
      (planDecoder (trimD planDepth p)).readSeq mult ctxs st0 s0
        = .ok ((expandItems mult items, st1), rest) ∧
      (planDecoder (trimD planDepth p)).finalize st1 = .ok () := by
  obtain ⟨st0, s0, st1, hs⟩ := stream_of_check p mult items ctxs rest hctx h hlen
  exact ⟨st0, s0, st1, List.append_assoc .. ▸ header_roundtrip_of_check p items h _, hs⟩

end Jxl.Entropy
