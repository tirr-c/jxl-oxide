import JxlModel.Model.Enc.EntropyEnc
import JxlModel.Proofs.Entropy.Prefix
/-! Second loop of `parse_complex` (`readLens`) over the code-length tokens the encoder writes
(`clTokens`). A token *denotes*, from a loop state with nothing pending, some copies of one length
and a next state (`tokVal`, `tokCnt`, `tokNext`); the loop reads a token list as what it denotes
(`reads_toks`, the one place where reader, code and Kraft budget meet). That the tokens of a run
list denote its expansion (`toks_runs`) is list arithmetic. -/
namespace Jxl.Entropy
open Jxl.Enc

/-- Kraft weight (scaled by 2^15) of one code length -/
def w15 (v : Nat) : Nat := if v = 0 then 0 else 2 ^ (15 - v)

theorem kraft_append (a b : List Nat) : kraft (a ++ b) = kraft a + kraft b := by
  induction a with
  | nil => simp [kraft]
  | cons x t ih => simp only [List.cons_append, kraft, ih, Nat.add_assoc]

theorem kraft_replicate (n v : Nat) : kraft (List.replicate n v) = n * w15 v := by
  induction n with
  | zero => simp [kraft]
  | succ n ih => rw [List.replicate_succ, kraft, ih, Nat.succ_mul, Nat.add_comm]; rfl

theorem kraft_pos (l : List Nat) (hne : l ≠ []) (hl : ∀ x ∈ l.getLast?, x ≠ 0) : 0 < kraft l := by
  have := hl _ (List.getLast?_eq_some_getLast hne)
  rw [← List.dropLast_concat_getLast hne, kraft_append, kraft, if_neg this]
  have : 0 < 2 ^ (15 - l.getLast hne) := Nat.pos_of_ne_zero (by simp)
  omega

/-- guarded continuation: the loop has already stopped if the space is used up and nothing is
pending -/
def lensK (clc : PrefixCode) (k : Nat) (st : ClState) (acc : List Nat) (s : Bits) :
    R (List Nat × ClState) :=
  if st.bitacc = 2 ^ 15 ∧ st.repeatCount = 0 then .ok ((acc, st), s) else readLens clc k st acc s

theorem lensK_run {clc : PrefixCode} {k : Nat} {st : ClState} {acc : List Nat} {s : Bits}
    (h : st.bitacc < 2 ^ 15 ∨ st.repeatCount ≠ 0) :
    lensK clc k st acc s = readLens clc k st acc s := by
  unfold lensK; rw [if_neg (by omega)]

/-- the `finish` step of `readLens` as a function -/
def lensFinish (clc : PrefixCode) (k : Nat) (acc : List Nat) (len : Nat) (st : ClState) (s : Bits) :
    R (List Nat × ClState) :=
  if len ≠ 0 then
    if st.bitacc + 2 ^ (15 - len) > 2 ^ 15 then .error .prefixSymbolTooLarge
    else if st.bitacc + 2 ^ (15 - len) = 2 ^ 15 ∧ st.repeatCount = 0 then
      .ok ((len :: acc, { st with bitacc := st.bitacc + 2 ^ (15 - len) }), s)
    else readLens clc k { st with bitacc := st.bitacc + 2 ^ (15 - len) } (len :: acc) s
  else readLens clc k st (len :: acc) s

theorem lensFinish_eq (clc : PrefixCode) (k : Nat) (acc : List Nat) (len : Nat) (st : ClState)
    (s : Bits) (hz : len = 0 → st.bitacc < 2 ^ 15 ∨ st.repeatCount ≠ 0)
    (hb : st.bitacc + w15 len ≤ 2 ^ 15) :
    lensFinish clc k acc len st s
      = lensK clc k { st with bitacc := st.bitacc + w15 len } (len :: acc) s := by
  unfold lensFinish w15 at *
  by_cases h0 : len = 0
  · -- a zero length leaves the space as it is: the loop goes on where it would have before
    rw [if_neg (not_not.2 h0), if_pos h0]
    exact (lensK_run (hz h0)).symm
  · rw [if_neg h0] at hb
    rw [if_pos h0, if_neg (by omega), if_neg h0]; rfl

theorem readLens_pending (clc : PrefixCode) (k : Nat) (st : ClState) (acc : List Nat) (s : Bits)
    (hc : st.repeatCount ≠ 0) :
    readLens clc (k + 1) st acc s
      = lensFinish clc k acc st.repeatSym { st with repeatCount := st.repeatCount - 1 } s := by
  have hc' : st.repeatCount > 0 := by omega
  rw [readLens]
  simp only [hc', if_true]
  rfl

/-- `finish len` and then `c` pending repeats of `len`, seen from the state `st'` they end in -/
theorem lensFinish_emit (clc : PrefixCode) (len : Nat) (s : Bits) (st' : ClState)
    (hc' : st'.repeatCount = 0) (hb' : st'.bitacc ≤ 2 ^ 15) :
    ∀ (c k b : Nat) (acc : List Nat), b + (c + 1) * w15 len = st'.bitacc →
    (c ≠ 0 → st'.repeatSym = len) → (len = 0 → b < 2 ^ 15) →
    lensFinish clc (c + k) acc len { st' with bitacc := b, repeatCount := c } s
      = lensK clc k st' (List.replicate (c + 1) len ++ acc) s := by
  intro c
  induction c with
  | zero =>
    intro k b acc hb _ hz
    rw [Nat.zero_add, Nat.one_mul] at hb
    rw [Nat.zero_add, lensFinish_eq clc k acc len _ s (fun h => Or.inl (hz h)) (by simp only; omega)]
    obtain ⟨b', p, ln, lr, rc, rs⟩ := st'
    simp only at hc' hb
    subst hc' hb
    rfl
  | succ c ih =>
    intro k b acc hb hrs hz
    obtain rfl := hrs (by omega)
    rw [Nat.succ_mul] at hb
    rw [show c + 1 + k = c + k + 1 by omega,
      lensFinish_eq clc _ acc _ _ s (fun _ => Or.inr (by simp)) (by simp only; omega),
      lensK_run (Or.inr (by simp)), readLens_pending clc _ _ _ s (by simp)]
    simp only [Nat.add_sub_cancel]
    rw [ih k (b + w15 st'.repeatSym) (st'.repeatSym :: acc) (by omega) (fun _ => rfl)
      (fun h => by rw [h]; exact hz h),
      List.replicate_succ' (n := c + 1), List.append_assoc]; rfl

/-- The two repeat codes, with the number of their extra bits and the base of their chained
counts: 16 repeats the last non-zero length (2 bits, base 4), 17 repeats zero (3 bits, base 8). -/
def IsRep (c nb b : Nat) : Prop := (c = 16 ∧ nb = 2 ∧ b = 4) ∨ (c = 17 ∧ nb = 3 ∧ b = 8)

def repVal (c : Nat) (st : ClState) : Nat := if c = 16 then st.lastNonzero else 0

/-- how many lengths a code-`c` token with extra value `x` emits: `x + 3` at the start of a chain;
directly after another code-`c` token the chain's total `T` becomes `b (T - 2) + x + 3` -/
def repCount (c b : Nat) (st : ClState) (x : Nat) : Nat :=
  if st.prevSym = c then x + 3 + (st.lastRepeat * (b - 1) - 2 * b) else x + 3

def repState (c b : Nat) (st : ClState) (x : Nat) : ClState :=
  ⟨st.bitacc + repCount c b st x * w15 (repVal c st), c, st.lastNonzero,
    if st.prevSym = c then st.lastRepeat + repCount c b st x else repCount c b st x, 0,
    repVal c st⟩

theorem IsRep.pow {c nb b : Nat} (h : IsRep c nb b) : b = 2 ^ nb := by
  rcases h with ⟨_, rfl, rfl⟩ | ⟨_, rfl, rfl⟩ <;> rfl

theorem IsRep.not_le {c nb b : Nat} (h : IsRep c nb b) : ¬ c ≤ 15 := by
  rcases h with ⟨rfl, _⟩ | ⟨rfl, _⟩ <;> omega

/-- a code-length token `(symbol, extra bit count, extra value)` -/
abbrev ClTok := Nat × Nat × Nat

def TokRead (clc : PrefixCode) (sym : Nat) : Prop :=
  ∀ rest, clc.read (clc.encode sym ++ rest) = .ok (sym, rest)

def tokBits (clc : PrefixCode) (t : ClTok) : Bits := clc.encode t.1 ++ toBits t.2.1 t.2.2

def tokVal (st : ClState) (t : ClTok) : Nat := if t.1 ≤ 15 then t.1 else repVal t.1 st

def tokCnt (st : ClState) (t : ClTok) : Nat :=
  if t.1 ≤ 15 then 1 else repCount t.1 (2 ^ t.2.1) st t.2.2

def tokOut (st : ClState) (t : ClTok) : List Nat := List.replicate (tokCnt st t) (tokVal st t)

/-- loop state after a token and the repeats it starts -/
def tokNext (st : ClState) (t : ClTok) : ClState :=
  if t.1 ≤ 15 then
    ⟨st.bitacc + w15 t.1, t.1, if t.1 = 0 then st.lastNonzero else t.1, st.lastRepeat, 0, st.repeatSym⟩
  else repState t.1 (2 ^ t.2.1) st t.2.2

def toksOut : ClState → List ClTok → List Nat
  | _, [] => []
  | st, t :: r => tokOut st t ++ toksOut (tokNext st t) r

def toksNext : ClState → List ClTok → ClState
  | st, [] => st
  | st, t :: r => toksNext (tokNext st t) r

/-- a literal length without extra bits, or a repeat code with a digit below its base -/
def TokOK (t : ClTok) : Prop := (t.1 ≤ 15 ∧ t.2 = (0, 0)) ∨ ∃ b, IsRep t.1 t.2.1 b ∧ t.2.2 < b

theorem tokOut_rep {c nb b : Nat} (h : IsRep c nb b) (st : ClState) (x : Nat) :
    tokOut st (c, nb, x) = List.replicate (repCount c b st x) (repVal c st) ∧
    tokNext st (c, nb, x) = repState c b st x := by
  constructor <;> simp only [tokOut, tokCnt, tokVal, tokNext, if_neg h.not_le, h.pow]

theorem tokNext_spec (st : ClState) (t : ClTok) :
    (tokNext st t).bitacc = st.bitacc + tokCnt st t * w15 (tokVal st t) ∧
    (tokNext st t).repeatCount = 0 ∧ (tokCnt st t ≠ 1 → (tokNext st t).repeatSym = tokVal st t) ∧
    1 ≤ tokCnt st t := by
  unfold tokNext tokCnt tokVal repCount
  split
  · exact ⟨by rw [Nat.one_mul], rfl, fun h => absurd rfl h, Nat.le_refl 1⟩
  · exact ⟨rfl, rfl, fun _ => rfl, by split <;> omega⟩

/-- the loop hands `finish` the first of the token's lengths, the others pending -/
theorem readLens_tok (clc : PrefixCode) (k : Nat) (st : ClState) (acc : List Nat) (rest : Bits)
    (t : ClTok) (ht : TokOK t) (hr : TokRead clc t.1) (hc : st.repeatCount = 0) :
    readLens clc (k + 1) st acc (tokBits clc t ++ rest)
      = lensFinish clc k acc (tokVal st t)
          { tokNext st t with bitacc := st.bitacc, repeatCount := tokCnt st t - 1 } rest := by
  obtain ⟨c, nb, x⟩ := t
  obtain ⟨ba, p, ln, lr, rc, rs⟩ := st
  cases hc
  rw [readLens]
  simp only [tokBits, List.append_assoc, hr _, Nat.lt_irrefl, if_false, lensFinish]
  rcases ht with ⟨hv, he⟩ | ⟨b, h, hx⟩
  · cases he
    simp only [tokVal, tokCnt, tokNext, if_pos hv, toBits, List.nil_append]
    by_cases h0 : c = 0
    · subst h0; rfl
    · simp only [h0, if_false]
  · simp only [tokVal, tokCnt, tokNext, if_neg h.not_le, ← h.pow]
    have hx' := rbits_toBits nb x rest (h.pow ▸ hx)
    rcases h with ⟨rfl, rfl, rfl⟩ | ⟨rfl, rfl, rfl⟩
    · simp only [Nat.reduceEqDiff, if_false, if_true, hx', repVal, repCount, repState]
      by_cases hp : p = 16 <;> simp only [hp, if_true, if_false]
    · simp only [Nat.reduceEqDiff, if_false, hx', repVal, repCount, repState]
      by_cases hp : p = 17 <;> simp only [hp, if_true, if_false]

theorem lensK_tok (clc : PrefixCode) (st : ClState) (t : ClTok) (ht : TokOK t)
    (hr : TokRead clc t.1) (hc : st.repeatCount = 0) (hlt : st.bitacc < 2 ^ 15)
    (hb : st.bitacc + kraft (tokOut st t) ≤ 2 ^ 15) (k : Nat) (acc : List Nat) (rest : Bits) :
    lensK clc (tokCnt st t + k) st acc (tokBits clc t ++ rest)
      = lensK clc k (tokNext st t) (tokOut st t ++ acc) rest := by
  obtain ⟨e1, e2, e3, e4⟩ := tokNext_spec st t
  rw [tokOut, kraft_replicate, ← e1] at hb
  obtain ⟨n, hn⟩ : ∃ n, tokCnt st t = n + 1 := ⟨_, (Nat.sub_add_cancel e4).symm⟩
  rw [lensK_run (Or.inl hlt), tokOut, hn, show n + 1 + k = n + k + 1 by omega,
    readLens_tok clc _ st acc rest t ht hr hc, hn, Nat.add_sub_cancel]
  exact lensFinish_emit clc _ rest _ e2 hb n k _ acc (by rw [e1, hn]) (fun h => e3 (by omega))
    (fun _ => hlt)

theorem reads_toks (clc : PrefixCode) (rest : Bits) :
    ∀ (toks : List ClTok) (st : ClState) (k : Nat) (acc : List Nat),
    (∀ t ∈ toks, TokOK t ∧ TokRead clc t.1) → st.repeatCount = 0 →
    st.bitacc + kraft (toksOut st toks) ≤ 2 ^ 15 → (∀ x ∈ (toksOut st toks).getLast?, x ≠ 0) →
    lensK clc ((toksOut st toks).length + k) st acc (toks.flatMap (tokBits clc) ++ rest)
      = lensK clc k (toksNext st toks) ((toksOut st toks).reverse ++ acc) rest ∧
    (toksNext st toks).repeatCount = 0 ∧
    (toksNext st toks).bitacc = st.bitacc + kraft (toksOut st toks) := by
  intro toks
  induction toks with
  | nil => intro st k acc _ hc _ _; exact ⟨by simp [toksOut, toksNext], hc, rfl⟩
  | cons t r ih =>
    intro st k acc hok hc hb hl
    obtain ⟨htok, hrest⟩ := List.forall_mem_cons.1 hok
    obtain ⟨e1, e2, _, e4⟩ := tokNext_spec st t
    simp only [toksOut, kraft_append] at hb hl
    -- the lengths emitted do not end in a zero, so the space is not used up before the last token
    have hpos := kraft_pos _ (by simp [tokOut, Nat.ne_of_gt e4]) hl
    rw [kraft_append] at hpos
    rw [← kraft_replicate, ← tokOut] at e1
    obtain ⟨h1, h2, h3⟩ := ih (tokNext st t) k (tokOut st t ++ acc) hrest e2 (by omega)
      (fun x hx => hl x (by rw [List.getLast?_append, Option.mem_def.1 hx]; rfl))
    refine ⟨?_, h2, by rw [toksNext, h3, e1, toksOut, kraft_append, Nat.add_assoc]⟩
    rw [toksOut, List.length_append, tokOut, List.length_replicate, Nat.add_assoc,
      List.flatMap_cons, List.append_assoc, lensK_tok clc st t htok.1 htok.2 hc (by omega) (by omega),
      h1, toksNext, List.reverse_append, List.append_assoc, tokOut, List.reverse_replicate]

theorem repVal_repState (c b : Nat) (st : ClState) (x : Nat) :
    repVal c (repState c b st x) = repVal c st := rfl

/-- a chain of `x + 3` repeats continued by the extra value `d` has `b (x + 1) + d + 3` -/
theorem IsRep.chain {c nb b : Nat} (h : IsRep c nb b) (x d : Nat) :
    x + 3 + (d + 3 + ((x + 3) * (b - 1) - 2 * b)) = b * (x + 1) + d + 3 := by
  rcases h with ⟨_, _, rfl⟩ | ⟨_, _, rfl⟩ <;> omega

theorem toks_append (a b : List ClTok) : ∀ st,
    toksOut st (a ++ b) = toksOut st a ++ toksOut (toksNext st a) b ∧
    toksNext st (a ++ b) = toksNext (toksNext st a) b := by
  induction a with
  | nil => intro st; exact ⟨rfl, rfl⟩
  | cons t r ih =>
    intro st
    simp only [List.cons_append, toksOut, toksNext, ih, List.append_assoc, and_self]

theorem toks_merge {c nb b : Nat} (h : IsRep c nb b) (st : ClState) (hp : st.prevSym ≠ c)
    (x d : Nat) (r : List ClTok) :
    toksOut st ((c, nb, x) :: (c, nb, d) :: r) = toksOut st ((c, nb, b * (x + 1) + d) :: r) ∧
    toksNext st ((c, nb, x) :: (c, nb, d) :: r) = toksNext st ((c, nb, b * (x + 1) + d) :: r) := by
  have hn : repState c b (repState c b st x) d = repState c b st (b * (x + 1) + d) := by
    simp only [repState, repCount, repVal, if_neg hp, if_true, Nat.add_assoc st.bitacc,
      ← Nat.add_mul, h.chain]
  simp only [toksOut, toksNext, tokOut_rep h, hn, ← List.append_assoc, repVal_repState,
    List.replicate_append_replicate, and_true]
  simp only [repState, repCount, if_neg hp, if_true, h.chain]

theorem toks_chainDigits {c nb b : Nat} (h : IsRep c nb b) (st : ClState) (hp : st.prevSym ≠ c) :
    ∀ (fuel R : Nat) (acc : List Nat), R + 1 < b ^ fuel →
    toksOut st ((chainDigits b fuel R acc).map fun d => (c, nb, d))
      = toksOut st ((c, nb, R) :: acc.map fun d => (c, nb, d)) ∧
    toksNext st ((chainDigits b fuel R acc).map fun d => (c, nb, d))
      = toksNext st ((c, nb, R) :: acc.map fun d => (c, nb, d)) ∧
    ((∀ d ∈ acc, d < b) → ∀ d ∈ chainDigits b fuel R acc, d < b) := by
  have hb : 0 < b := by rcases h with ⟨_, _, rfl⟩ | ⟨_, _, rfl⟩ <;> omega
  intro fuel
  induction fuel with
  | zero => intro R acc hlt; rw [Nat.pow_zero] at hlt; omega
  | succ fuel ih =>
    intro R acc hlt
    simp only [chainDigits]
    split
    · rename_i h0
      have hR := Nat.lt_of_div_eq_zero hb h0
      rw [Nat.mod_eq_of_lt hR]
      exact ⟨rfl, rfl, fun ha => List.forall_mem_cons.2 ⟨hR, ha⟩⟩
    · rename_i h0
      have hq : R / b - 1 + 1 = R / b := Nat.sub_add_cancel (Nat.pos_of_ne_zero h0)
      obtain ⟨i1, i2, i3⟩ := ih (R / b - 1) (R % b :: acc) (by
        rw [hq, Nat.div_lt_iff_lt_mul hb, ← Nat.pow_succ]; exact Nat.lt_of_succ_lt hlt)
      -- every round of `chainDigits` undoes one merge
      have := toks_merge h st hp (R / b - 1) (R % b) (acc.map fun d => (c, nb, d))
      rw [hq, Nat.div_add_mod] at this
      exact ⟨i1.trans this.1, i2.trans this.2,
        fun ha => i3 (List.forall_mem_cons.2 ⟨Nat.mod_lt _ hb, ha⟩)⟩

theorem toks_repRun {c nb b : Nat} (h : IsRep c nb b) (R : Nat) (hR : R ≤ 2 ^ 15) (st : ClState)
    (hp : st.prevSym ≠ c) :
    toksOut st ((chainDigits b 32 R []).map fun d => (c, nb, d))
      = List.replicate (R + 3) (repVal c st) ∧
    (toksNext st ((chainDigits b 32 R []).map fun d => (c, nb, d))).prevSym = c ∧
    ∀ t ∈ (chainDigits b 32 R []).map fun d => (c, nb, d), TokOK t := by
  obtain ⟨i1, i2, i3⟩ := toks_chainDigits h st hp 32 R []
    (by rcases h with ⟨_, _, rfl⟩ | ⟨_, _, rfl⟩ <;> omega)
  refine ⟨?_, ?_, fun t ht => ?_⟩
  · rw [i1]; simp only [List.map_nil, toksOut, tokOut_rep h, repCount, if_neg hp, List.append_nil]
  · rw [i2]; simp only [List.map_nil, toksNext, tokOut_rep h, repState]
  · obtain ⟨d, hd, rfl⟩ := List.mem_map.1 ht
    exact Or.inr ⟨b, h, i3 (fun _ h => absurd h List.not_mem_nil) d hd⟩

theorem toks_lits (v : Nat) (hv : v ≤ 15) : ∀ (n : Nat) (st : ClState),
    toksOut st (List.replicate n (v, 0, 0)) = List.replicate n v ∧
    (1 ≤ n → (toksNext st (List.replicate n (v, 0, 0))).prevSym = v) := by
  intro n
  induction n with
  | zero => intro st; exact ⟨rfl, fun h => by omega⟩
  | succ n ih =>
    intro st
    obtain ⟨i1, i2⟩ := ih (tokNext st (v, 0, 0))
    refine ⟨by simp only [List.replicate_succ, toksOut, i1, tokOut, tokCnt, tokVal, if_pos hv]; rfl, fun _ => ?_⟩
    rw [List.replicate_succ, toksNext]
    rcases Nat.eq_zero_or_pos n with rfl | hn
    · simp only [List.replicate_zero, toksNext, tokNext, if_pos hv]
    · exact i2 hn

/-- A repeat code directly after one of the same kind continues its chain, so a zero run must not
start after code 17 (`hp`): neighbouring runs differ, hence a zero run never follows one, which is
what the second conjunct hands on. Code 16 needs no such care: its chain starts after the literal
`v ≤ 15`. -/
theorem toks_run (rle : Bool) (v n : Nat) (st : ClState) (hn : 1 ≤ n) (hn15 : n ≤ 2 ^ 15)
    (hv : v ≤ 15) (hp : st.prevSym = 17 → v ≠ 0) :
    toksOut st (runTokens rle v n) = List.replicate n v ∧
    ((toksNext st (runTokens rle v n)).prevSym = 17 → v = 0) ∧
    ∀ t ∈ runTokens rle v n, TokOK t := by
  have hlit : ∀ t ∈ List.replicate n (v, 0, 0), TokOK t := fun t ht =>
    Or.inl (by rw [(List.mem_replicate.1 ht).2]; exact ⟨hv, rfl⟩)
  unfold runTokens
  by_cases h0 : v = 0
  · subst h0
    rw [if_pos rfl]
    split
    · rename_i hrle
      obtain ⟨i1, _, i3⟩ := toks_repRun (Or.inr ⟨rfl, rfl, rfl⟩) (n - 3) (by omega) st
        (fun h => hp h rfl)
      rw [show n - 3 + 3 = n by omega] at i1
      exact ⟨i1, fun _ => rfl, i3⟩
    · exact ⟨(toks_lits 0 hv n st).1, fun _ => rfl, hlit⟩
  · rw [if_neg h0]
    split
    · rename_i hrle
      obtain ⟨i1, i2, i3⟩ := toks_repRun (Or.inl ⟨rfl, rfl, rfl⟩) (n - 4) (by omega)
        (tokNext st (v, 0, 0)) (by simp only [tokNext, if_pos hv]; omega)
      refine ⟨?_, fun h => ?_, List.forall_mem_cons.2 ⟨Or.inl ⟨hv, rfl⟩, i3⟩⟩
      · rw [toksOut, i1]
        simp only [tokOut, tokCnt, tokVal, tokNext, if_pos hv, if_neg h0, repVal, if_true,
          List.replicate_one, List.singleton_append]
        rw [← List.replicate_succ, show n - 4 + 3 + 1 = n by omega]
      · rw [toksNext, i2] at h; omega
    · exact ⟨(toks_lits v hv n st).1, fun h => by have := (toks_lits v hv n st).2 hn; omega, hlit⟩

def runsExpand : List (Nat × Nat) → List Nat
  | [] => []
  | r :: rs => List.replicate r.2 r.1 ++ runsExpand rs

def RunsWF : Option Nat → List (Nat × Nat) → Prop
  | _, [] => True
  | prev, r :: rs => 1 ≤ r.2 ∧ prev ≠ some r.1 ∧ RunsWF (some r.1) rs

/-- `prev`: the value of the run before, which is zero if that run ended in code 17 -/
theorem toks_runs (rle : Bool) : ∀ (rs : List (Nat × Nat)) (prev : Option Nat) (st : ClState),
    RunsWF prev rs → (∀ x ∈ runsExpand rs, x ≤ 15) → (runsExpand rs).length ≤ 2 ^ 15 →
    (st.prevSym = 17 → prev = some 0) →
    toksOut st (rs.flatMap fun r => runTokens rle r.1 r.2) = runsExpand rs ∧
    ∀ t ∈ rs.flatMap fun r => runTokens rle r.1 r.2, TokOK t := by
  intro rs
  induction rs with
  | nil => intro _ _ _ _ _ _; exact ⟨rfl, fun _ h => by simp at h⟩
  | cons r rs ih =>
    intro prev st hwf h15 hk hp
    obtain ⟨hn, hprev, hwf'⟩ := hwf
    simp only [runsExpand, List.length_append, List.length_replicate, List.forall_mem_append] at hk h15
    obtain ⟨e1, e2, e3⟩ := toks_run rle r.1 r.2 st hn (by omega)
      (h15.1 _ (List.mem_replicate.2 ⟨by omega, rfl⟩))
      (fun h h0 => by rw [hp h, h0] at hprev; exact hprev rfl)
    obtain ⟨f1, f2⟩ := ih (some r.1) (toksNext st (runTokens rle r.1 r.2)) hwf' h15.2 (by omega)
      (fun h => by rw [e2 h])
    rw [List.flatMap_cons, (toks_append _ _ st).1, e1, f1]
    exact ⟨rfl, List.forall_mem_append.2 ⟨e3, f2⟩⟩

end Jxl.Entropy
