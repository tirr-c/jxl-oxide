import JxlModel.Model.Enc.Huffman
import JxlModel.Proofs.Util
/-! The encoder's `huffLengths` returns a complete, length-limited code (`huffLengths_spec`). In the
general branch `lengthenPass` keeps `k` equal to the Kraft sum and ends with `k ≤ 2 ^ maxLen`; one
`shortenPass` keeps `k + d = 2 ^ maxLen` and leaves every symbol with `l = 1 ∨ d < 2 ^ (maxLen - l)`;
`d` is a multiple of `2 ^ (maxLen - lmax)`, hence `d = 0` (`shorten_done`), so `shortenLoop` stops
after the first pass; the final `set!` fold writes every used index exactly once (`writeOut_spec`). -/
namespace Jxl.Enc

/-- Kraft weight of a code length in units of `2 ^ -m`; length 0 marks an unused symbol -/
def kw (m l : Nat) : Nat := if l = 0 then 0 else 2 ^ (m - l)

def kraftN (m : Nat) (ls : List Nat) : Nat := (ls.map (kw m)).sum

/-- Kraft sum of a symbol list (no zero-length special case) -/
def ksum (m : Nat) (hs : List HSym) : Nat := (hs.map fun h => 2 ^ (m - h.l)).sum

theorem ksum_cons (m : Nat) (h : HSym) (r : List HSym) :
    ksum m (h :: r) = 2 ^ (m - h.l) + ksum m r := rfl

theorem hKraft_eq_ksum (m : Nat) (l : List HSym) : hKraft m l = ksum m l := by
  rw [ksum, List.sum_eq_foldl_nat, List.foldl_map]; rfl

def InR (m : Nat) (hs : List HSym) : Prop := ∀ h ∈ hs, 1 ≤ h.l ∧ h.l ≤ m

theorem pow_half (m l : Nat) (h : l < m) : 2 ^ (m - l) = 2 * 2 ^ (m - l - 1) := by
  have : m - l = (m - l - 1) + 1 := by omega
  rw [this, Nat.pow_succ]; simp; omega

theorem lengthen_go_spec (m : Nat) (fuel l k : Nat) (hl : l ≤ m) (hk : 2 ^ (m - l) ≤ k) {l' k' : Nat}
    (h : lengthenPass.go m fuel l k = (l', k')) :
    l ≤ l' ∧ l' ≤ m ∧ k' + 2 ^ (m - l) = k + 2 ^ (m - l') ∧ (m - l ≤ fuel → k' ≤ 2 ^ m ∨ l' = m) := by
  induction fuel generalizing l k with
  | zero =>
    cases h
    exact ⟨Nat.le_refl _, hl, rfl, fun h => Or.inr (by omega)⟩
  | succ fuel ih =>
    rw [lengthenPass.go.eq_2] at h
    split at h
    · rename_i hc
      have h2 := pow_half m l hc.2
      obtain ⟨a, b, c, d⟩ := ih (l + 1) (k - 2 ^ (m - l - 1)) (by omega)
        (by rw [show m - (l + 1) = m - l - 1 by omega]; omega) h
      rw [show m - (l + 1) = m - l - 1 by omega] at c
      exact ⟨by omega, b, by omega, fun h => d (by omega)⟩
    · cases h
      exact ⟨Nat.le_refl _, hl, rfl, fun h => by omega⟩

theorem lengthenPass_spec (m : Nat) (hs : List HSym) (k : Nat) (hr : InR m hs) (hk : ksum m hs ≤ k)
    {hs' : List HSym} {k' : Nat} (h : lengthenPass m hs k = (hs', k')) :
    hs'.map (·.sym) = hs.map (·.sym) ∧ InR m hs' ∧ k' + ksum m hs = k + ksum m hs' ∧ k' ≤ k ∧
    (k' ≤ 2 ^ m ∨ ∀ h ∈ hs', h.l = m) := by
  induction hs generalizing k hs' k' with
  | nil => cases h; simp [InR, ksum]
  | cons a r ih =>
    rw [lengthenPass.eq_2] at h
    obtain ⟨ha, hrr⟩ := List.forall_mem_cons.1 hr
    simp only [ksum_cons] at hk
    rcases hgo : lengthenPass.go m m a.l k with ⟨l1, k1⟩
    obtain ⟨g1, g2, g3, g4⟩ := lengthen_go_spec m m a.l k ha.2 (by omega) hgo
    have hpos : 0 < 2 ^ (m - l1) := Nat.pos_of_ne_zero (by simp)
    rcases hrec : lengthenPass m r k1 with ⟨r', k2⟩
    obtain ⟨i1, i2, i3, i4, i5⟩ := ih k1 hrr (by omega) hrec
    simp only [hgo, hrec] at h
    cases h
    have : 2 ^ (m - l1) ≤ 2 ^ (m - a.l) := Nat.pow_le_pow_right (by omega) (by omega)
    refine ⟨by simp [i1], List.forall_mem_cons.2 ⟨⟨by simp only; omega, g2⟩, i2⟩,
      by simp only [ksum_cons]; omega, by omega, ?_⟩
    rcases g4 (by omega) with g | g
    · left; omega
    · exact i5.imp id fun i => List.forall_mem_cons.2 ⟨g, i⟩

theorem shorten_go_spec (m : Nat) (fuel l d : Nat) (hl1 : 1 ≤ l) (hl : l ≤ m) {l' d' : Nat}
    (h : shortenPass.go m fuel l d = (l', d')) :
    1 ≤ l' ∧ l' ≤ l ∧ d' + 2 ^ (m - l') = d + 2 ^ (m - l) ∧
    (l - 1 ≤ fuel → l' = 1 ∨ d' < 2 ^ (m - l')) := by
  induction fuel generalizing l d with
  | zero =>
    cases h
    exact ⟨hl1, Nat.le_refl _, rfl, fun h => Or.inl (by omega)⟩
  | succ fuel ih =>
    rw [shortenPass.go.eq_2] at h
    split at h
    · rename_i hc
      have h2 := pow_half m (l - 1) (by omega)
      rw [show m - (l - 1) - 1 = m - l by omega] at h2
      obtain ⟨a, b, c, e⟩ := ih (l - 1) (d - 2 ^ (m - l)) (by omega) (by omega) h
      exact ⟨a, by omega, by omega, fun h => e (by omega)⟩
    · cases h
      exact ⟨hl1, Nat.le_refl _, rfl, fun h => by omega⟩

theorem shortenPass_spec (m : Nat) (hs : List HSym) (d : Nat) (hr : InR m hs)
    {hs' : List HSym} {d' : Nat} (h : shortenPass m hs d = (hs', d')) :
    hs'.map (·.sym) = hs.map (·.sym) ∧ InR m hs' ∧ d' + ksum m hs' = d + ksum m hs ∧ d' ≤ d ∧
    (∀ h ∈ hs', h.l = 1 ∨ d' < 2 ^ (m - h.l)) := by
  induction hs generalizing d hs' d' with
  | nil => cases h; simp [InR, ksum]
  | cons a r ih =>
    rw [shortenPass.eq_2] at h
    obtain ⟨ha, hrr⟩ := List.forall_mem_cons.1 hr
    rcases hgo : shortenPass.go m m a.l d with ⟨l1, d1⟩
    obtain ⟨g1, g2, g3, g4⟩ := shorten_go_spec m m a.l d ha.1 ha.2 hgo
    rcases hrec : shortenPass m r d1 with ⟨r', d2⟩
    obtain ⟨i1, i2, i3, i4, i5⟩ := ih d1 hrr hrec
    simp only [hgo, hrec] at h
    cases h
    have hle : 2 ^ (m - a.l) ≤ 2 ^ (m - l1) := Nat.pow_le_pow_right (by omega) (by omega)
    refine ⟨by simp [i1], List.forall_mem_cons.2 ⟨⟨g1, by simp only; omega⟩, i2⟩,
      by simp only [ksum_cons]; omega, by omega, List.forall_mem_cons.2 ⟨?_, i5⟩⟩
    exact (g4 (by omega)).imp id fun g => by simp only; omega

theorem exists_max_l (hs : List HSym) (hne : hs ≠ []) : ∃ h ∈ hs, ∀ x ∈ hs, x.l ≤ h.l := by
  induction hs with
  | nil => exact absurd rfl hne
  | cons a r ih =>
    by_cases hr : r = []
    · subst hr; exact ⟨a, List.mem_cons_self .., fun x hx => by simp at hx; subst hx; exact Nat.le_refl _⟩
    · obtain ⟨b, hb, hmax⟩ := ih hr
      by_cases hab : b.l ≤ a.l
      · exact ⟨a, List.mem_cons_self .., List.forall_mem_cons.2
          ⟨Nat.le_refl _, fun x hx => Nat.le_trans (hmax x hx) hab⟩⟩
      · exact ⟨b, List.mem_cons_of_mem _ hb, List.forall_mem_cons.2 ⟨by omega, hmax⟩⟩

theorem ksum_dvd (m L : Nat) (hs : List HSym) (hL : ∀ h ∈ hs, h.l ≤ L) : 2 ^ (m - L) ∣ ksum m hs := by
  induction hs with
  | nil => simp [ksum]
  | cons a r ih =>
    simp only [ksum_cons]
    obtain ⟨ha, hr⟩ := List.forall_mem_cons.1 hL
    exact Nat.dvd_add (Nat.pow_dvd_pow 2 (by omega)) (ih hr)

theorem ksum_all (m c : Nat) (hs : List HSym) (h1 : ∀ h ∈ hs, h.l = c) :
    ksum m hs = hs.length * 2 ^ (m - c) := by
  rw [ksum, List.map_congr_left fun h hh => by rw [h1 h hh], List.map_const', List.sum_replicate_nat]

theorem shorten_done (m : Nat) (hs : List HSym) (d : Nat) (hm : 1 ≤ m) (hr : InR m hs)
    (hlen : 2 ≤ hs.length) (hsum : d + ksum m hs = 2 ^ m)
    (hstop : ∀ h ∈ hs, h.l = 1 ∨ d < 2 ^ (m - h.l)) : d = 0 := by
  have hne : hs ≠ [] := by intro h; subst h; simp at hlen
  obtain ⟨b, hb, hmax⟩ := exists_max_l hs hne
  have hd1 : 2 ^ (m - b.l) ∣ ksum m hs := ksum_dvd m b.l hs hmax
  have hd2 : 2 ^ (m - b.l) ∣ 2 ^ m := Nat.pow_dvd_pow 2 (by omega)
  have hd3 : 2 ^ (m - b.l) ∣ d := by
    have : d = 2 ^ m - ksum m hs := by omega
    rw [this]; exact Nat.dvd_sub hd2 hd1
  refine Decidable.byContradiction fun hd0 => ?_
  have hge : 2 ^ (m - b.l) ≤ d := Nat.le_of_dvd (by omega) hd3
  have hb1 : b.l = 1 := (hstop b hb).resolve_right (Nat.not_lt.2 hge)
  have hall : ∀ h ∈ hs, h.l = 1 := fun h hh => by
    have := hmax h hh; have := (hr h hh).1; omega
  have hk := ksum_all m 1 hs hall
  have h2 := pow_half m 0 (by omega)
  simp only [Nat.sub_zero] at h2
  have : 2 * 2 ^ (m - 1) ≤ hs.length * 2 ^ (m - 1) := Nat.mul_le_mul_right _ hlen
  omega

theorem shortenLoop_spec (m fuel : Nat) (hs : List HSym) (d : Nat) (hm : 1 ≤ m) (hr : InR m hs)
    (hlen : 2 ≤ hs.length) (hsum : d + ksum m hs = 2 ^ m) :
    (shortenLoop m (fuel + 1) hs d).map (·.sym) = hs.map (·.sym) ∧
    InR m (shortenLoop m (fuel + 1) hs d) ∧
    ksum m (shortenLoop m (fuel + 1) hs d) = 2 ^ m := by
  rw [shortenLoop.eq_2]
  split
  · rename_i h0; subst h0; exact ⟨rfl, hr, by omega⟩
  · rcases hq : shortenPass m hs d with ⟨hs', d'⟩
    obtain ⟨i1, i2, i3, i4, i5⟩ := shortenPass_spec m hs d hr hq
    simp only
    have hlen' : 2 ≤ hs'.length := by
      have := congrArg List.length i1; simp at this; omega
    have hd' : d' = 0 := shorten_done m hs' d' hm i2 hlen' (by omega) i5
    subst hd'
    have hres : (if 0 = d then hs' else shortenLoop m fuel hs' 0) = hs' := by
      split
      · rfl
      · cases fuel with
        | zero => rw [shortenLoop.eq_1]
        | succ f => rw [shortenLoop.eq_2]; simp
    rw [hres]
    exact ⟨i1, i2, by omega⟩

theorem kraftN_replicate (m n : Nat) : kraftN m (List.replicate n 0) = 0 := by
  simp [kraftN, kw]

theorem kraftN_set (m : Nat) (l : List Nat) (i v : Nat) (h0 : l[i]? = some 0) (hv : v ≠ 0) :
    kraftN m (l.set i v) = kraftN m l + 2 ^ (m - v) := by
  induction l generalizing i with
  | nil => simp at h0
  | cons a r ih =>
    cases i with
    | zero =>
      simp at h0; subst h0
      simp [kraftN, kw, hv]; omega
    | succ i =>
      simp at h0
      have := ih i h0
      simp only [kraftN, List.set_cons_succ, List.map_cons, List.sum_cons] at this ⊢; omega

def writeOut (hs : List HSym) (l : List Nat) : List Nat := hs.foldl (fun l h => l.set h.sym h.l) l

theorem foldl_set_toList (hs : List HSym) (a : Array Nat) :
    (hs.foldl (fun a h => a.set! h.sym h.l) a).toList = writeOut hs a.toList := by
  induction hs generalizing a with
  | nil => rfl
  | cons h r ih =>
    have := ih (a.set! h.sym h.l)
    simp only [Array.set!_eq_setIfInBounds, Array.toList_setIfInBounds] at this
    simpa [writeOut] using this

/-- what the first four clauses of `huffLengths_spec` need, in a form one write preserves -/
theorem writeOut_spec (m : Nat) (hs : List HSym) (l : List Nat) (hnd : (hs.map (·.sym)).Nodup)
    (h0 : ∀ h ∈ hs, l[h.sym]? = some 0) (hr : InR m hs) :
    (writeOut hs l).length = l.length ∧
    ((∀ x ∈ l, x ≤ m) → ∀ x ∈ writeOut hs l, x ≤ m) ∧
    (∀ i, (writeOut hs l).getD i 0 ≠ 0 ↔ l.getD i 0 ≠ 0 ∨ i ∈ hs.map (·.sym)) ∧
    kraftN m (writeOut hs l) = kraftN m l + ksum m hs := by
  induction hs generalizing l with
  | nil => simp [writeOut, ksum]
  | cons a r ih =>
    simp only [List.map_cons, List.nodup_cons] at hnd
    obtain ⟨ha0, h0r⟩ := List.forall_mem_cons.1 h0
    obtain ⟨hra, hrr⟩ := List.forall_mem_cons.1 hr
    obtain ⟨halt, _⟩ := List.getElem?_eq_some_iff.1 ha0
    obtain ⟨i1, i2, i3, i4⟩ := ih (l.set a.sym a.l) hnd.2
      (fun h hh => by
        rw [List.getElem?_set_ne fun e => hnd.1 (List.mem_map.2 ⟨h, hh, e.symm⟩)]
        exact h0r h hh)
      hrr
    refine ⟨by rw [show writeOut (a :: r) l = writeOut r (l.set a.sym a.l) from rfl, i1,
      List.length_set], fun hl => i2 fun x hx => ?_, fun i => ?_, ?_⟩
    · rcases List.mem_or_eq_of_mem_set hx with hx | rfl
      · exact hl x hx
      · exact hra.2
    · rw [show writeOut (a :: r) l = writeOut r (l.set a.sym a.l) from rfl, i3, getD_set,
        List.map_cons, List.mem_cons]
      by_cases hi : a.sym = i
      · have := hra.1
        simp [hi ▸ halt, hi, Nat.ne_of_gt this]
      · simp [hi, Ne.symm hi]
    · rw [show writeOut (a :: r) l = writeOut r (l.set a.sym a.l) from rfl, i4,
        kraftN_set m l a.sym a.l ha0 (by have := hra.1; omega), ksum_cons, Nat.add_assoc]

def usedOf (freqs : List Nat) : List (Nat × Nat) := freqs.zipIdx.filter (fun x => decide (x.fst > 0))

theorem mem_usedOf (freqs : List Nat) (f i : Nat) :
    (f, i) ∈ usedOf freqs ↔ freqs[i]? = some f ∧ 0 < f := by
  simp [usedOf, List.mem_filter, List.mem_zipIdx_iff_getElem?]

theorem mem_usedOf_snd (freqs : List Nat) (i : Nat) :
    i ∈ (usedOf freqs).map Prod.snd ↔ freqs.getD i 0 ≠ 0 := by
  simp only [List.mem_map, Prod.exists, mem_usedOf, exists_eq_right, List.getD_eq_getElem?_getD]
  cases freqs[i]? with
  | none => simp
  | some f => simp [Nat.pos_iff_ne_zero]

theorem usedOf_nodup (freqs : List Nat) : ((usedOf freqs).map Prod.snd).Nodup :=
  nodup_snd_filter_zipIdx _ freqs 0

theorem eq_singleton_of_nodup {α : Type} {l : List α} {a : α} (hn : l.Nodup) (ha : a ∈ l)
    (h : ∀ x ∈ l, x = a) : l = [a] := by
  cases l with
  | nil => cases ha
  | cons x t =>
    obtain rfl := h x (List.mem_cons_self ..)
    cases t with
    | nil => rfl
    | cons y u =>
      obtain rfl := h y (List.mem_cons_of_mem _ (List.mem_cons_self ..))
      exact absurd (List.mem_cons_self ..) (List.nodup_cons.1 hn).1

/-- the repaired symbol list of the general branch of `huffLengths` -/
def huffFin (m : Nat) (init : List HSym) : List HSym :=
  shortenLoop m (m * 2 + 4)
    (lengthenPass m (init.mergeSort fun a b => decide (a.f ≤ b.f))
      (hKraft m (init.mergeSort fun a b => decide (a.f ≤ b.f)))).fst.reverse
    (2 ^ m - (lengthenPass m (init.mergeSort fun a b => decide (a.f ≤ b.f))
      (hKraft m (init.mergeSort fun a b => decide (a.f ≤ b.f)))).snd)

theorem huffFin_spec (m : Nat) (init : List HSym) (hm : 1 ≤ m) (hr : InR m init)
    (hlen2 : 2 ≤ init.length) (hlen : init.length ≤ 2 ^ m) :
    ((huffFin m init).map (·.sym)).Perm (init.map (·.sym)) ∧ InR m (huffFin m init) ∧
    ksum m (huffFin m init) = 2 ^ m := by
  unfold huffFin
  have hp := List.mergeSort_perm init (fun a b => decide (a.f ≤ b.f))
  generalize init.mergeSort (fun a b => decide (a.f ≤ b.f)) = asc at hp
  have hra : InR m asc := fun h hh => hr h (hp.mem_iff.1 hh)
  rw [hKraft_eq_ksum]
  rcases hq : lengthenPass m asc (ksum m asc) with ⟨asc', k⟩
  obtain ⟨l1, l2, l3, l4, l5⟩ := lengthenPass_spec m asc (ksum m asc) hra (Nat.le_refl _) hq
  simp only
  have hlen' : asc'.length = init.length := by
    have := congrArg List.length l1; simp at this; rw [this]; exact hp.length_eq
  have hk : k = ksum m asc' := by omega
  have hk2 : k ≤ 2 ^ m := by
    rcases l5 with h | h
    · exact h
    · rw [hk, ksum_all m m asc' h, Nat.sub_self]; omega
  have hrd : InR m asc'.reverse := fun h hh => l2 h (List.mem_reverse.1 hh)
  have hkd : ksum m asc'.reverse = ksum m asc' := ((List.reverse_perm _).map _).sum_nat
  obtain ⟨s1, s2, s3⟩ := shortenLoop_spec m (m * 2 + 3) asc'.reverse (2 ^ m - k) hm hrd
    (by simp; omega) (by omega)
  refine ⟨?_, s2, s3⟩
  rw [s1, List.map_reverse, l1]
  exact (List.reverse_perm _).trans (hp.map _)

def initOf (m : Nat) (used : List (Nat × Nat)) : List HSym :=
  used.map fun x =>
    { sym := x.snd, f := x.fst,
      l := max 1 (min m (Entropy.clog2 ((List.foldl (fun a p => a + p.fst) 0 used + x.fst - 1) / x.fst))) }

theorem initOf_sym (m : Nat) (used : List (Nat × Nat)) :
    (initOf m used).map (·.sym) = used.map Prod.snd := by
  simp [initOf]

theorem initOf_inR (m : Nat) (used : List (Nat × Nat)) (hm : 1 ≤ m) : InR m (initOf m used) := by
  intro h hh
  obtain ⟨x, _, rfl⟩ := List.mem_map.1 hh
  simp only
  omega

/-- `hn`: not more symbols than code words of the greatest length. The complete-code and
single-symbol clauses are stated on the used entries themselves, which is how callers know them. -/
theorem huffLengths_spec (maxLen : Nat) (freqs : List Nat) (hm : 1 ≤ maxLen)
    (hn : freqs.length ≤ 2 ^ maxLen) :
    (huffLengths maxLen freqs).length = freqs.length ∧
    (∀ l ∈ huffLengths maxLen freqs, l ≤ maxLen) ∧
    (∀ i, (huffLengths maxLen freqs).getD i 0 ≠ 0 ↔ freqs.getD i 0 ≠ 0) ∧
    (∀ i j, i ≠ j → freqs.getD i 0 ≠ 0 → freqs.getD j 0 ≠ 0 →
      kraftN maxLen (huffLengths maxLen freqs) = 2 ^ maxLen) ∧
    (∀ s, (∀ i, freqs.getD i 0 ≠ 0 → i = s) → ∀ l ∈ huffLengths maxLen freqs, l ≤ 1) := by
  have hn' : (usedOf freqs).length ≤ 2 ^ maxLen :=
    Nat.le_trans (Nat.le_trans (List.length_filter_le _ _) (by simp)) hn
  unfold huffLengths
  simp only
  split
  · rename_i heq
    change usedOf freqs = [] at heq
    have hz : ∀ i, freqs.getD i 0 = 0 := fun i => by
      have := mem_usedOf_snd freqs i
      rw [heq] at this
      simpa using this
    refine ⟨by simp, ?_, ?_, fun i _ _ hi => absurd (hz i) hi, fun _ _ l hl => ?_⟩
    · intro l hl; simp at hl; omega
    · intro i
      rw [hz i, List.getD_eq_getElem?_getD, List.getElem?_map]
      cases freqs[i]? <;> simp
    · simp at hl; omega
  · rename_i f s heq
    change usedOf freqs = [(f, s)] at heq
    have hle1 : ∀ l ∈ List.map (fun x : Nat × Nat => if x.snd = s then 1 else 0) freqs.zipIdx, l ≤ 1 := by
      intro l hl
      obtain ⟨x, _, rfl⟩ := List.mem_map.1 hl
      split <;> omega
    have hs : ∀ i, freqs.getD i 0 ≠ 0 ↔ i = s := fun i => by
      rw [← mem_usedOf_snd, heq]; simp
    refine ⟨by simp, fun l hl => Nat.le_trans (hle1 l hl) hm, ?_,
      fun i j hij hi hj => absurd (((hs i).1 hi).trans ((hs j).1 hj).symm) hij, fun _ _ => hle1⟩
    intro i
    rw [hs i, List.getD_eq_getElem?_getD, List.getElem?_map, List.getElem?_zipIdx]
    cases hf : freqs[i]? with
    | none =>
      have : freqs.getD i 0 = 0 := by rw [List.getD_eq_getElem?_getD, hf]; rfl
      have hne : i ≠ s := fun e => (hs i).2 e this
      simp [hne]
    | some v => simp
  · rename_i hne1 hne2
    change usedOf freqs = [] → False at hne1
    change ∀ a b, usedOf freqs = [(a, b)] → False at hne2
    have hlen2 : 2 ≤ (usedOf freqs).length := by
      match h : usedOf freqs with
      | [] => exact absurd h hne1
      | [(a, b)] => exact absurd h (hne2 a b)
      | _ :: _ :: _ => simp
    have hil : (initOf maxLen (usedOf freqs)).length = (usedOf freqs).length := by simp [initOf]
    obtain ⟨f1, f2, f3⟩ := huffFin_spec maxLen (initOf maxLen (usedOf freqs)) hm
      (initOf_inR _ _ hm) (by omega) (by omega)
    rw [initOf_sym] at f1
    have hmem : ∀ i, i ∈ (huffFin maxLen (initOf maxLen (usedOf freqs))).map (·.sym)
        ↔ freqs.getD i 0 ≠ 0 := fun i => by rw [f1.mem_iff]; exact mem_usedOf_snd freqs i
    obtain ⟨o1, o2, o3, o4⟩ := writeOut_spec maxLen _ (List.replicate freqs.length 0)
      (f1.nodup_iff.2 (usedOf_nodup freqs))
      (fun h hh => by
        have := lt_length_of_getD_ne ((hmem h.sym).1 (List.mem_map.2 ⟨h, hh, rfl⟩))
        simp [this])
      f2
    simp only [getD_replicate, ne_eq, not_true_eq_false, false_or, hmem, kraftN_replicate,
      Nat.zero_add, f3, List.length_replicate] at o1 o3 o4
    show _ ∧ _ ∧ _ ∧ _ ∧ _
    simp only [foldl_set_toList, Array.toList_replicate]
    refine ⟨o1, o2 fun x hx => by rw [(List.mem_replicate.1 hx).2]; omega, o3,
      fun _ _ _ _ _ => o4, fun s hs => ?_⟩
    -- two used entries cannot both be `s`
    obtain ⟨a, ha⟩ := List.exists_mem_of_length_pos (l := (usedOf freqs).map Prod.snd) (by simp; omega)
    have := congrArg List.length (eq_singleton_of_nodup (usedOf_nodup freqs) ha fun x hx =>
      ((hs x ((mem_usedOf_snd freqs x).1 hx)).trans (hs a ((mem_usedOf_snd freqs a).1 ha)).symm))
    simp at this
    omega

theorem histogram_aux (l : List Nat) (a : Array Nat) :
    (l.foldl (fun (a : Array Nat) v => if v < a.size then a.set! v (a[v]! + 1) else a) a).size = a.size ∧
    ∀ i, i < a.size →
      (l.foldl (fun (a : Array Nat) v => if v < a.size then a.set! v (a[v]! + 1) else a) a)[i]?.getD 0
        = a[i]?.getD 0 + l.count i := by
  induction l generalizing a with
  | nil => simp
  | cons v r ih =>
    simp only [List.foldl_cons, List.count_cons]
    split
    · rename_i hv
      obtain ⟨h1, h2⟩ := ih (a.set! v (a[v]! + 1))
      refine ⟨by rw [h1]; simp, fun i hi => ?_⟩
      rw [h2 i (by simpa using hi)]
      by_cases hiv : v = i
      · subst hiv; simp [hv]; omega
      · simp [Array.getElem?_setIfInBounds_ne hiv, hiv]
    · rename_i hv
      obtain ⟨h1, h2⟩ := ih a
      refine ⟨h1, fun i hi => ?_⟩
      rw [h2 i hi]
      have : v ≠ i := by omega
      simp [this]

theorem histogram_spec (n : Nat) (l : List Nat) :
    (histogram n l).length = n ∧ ∀ i, i < n → (histogram n l).getD i 0 = l.count i := by
  unfold histogram
  obtain ⟨h1, h2⟩ := histogram_aux l (Array.replicate n 0)
  refine ⟨by simpa using h1, fun i hi => ?_⟩
  have := h2 i (by simpa using hi)
  rw [List.getD_eq_getElem?_getD, Array.getElem?_toList, this]
  simp [hi]

end Jxl.Enc
