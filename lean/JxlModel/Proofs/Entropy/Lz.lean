import JxlModel.Proofs.Entropy.Seq
/-! The item layer: literals and LZ77 copies on top of the symbol layer (`pop`), then
`begin → readSeq → finalize` on the encoder's stream. One induction over the item list (`items_seq`)
serves with and without LZ77: the window the decoder keeps is tracked by a ghost history `hist`
(`WindowAt`), about which nothing is claimed when LZ77 is off. The values returned are stated against
the Spec's own fold, `vs.reverse ++ hist = items.foldl (lzStep mult) hist`. -/
namespace Jxl.Entropy
open Jxl.Enc

/-- the shape `IntegerConfig::parse` enforces and `readUint` needs -/
def CfgOK (c : IntegerConfig) : Prop := c.msbInToken + c.lsbInToken ≤ c.splitExponent

theorem StateAt.congr {p : EntropyPlan} {ts : List Tok} {st st' : DState} (h : StateAt p ts st)
    (h1 : st'.initial = st.initial) (h2 : st'.ansState = st.ansState) : StateAt p ts st' := by
  unfold StateAt at *
  cases hc : p.coder with
  | «prefix» => trivial
  | ans la => rw [hc] at h; simp only at h ⊢; rw [h1, h2]; exact h

@[simp] theorem planDecoder_lz77 (p : EntropyPlan) : (planDecoder p).lz77 = p.lz77 := rfl

@[simp] theorem planDecoder_cluster (p : EntropyPlan) (ctx : Nat) :
    (planDecoder p).clusters.getD ctx 0 = p.clusterOf ctx := rfl

@[simp] theorem planDecoder_config (p : EntropyPlan) (c : Nat) :
    (planDecoder p).configs.getD c default = p.config c := rfl

@[simp] theorem planDecoder_lzDistCluster (p : EntropyPlan) :
    (planDecoder p).lzDistCluster = p.lzCluster := rfl

/-- what the encoder needs of one item (given whether anything was decoded before it) -/
def ItemOK (p : EntropyPlan) (nonempty : Prop) : Item → Prop
  | .lit ctx v =>
    v < 2 ^ 32 ∧ CfgOK (p.config (p.clusterOf ctx)) ∧
    ∀ lz, p.lz77 = some lz → tokenOf (p.config (p.clusterOf ctx)) v < lz.minSymbol
  | .copy _ len dc =>
    nonempty ∧ dc < 2 ^ 32 ∧ len < 2 ^ 32 ∧ 1 ≤ len ∧ CfgOK (p.config p.lzCluster) ∧
    ∃ lz, p.lz77 = some lz ∧ lz.minLength ≤ len ∧ CfgOK lz.lenConf

/-- all items valid; `ne` says that something was decoded before the first item, which a copy
in first place needs -/
def ItemsOK (p : EntropyPlan) : List Item → Prop → Prop
  | [], _ => True
  | i :: r, ne => ItemOK p ne i ∧ ItemsOK p r True

/-- one context per produced value; the first one of a copy is the copy's context -/
def CtxsFor : List Item → List Nat → Prop
  | [], cs => cs = []
  | .lit ctx _ :: r, cs => ∃ cs', cs = ctx :: cs' ∧ CtxsFor r cs'
  | .copy ctx len _ :: r, cs =>
    ∃ mid cs', cs = ctx :: (mid ++ cs') ∧ mid.length = len - 1 ∧ CtxsFor r cs'

theorem ItemsOK.imp {p : EntropyPlan} {items : List Item} {P Q : Prop} (hpq : P → Q)
    (h : ItemsOK p items P) : ItemsOK p items Q := by
  cases items with
  | nil => trivial
  | cons i r =>
    refine ⟨?_, h.2⟩
    cases i with
    | lit c v => exact h.1
    | copy c len dc => exact ⟨hpq h.1.1, h.1.2⟩

theorem ctxsFor_lits {α : Type} (c v : α → Nat) (l : List α) :
    CtxsFor (l.map fun a => Item.lit (c a) (v a)) (l.map c) := by
  induction l with
  | nil => rfl
  | cons a r ih => exact ⟨_, rfl, ih⟩

theorem foldl_lzStep_lits {α : Type} (mult : Nat) (c v : α → Nat) (l : List α) (hist : List Nat) :
    (l.map fun a => Item.lit (c a) (v a)).foldl (lzStep mult) hist = (l.map v).reverse ++ hist := by
  induction l generalizing hist with
  | nil => rfl
  | cons a r ih =>
    simp only [List.map_cons, List.foldl_cons, lzStep, ih, List.reverse_cons, List.append_assoc,
      List.singleton_append]

theorem expandItems_lits {α : Type} (mult : Nat) (c v : α → Nat) (l : List α) :
    expandItems mult (l.map fun a => Item.lit (c a) (v a)) = l.map v := by
  rw [expandItems, foldl_lzStep_lits, List.append_nil, List.reverse_reverse]

theorem readSeq_cons_ok {d : Decoder} {m c : Nat} {cs : List Nat} {st : DState} {s : Bits}
    {vs : List Nat} {st2 : DState} {s2 : Bits}
    (h : d.readSeq m (c :: cs) st s = .ok ((vs, st2), s2)) :
    ∃ v st1 s1 vs', d.readVarint st c m s = .ok ((v, st1), s1) ∧
      d.readSeq m cs st1 s1 = .ok ((vs', st2), s2) ∧ vs = v :: vs' := by
  simp only [Decoder.readSeq] at h
  split at h
  · cases h
  · rename_i v st1 s1 hv
    split at h
    · cases h
    · rename_i vs' st2' s2' hr
      simp only [Except.ok.injEq, Prod.mk.injEq] at h
      obtain ⟨⟨rfl, rfl⟩, rfl⟩ := h
      exact ⟨v, st1, s1, vs', hv, hr, rfl⟩

theorem readSeq_append {d : Decoder} {mult : Nat} {a b : List Nat} {st st1 st2 : DState}
    {s s1 s2 : Bits} {va vb : List Nat} (ha : d.readSeq mult a st s = .ok ((va, st1), s1))
    (hb : d.readSeq mult b st1 s1 = .ok ((vb, st2), s2)) :
    d.readSeq mult (a ++ b) st s = .ok ((va ++ vb, st2), s2) := by
  induction a generalizing st s va with
  | nil =>
    simp only [Decoder.readSeq] at ha
    cases ha
    exact hb
  | cons c cs ih =>
    obtain ⟨v, stv, sv, vs, hv, hr, rfl⟩ := readSeq_cons_ok ha
    rw [List.cons_append, Decoder.readSeq, hv]
    simp only [ih hr, List.cons_append]

theorem toks_lit (p : EntropyPlan) (ctx v : Nat) (r : List Item) :
    p.toks (.lit ctx v :: r) =
      ⟨p.clusterOf ctx, tokenOf (p.config (p.clusterOf ctx)) v,
        uintBits (p.config (p.clusterOf ctx)) v⟩ :: p.toks r := by
  simp [EntropyPlan.toks, EntropyPlan.itemToks]

theorem toks_copy (p : EntropyPlan) (lz : Lz77Params) (hlz : p.lz77 = some lz) (ctx len dc : Nat)
    (r : List Item) :
    p.toks (.copy ctx len dc :: r) =
      ⟨p.clusterOf ctx, lz.minSymbol + tokenOf lz.lenConf (len - lz.minLength),
        uintBits lz.lenConf (len - lz.minLength)⟩ ::
      ⟨p.lzCluster, tokenOf (p.config p.lzCluster) dc, uintBits (p.config p.lzCluster) dc⟩ ::
      p.toks r := by
  simp [EntropyPlan.toks, EntropyPlan.itemToks, hlz]

theorem streamOf_nil (p : EntropyPlan) : (streamOf p []).2 = [] := by
  unfold streamOf
  cases p.coder <;> simp [encodeToksPrefix, encodeToksAns]

/-- the decoder's LZ77 window holds `hist` (most recent first) and no copy is pending. Without
LZ77 the window is not kept (`readPlain` never touches it) and nothing is claimed. -/
def WindowAt (p : EntropyPlan) (hist : List Nat) (st : DState) : Prop :=
  p.lz77 = none ∨ (st.numToCopy = 0 ∧ st.hist = hist ∧ st.numDecoded = hist.length)

/-- the decoder stands at the tokens `ts` of the stream and its LZ77 window holds `hist` -/
structure At (p : EntropyPlan) (ts : List Tok) (hist : List Nat) (st : DState) : Prop where
  toks : ToksOK p ts
  state : StateAt p ts st
  window : WindowAt p hist st

def itemCtx : Item → Nat
  | .lit c _ => c
  | .copy c _ _ => c

/-- number of values an item produces -/
def itemLen : Item → Nat
  | .lit _ _ => 1
  | .copy _ len _ => len

theorem copyBack_length (d n : Nat) (hist : List Nat) :
    (copyBack d n hist).length = hist.length + n := by
  induction n generalizing hist with
  | zero => rfl
  | succ n ih => rw [copyBack, ih, List.length_cons]; omega

theorem copy_phase (d : Decoder) (lz : Lz77Params) (hlz : d.lz77 = some lz) (mult : Nat)
    (cs : List Nat) (st : DState) (s : Bits) (hn : st.numToCopy = cs.length) :
    ∃ vs, d.readSeq mult cs st s =
        .ok ((vs, { st with hist := copyBack st.copyDist cs.length st.hist, numToCopy := 0,
                            numDecoded := st.numDecoded + cs.length }), s) ∧
      vs.reverse ++ st.hist = copyBack st.copyDist cs.length st.hist := by
  induction cs generalizing st with
  | nil =>
    refine ⟨[], ?_, rfl⟩
    simp only [Decoder.readSeq, List.length_nil, copyBack, Nat.add_zero]
    simp only [List.length_nil] at hn
    rw [← hn]
  | cons c r ih =>
    have hpos : st.numToCopy > 0 := by rw [hn]; simp
    have hn' : (DState.push { st with numToCopy := st.numToCopy - 1 }
        (st.hist.getD (st.copyDist - 1) 0)).numToCopy = r.length := by
      simp only [DState.push]; rw [hn]; simp
    obtain ⟨vs, hseq, hvs⟩ := ih _ hn'
    refine ⟨st.hist.getD (st.copyDist - 1) 0 :: vs, ?_, ?_⟩
    · rw [Decoder.readSeq]
      unfold Decoder.readVarint Decoder.readClustered
      rw [hlz]
      simp only [Decoder.readLz, hpos, if_true, hseq]
      simp only [DState.push, List.length_cons, copyBack]
      rw [show st.numDecoded + 1 + r.length = st.numDecoded + (r.length + 1) by omega]
    · simp only [DState.push] at hvs
      simp only [List.reverse_cons, List.append_assoc, List.singleton_append, hvs, List.length_cons,
        copyBack]

theorem ctxsFor_cons {i : Item} {r : List Item} {cs : List Nat} (h : CtxsFor (i :: r) cs) :
    ∃ mid cs', cs = itemCtx i :: (mid ++ cs') ∧ mid.length = itemLen i - 1 ∧ CtxsFor r cs' := by
  cases i with
  | lit c v => obtain ⟨cs', rfl, h'⟩ := h; exact ⟨[], cs', rfl, rfl, h'⟩
  | copy c len dc => exact h

theorem lzStep_ne_nil {p : EntropyPlan} {mult : Nat} {hist : List Nat} {i : Item}
    (hi : ItemOK p (hist ≠ []) i) : lzStep mult hist i ≠ [] := by
  cases i with
  | lit c v => exact List.cons_ne_nil _ _
  | copy c len dc =>
    intro h
    have := copyBack_length (lzCopyDistance mult dc hist.length) len hist
    rw [show copyBack _ len hist = [] from h] at this
    exact hi.1 (List.length_eq_zero_iff.1 (by simp only [List.length_nil] at this; omega))

theorem item_step (p : EntropyPlan) (mult : Nat) (i : Item) (r : List Item) (mid hist : List Nat)
    (st : DState) (rest : Bits) (hmid : mid.length = itemLen i - 1)
    (hi : ItemOK p (hist ≠ []) i) (h : At p (p.toks (i :: r)) hist st) :
    ∃ vs st1, (planDecoder p).readSeq mult (itemCtx i :: mid) st
          ((streamOf p (p.toks (i :: r))).2 ++ rest)
        = .ok ((vs, st1), (streamOf p (p.toks r)).2 ++ rest) ∧
      vs.reverse ++ hist = lzStep mult hist i ∧ At p (p.toks r) (lzStep mult hist i) st1 := by
  obtain ⟨hok, hst, hw⟩ := h
  cases i with
  | lit ctx v =>
    obtain rfl := List.length_eq_zero_iff.1 hmid
    obtain ⟨hv32, hcfg, hmin⟩ := hi
    rw [toks_lit] at hok hst ⊢
    obtain ⟨x, hpop, hst'⟩ := pop p _ _ hok st hst rest
    have hu := readUint_splitUint _ hcfg v hv32 ((streamOf p (p.toks r)).2 ++ rest)
    cases hlz : p.lz77 with
    | none =>
      refine ⟨[v], { st with ansState := x }, ?_, rfl, hok.tail, hst', Or.inl hlz⟩
      simp only [itemCtx, Decoder.readSeq, Decoder.readVarint, Decoder.readClustered,
        planDecoder_lz77, planDecoder_cluster, hlz, Decoder.readPlain, hpop, planDecoder_config, hu]
    | some lz =>
      obtain ⟨hcopy, hh, hnd⟩ := hw.resolve_left (by simp [hlz])
      refine ⟨[v], ({ st with ansState := x } : DState).push v, ?_, rfl, hok.tail,
        hst'.congr rfl rfl, Or.inr ⟨hcopy, by rw [← hh]; rfl, by simp [DState.push, hnd, lzStep]⟩⟩
      simp only [itemCtx, Decoder.readSeq, Decoder.readVarint, Decoder.readClustered,
        planDecoder_lz77, planDecoder_cluster, hlz, Decoder.readLz, hcopy, Nat.lt_irrefl, if_false,
        hpop, Nat.not_le.2 (hmin lz hlz), planDecoder_config, hu]
  | copy ctx len dc =>
    obtain ⟨hne, hdc, hlen, hlen1, hcfgd, lz, hlz, hml, hcfgl⟩ := hi
    rw [toks_copy p lz hlz] at hok hst ⊢
    obtain ⟨hcopy, rfl, hnd⟩ := hw.resolve_left (by simp [hlz])
    obtain ⟨x1, hpop1, hst1⟩ := pop p _ _ hok st hst rest
    obtain ⟨x2, hpop2, hst2⟩ := pop p _ _ hok.tail _ hst1 rest
    have hl : (ctx :: mid).length = len := by simp only [List.length_cons, hmid, itemLen]; omega
    -- with both tokens read the decoder is where a pending copy of `len` values would be
    obtain ⟨vs, hph, hvs⟩ := copy_phase (planDecoder p) lz hlz mult (ctx :: mid)
      { st with ansState := x2, numToCopy := len,
                copyDist := lzCopyDistance mult dc st.numDecoded }
      ((streamOf p (p.toks r)).2 ++ rest) hl.symm
    rw [hl] at hph hvs
    refine ⟨vs, _, Eq.trans ?_ hph, by rw [lzStep, ← hnd]; exact hvs, hok.tail.tail, hst2.congr rfl rfl,
      Or.inr ⟨rfl, by rw [hnd]; rfl, ?_⟩⟩
    · have hne' : st.numDecoded ≠ 0 := hnd ▸ fun h => hne (List.length_eq_zero_iff.1 h)
      simp only [itemCtx, Decoder.readSeq, Decoder.readVarint, Decoder.readClustered,
        planDecoder_lz77, planDecoder_cluster, hlz, Decoder.readLz, Nat.not_lt.2 (Nat.le_of_eq hcopy), if_false,
        hpop1, Nat.le_add_right, ge_iff_le, if_true, hne', Nat.add_sub_cancel_left,
        readUint_splitUint _ hcfgl _ (show len - lz.minLength < 2 ^ 32 by omega),
        Nat.sub_add_cancel hml, Nat.not_le.2 hlen, planDecoder_lzDistCluster, hpop2,
        planDecoder_config, readUint_splitUint _ hcfgd dc hdc, show len > 0 from hlen1]
    · simp only [lzStep, copyBack_length, hnd]

theorem items_seq (p : EntropyPlan) (mult : Nat) (items : List Item) (ctxs hist : List Nat)
    (st : DState) (rest : Bits) (hctx : CtxsFor items ctxs) (hitems : ItemsOK p items (hist ≠ []))
    (h : At p (p.toks items) hist st) :
    ∃ vs st', (planDecoder p).readSeq mult ctxs st ((streamOf p (p.toks items)).2 ++ rest)
        = .ok ((vs, st'), rest) ∧
      vs.reverse ++ hist = items.foldl (lzStep mult) hist ∧ StateAt p [] st' := by
  induction items generalizing ctxs hist st with
  | nil =>
    simp only [CtxsFor] at hctx
    subst hctx
    refine ⟨[], st, ?_, rfl, h.state⟩
    simp only [EntropyPlan.toks, List.flatMap_nil, streamOf_nil, List.nil_append, Decoder.readSeq]
  | cons i r ih =>
    obtain ⟨mid, cs', rfl, hmid, hctx'⟩ := ctxsFor_cons hctx
    obtain ⟨vs1, st1, hrv, hvs1, h1⟩ := item_step p mult i r mid hist st rest hmid hitems.1 h
    obtain ⟨vs, st', hseq, hvs, hfin⟩ := ih cs' _ st1 hctx'
      (hitems.2.imp fun _ => lzStep_ne_nil hitems.1) h1
    exact ⟨vs1 ++ vs, st', readSeq_append hrv hseq,
      by rw [List.foldl_cons, ← hvs, ← hvs1, List.reverse_append, List.append_assoc], hfin⟩

theorem streamOf_state_lt (p : EntropyPlan) (ts : List Tok) (hok : ToksOK p ts) :
    (streamOf p ts).1 < 2 ^ 32 := by
  unfold streamOf
  unfold ToksOK at hok
  cases hc : p.coder with
  | «prefix» => simp
  | ans la =>
    rw [hc] at hok
    exact (ans_stream _ _ ts hok).1.2

theorem begin_ok (p : EntropyPlan) (ts : List Tok) (hok : ToksOK p ts) (rest : Bits) :
    ∃ st0, (planDecoder p).begin {} (encodeToks p ts ++ rest) = .ok (st0, (streamOf p ts).2 ++ rest) ∧
      At p ts [] st0 := by
  have hlt := streamOf_state_lt p ts hok
  rw [encodeToks_eq]
  unfold Decoder.begin planDecoder planCode
  cases hc : p.coder with
  | «prefix» => exact ⟨{}, rfl, hok, by simp only [StateAt, hc], Or.inr ⟨rfl, rfl, rfl⟩⟩
  | ans la =>
    simp only at hlt ⊢
    refine ⟨{ ansState := (streamOf p ts).1, initial := false }, ?_, hok,
      by simp only [StateAt, hc, and_self], Or.inr ⟨rfl, rfl, rfl⟩⟩
    rw [List.append_assoc, rbits_toBits 32 _ _ hlt]

theorem finalize_ok (p : EntropyPlan) (st : DState) (h : StateAt p [] st) :
    (planDecoder p).finalize st = .ok () := by
  unfold Decoder.finalize planDecoder planCode
  unfold StateAt streamOf at h
  cases hc : p.coder with
  | «prefix» => rfl
  | ans la =>
    simp only [hc] at h ⊢
    simp [h.2, encodeToksAns]

theorem stream_roundtrip (p : EntropyPlan) (mult : Nat) (items : List Item) (ctxs : List Nat)
    (rest : Bits) (hctx : CtxsFor items ctxs) (hitems : ItemsOK p items False)
    (hok : ToksOK p (p.toks items)) :
    ∃ st0 s0 st1,
      (planDecoder p).begin {} (encodeItems p items ++ rest) = .ok (st0, s0) ∧
      (planDecoder p).readSeq mult ctxs st0 s0 = .ok ((expandItems mult items, st1), rest) ∧
      (planDecoder p).finalize st1 = .ok () := by
  obtain ⟨st0, hb, h0⟩ := begin_ok p _ hok rest
  obtain ⟨vs, st', hseq, hvs, hfin⟩ := items_seq p mult items ctxs [] st0 rest hctx
    (hitems.imp False.elim) h0
  have : vs = expandItems mult items := by
    rw [expandItems, ← hvs, List.append_nil, List.reverse_reverse]
  subst this
  exact ⟨st0, _, st', hb, hseq, finalize_ok p _ hfin⟩

end Jxl.Entropy
