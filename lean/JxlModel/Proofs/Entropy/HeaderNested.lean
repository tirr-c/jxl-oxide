import JxlModel.Proofs.Entropy.HeaderComp
/-! Header composition including the entropy-coded cluster map (nested decoder, optional
move-to-front), by induction on the nesting depth. -/
namespace Jxl.Entropy
open List Jxl.Enc

def HistRTD : Nat → EntropyPlan → Prop
  | 0, p => HistRT p
  | d+1, p => HistRT p ∧ (match p.clusterInner with | some (_, ip) => HistRTD d ip | none => True)

def HeaderOKD : Nat → EntropyPlan → Prop
  | 0, p => HeaderOK p
  | d+1, p =>
    (p.configs.length = p.numClusters ∧ p.codes.length = p.numClusters) ∧
    p.clusterMap.length = p.totalDist ∧
    (∀ c ∈ p.configs, c.valid p.logAlpha = true) ∧
    (match p.coder with | .prefix => True | .ans la => 5 ≤ la ∧ la ≤ 8) ∧
    (∀ q, p.lz77 = some q →
      (q.minSymbol = 224 ∨ q.minSymbol = 512 ∨ q.minSymbol = 4096 ∨
        (8 ≤ q.minSymbol ∧ q.minSymbol < 8 + 2 ^ 15)) ∧
      (3 ≤ q.minLength ∧ q.minLength ≤ 264) ∧ q.lenConf.valid 8 = true) ∧
    (∀ k, k < p.numClusters → k ∈ p.clusterMap) ∧
    (match p.clusterInner with
     | none => if p.totalDist = 1 then p.clusterMap = [0]
               else p.clusterNbits ≤ 3 ∧ ∀ x ∈ p.clusterMap, x < 2 ^ p.clusterNbits
     | some (mtf, ip) =>
       if p.totalDist = 1 then p.clusterMap = [0]
       else ip.numDist = 1 ∧ (p.totalDist > 2 ∨ ip.lz77 = none) ∧ (∀ x ∈ p.clusterMap, x < 256) ∧
         HeaderOKD d ip ∧
         ip.check ((clusterIds mtf p.clusterMap).map fun v => Item.lit 0 v) = true)

theorem readClusters_plain (p : EntropyPlan) (fuel depth : Nat) (tail : Bits)
    (hin : p.clusterInner = none ∨ p.totalDist = 1)
    (hcm : p.clusterMap.length = p.totalDist)
    (hnoHole : ∀ k, k < p.numClusters → k ∈ p.clusterMap)
    (hs : if p.totalDist = 1 then p.clusterMap = [0]
          else p.clusterNbits ≤ 3 ∧ ∀ x ∈ p.clusterMap, x < 2 ^ p.clusterNbits) :
    readClusters fuel p.totalDist (encodeClusterMapD depth p ++ tail)
      = .ok ((p.numClusters, p.clusterMap), tail) := by
  rw [readClusters.eq_1]
  by_cases h1 : p.totalDist = 1
  · have henc : encodeClusterMapD depth p = [] := by
      cases depth <;> simp [encodeClusterMapD, h1]
    simp only [h1, if_true] at hs ⊢
    rw [henc]
    unfold EntropyPlan.numClusters
    rw [hs]
    rfl
  · have hin' : p.clusterInner = none := hin.resolve_right h1
    have henc : encodeClusterMapD depth p
        = [true] ++ toBits 2 p.clusterNbits ++ p.clusterMap.flatMap (toBits p.clusterNbits) := by
      cases depth <;> simp [encodeClusterMapD, h1, hin']
    simp only [h1, if_false] at hs ⊢
    obtain ⟨hnb, hlt⟩ := hs
    rw [henc]
    simp only [cons_append, nil_append, rbool_cons, append_assoc]
    rw [rbits_toBits 2 _ _ (by omega)]
    simp only
    rw [← hcm, readMany_rbits _ _ hlt]
    simp only
    rw [(checkClusters_ok_iff p.clusterMap).2 hnoHole]
    rfl

theorem HeaderOKD.top {d : Nat} {p : EntropyPlan} (h : HeaderOKD d p) :
    (p.configs.length = p.numClusters ∧ p.codes.length = p.numClusters) ∧
    p.clusterMap.length = p.totalDist ∧
    (∀ c ∈ p.configs, c.valid p.logAlpha = true) ∧
    (match p.coder with | .prefix => True | .ans la => 5 ≤ la ∧ la ≤ 8) ∧
    (∀ q, p.lz77 = some q → Lz77OK q) ∧
    (∀ k, k < p.numClusters → k ∈ p.clusterMap) := by
  cases d with
  | zero => exact ⟨h.lens, h.cmLen, h.cfgs, h.la, h.lz, h.noHole⟩
  | succ d => exact ⟨h.1, h.2.1, h.2.2.1, h.2.2.2.1, h.2.2.2.2.1, h.2.2.2.2.2.1⟩

theorem HistRTD.top {d : Nat} {p : EntropyPlan} (h : HistRTD d p) : HistRT p := by
  cases d with
  | zero => exact h
  | succ d => exact h.1

/-! `checkD` asks for *at least* one config and one code per cluster (`configs.length ≥ numClusters`:
the encoder tolerates longer lists and writes only the first `numClusters`), so the decoder the header
parses to is that of the plan cut down to `numClusters` entries. `planDecoder` does not look at the
nested plan, so only the top level matters: `planDecoder (trimD d p) = planDecoder (trimD 0 p)`. -/

def trimD : Nat → EntropyPlan → EntropyPlan
  | 0, p => { p with configs := p.configs.take p.numClusters, codes := p.codes.take p.numClusters }
  | d+1, p =>
    { p with configs := p.configs.take p.numClusters, codes := p.codes.take p.numClusters,
             clusterInner := match p.clusterInner with
               | some (mtf, ip) => some (mtf, trimD d ip)
               | none => none }

@[simp] theorem trimD_numDist (d : Nat) (p : EntropyPlan) : (trimD d p).numDist = p.numDist := by
  cases d <;> rfl
@[simp] theorem trimD_lz77 (d : Nat) (p : EntropyPlan) : (trimD d p).lz77 = p.lz77 := by
  cases d <;> rfl
@[simp] theorem trimD_clusterMap (d : Nat) (p : EntropyPlan) :
    (trimD d p).clusterMap = p.clusterMap := by cases d <;> rfl
@[simp] theorem trimD_clusterNbits (d : Nat) (p : EntropyPlan) :
    (trimD d p).clusterNbits = p.clusterNbits := by cases d <;> rfl
@[simp] theorem trimD_coder (d : Nat) (p : EntropyPlan) : (trimD d p).coder = p.coder := by
  cases d <;> rfl
@[simp] theorem trimD_numClusters (d : Nat) (p : EntropyPlan) :
    (trimD d p).numClusters = p.numClusters := by cases d <;> rfl
@[simp] theorem trimD_totalDist (d : Nat) (p : EntropyPlan) :
    (trimD d p).totalDist = p.totalDist := by cases d <;> rfl
@[simp] theorem trimD_logAlpha (d : Nat) (p : EntropyPlan) :
    (trimD d p).logAlpha = p.logAlpha := by cases d <;> rfl
@[simp] theorem trimD_configs (d : Nat) (p : EntropyPlan) :
    (trimD d p).configs = p.configs.take p.numClusters := by cases d <;> rfl
@[simp] theorem trimD_codes (d : Nat) (p : EntropyPlan) :
    (trimD d p).codes = p.codes.take p.numClusters := by cases d <;> rfl
@[simp] theorem trimD_clusterOf (d : Nat) (p : EntropyPlan) (c : Nat) :
    (trimD d p).clusterOf c = p.clusterOf c := by cases d <;> rfl
@[simp] theorem trimD_lzCluster (d : Nat) (p : EntropyPlan) :
    (trimD d p).lzCluster = p.lzCluster := by cases d <;> rfl
theorem trimD_inner_zero (p : EntropyPlan) : (trimD 0 p).clusterInner = p.clusterInner := rfl
theorem trimD_inner_succ (d : Nat) (p : EntropyPlan) :
    (trimD (d + 1) p).clusterInner = match p.clusterInner with
      | some (mtf, ip) => some (mtf, trimD d ip)
      | none => none := rfl

theorem trimD_encodeCodes (d : Nat) (p : EntropyPlan) : encodeCodes (trimD d p) = encodeCodes p := by
  unfold encodeCodes
  simp only [trimD_numClusters, trimD_logAlpha, trimD_coder, trimD_configs, trimD_codes,
    List.take_take, Nat.min_self]

theorem planDecoder_trimD (d : Nat) (p : EntropyPlan)
    (hex : p.configs.length = p.numClusters ∧ p.codes.length = p.numClusters) :
    planDecoder (trimD d p) = planDecoder p := by
  unfold planDecoder planCode
  rw [trimD_lz77, trimD_clusterMap, trimD_configs, trimD_codes, trimD_coder, ← hex.1,
    List.take_length, hex.1, ← hex.2, List.take_length]

theorem parseLzField_writeLz77 (allowLz : Bool) (lz : Option Lz77Params)
    (hno : allowLz = false → lz = none) (oklz : ∀ q, lz = some q → Lz77OK q) (tail : Bits) :
    parseLzField allowLz (writeLz77 lz ++ tail) = .ok (lz, tail) := by
  unfold parseLzField
  cases allowLz with
  | true => exact parseLz77_writeLz77 lz oklz tail
  | false =>
    rw [hno rfl]
    rfl

theorem parseDecoder_level (fuel depth : Nat) (p : EntropyPlan) (allowLz : Bool) (rest : Bits)
    (hn : p.numClusters ≤ p.configs.length ∧ p.numClusters ≤ p.codes.length)
    (okcfgs : ∀ c ∈ p.configs.take p.numClusters, c.valid p.logAlpha = true)
    (okla : match p.coder with | .prefix => True | .ans la => 5 ≤ la ∧ la ≤ 8)
    (oklz : ∀ q, p.lz77 = some q → Lz77OK q) (hrt : HistRT (trimD 0 p))
    (hno : allowLz = false → p.lz77 = none)
    (hcl : readClusters fuel p.totalDist (encodeClusterMapD depth p ++ (encodeCodes p ++ rest))
      = .ok ((p.numClusters, p.clusterMap), encodeCodes p ++ rest)) :
    parseDecoder (fuel + 1) allowLz p.numDist (encodeHeaderD depth p ++ rest)
      = .ok (planDecoder (trimD 0 p), rest) := by
  have hnd : (if p.lz77.isSome = true then p.numDist + 1 else p.numDist) = p.totalDist := rfl
  unfold encodeHeaderD
  rw [parseDecoder.eq_2]
  simp only [append_assoc, parseLzField_writeLz77 allowLz p.lz77 hno oklz, hnd, hcl]
  have := parseInnerRest_encodeCodes (trimD 0 p)
    (by simp only [trimD_configs, trimD_codes, trimD_numClusters, length_take]; omega)
    okcfgs okla hrt rest
  rwa [trimD_encodeCodes] at this

theorem getD_map_take {α β : Type} (l : List α) (f : α → β) (n i : Nat) (dflt : β) (h : i < n) :
    ((l.take n).map f).getD i dflt = (l.map f).getD i dflt := by
  rw [List.map_take, getD_take _ _ _ _ h]

/-! The decoder never looks at a config or a code beyond `numClusters`: every cluster it uses comes
out of the cluster map. -/

theorem readSymbol_trim (p : EntropyPlan) (st : DState) (c : Nat) (hc : c < p.numClusters) (s : Bits) :
    (planDecoder (trimD 0 p)).readSymbol st c s = (planDecoder p).readSymbol st c s := by
  unfold Decoder.readSymbol Decoder.begin planDecoder planCode
  simp only [trimD_coder, trimD_codes]
  cases p.coder <;> simp only [getD_map_take _ _ _ _ _ hc]

theorem readVarint_trim (p : EntropyPlan) (st : DState) (ctx mult : Nat) (s : Bits) :
    (planDecoder (trimD 0 p)).readVarint st ctx mult s = (planDecoder p).readVarint st ctx mult s := by
  have hc := clusterOf_lt p ctx
  have hl := lzCluster_lt p
  have e1 : ∀ c, c < p.numClusters →
      (planDecoder (trimD 0 p)).configs.getD c default = (planDecoder p).configs.getD c default :=
    fun c h => getD_take _ _ _ _ h
  unfold Decoder.readVarint Decoder.readClustered Decoder.readLz Decoder.readPlain
  show (match p.lz77 with | some q => _ | none => _) = (match p.lz77 with | some q => _ | none => _)
  simp only [planDecoder_cluster, trimD_clusterOf, planDecoder_lzDistCluster, trimD_lzCluster,
    readSymbol_trim p _ _ hc, readSymbol_trim p _ _ hl, e1 _ hc, e1 _ hl]

theorem readSeq_trim (p : EntropyPlan) (mult : Nat) (ctxs : List Nat) (st : DState) (s : Bits) :
    (planDecoder (trimD 0 p)).readSeq mult ctxs st s = (planDecoder p).readSeq mult ctxs st s := by
  induction ctxs generalizing st s with
  | nil => rfl
  | cons c cs ih => simp only [Decoder.readSeq, readVarint_trim, ih]

theorem begin_trim (p : EntropyPlan) (st : DState) (s : Bits) :
    (planDecoder (trimD 0 p)).begin st s = (planDecoder p).begin st s := by
  unfold Decoder.begin planDecoder planCode
  rw [trimD_coder]
  cases p.coder <;> rfl

theorem finalize_trim (p : EntropyPlan) (st : DState) :
    (planDecoder (trimD 0 p)).finalize st = (planDecoder p).finalize st := by
  unfold Decoder.finalize planDecoder planCode
  rw [trimD_coder]
  cases p.coder <;> rfl

theorem stream_of_check {depth : Nat} (p : EntropyPlan) (mult : Nat) (items : List Item)
    (ctxs : List Nat) (rest : Bits) (hctx : CtxsFor items ctxs) (h : p.checkD depth items = true)
    (hlen : ∀ i ∈ items, match i with | .copy _ len _ => len < 2 ^ 32 | .lit _ _ => True) :
    ∃ st0 s0 st1,
      (planDecoder (trimD 0 p)).begin {} (encodeItems p items ++ rest) = .ok (st0, s0) ∧
      (planDecoder (trimD 0 p)).readSeq mult ctxs st0 s0
        = .ok ((expandItems mult items, st1), rest) ∧
      (planDecoder (trimD 0 p)).finalize st1 = .ok () := by
  simp only [begin_trim, readSeq_trim, finalize_trim]
  exact check_roundtrip p mult items ctxs rest hctx h hlen

theorem readClusterIds_of_readSeq (d : Decoder) (vs : List Nat) (st : DState) (s : Bits)
    (st1 : DState) (s1 : Bits)
    (h : d.readSeq 0 (vs.map fun _ => 0) st s = .ok ((vs, st1), s1)) (hlt : ∀ v ∈ vs, v < 256) :
    readClusterIds d vs.length st s = .ok ((vs, st1), s1) := by
  induction vs generalizing st s with
  | nil =>
    simp only [List.map_nil, Decoder.readSeq] at h
    cases h; rfl
  | cons v r ih =>
    obtain ⟨v', st', s', vs', h1, h2, heq⟩ := readSeq_cons_ok h
    obtain ⟨rfl, rfl⟩ := List.cons.inj heq
    have hv256 : ¬ v ≥ 256 := by have := hlt v (by simp); omega
    simp only [List.length_cons, readClusterIds, h1, hv256, if_false,
      ih st' s' h2 (fun x hx => hlt x (by simp [hx]))]

theorem clusterIds_lt (mtf : Bool) (cm : List Nat) (h : ∀ x ∈ cm, x < 256) :
    ∀ x ∈ clusterIds mtf cm, x < 256 := by
  unfold clusterIds
  cases mtf with
  | false => simpa using h
  | true => exact mtf_encode_lt cm h

theorem clusterIds_decode (mtf : Bool) (cm : List Nat) (h : ∀ x ∈ cm, x < 256) :
    (if mtf = true then mtfDecode (clusterIds mtf cm) else clusterIds mtf cm) = cm := by
  unfold clusterIds
  cases mtf with
  | false => rfl
  | true => simp only [if_true]; exact mtf_decode_encode cm h

theorem clusterIds_length (mtf : Bool) (cm : List Nat) : (clusterIds mtf cm).length = cm.length := by
  unfold clusterIds
  cases mtf with
  | false => rfl
  | true =>
    simp only [if_true]
    unfold mtfEncode
    generalize List.range 256 = tbl
    induction cm generalizing tbl with
    | nil => rfl
    | cons a r ih => simp [mtfEncodeFrom, ih]

theorem expandItems_ids (ids : List Nat) : expandItems 0 (ids.map fun v => Item.lit 0 v) = ids :=
  (expandItems_lits 0 (fun _ => 0) id ids).trans (map_id ids)

theorem readClusters_nested {dd : Nat} (fuel d : Nat) (p ip : EntropyPlan) (mtf : Bool) (tail : Bits)
    (hin : p.clusterInner = some (mtf, ip)) (h1 : p.totalDist ≠ 1)
    (hcm : p.clusterMap.length = p.totalDist) (h256 : ∀ x ∈ p.clusterMap, x < 256)
    (hnoHole : ∀ k, k < p.numClusters → k ∈ p.clusterMap)
    (hchk : ip.checkD dd ((clusterIds mtf p.clusterMap).map fun v => Item.lit 0 v) = true)
    (hhead : ∀ t, parseDecoder fuel (decide (p.totalDist > 2)) 1 (encodeHeaderD d ip ++ t)
      = .ok (planDecoder (trimD 0 ip), t)) :
    readClusters fuel p.totalDist (encodeClusterMapD (d + 1) p ++ tail)
      = .ok ((p.numClusters, p.clusterMap), tail) := by
  have hlen : (clusterIds mtf p.clusterMap).length = p.totalDist := by rw [clusterIds_length, hcm]
  have hdec := clusterIds_decode mtf _ h256
  have h256' := clusterIds_lt mtf _ h256
  generalize hids : clusterIds mtf p.clusterMap = ids at hchk hlen hdec h256'
  obtain ⟨st0, s0, st1, hb, hseq, hfin⟩ := stream_of_check ip 0 (ids.map fun v => Item.lit 0 v)
    (ids.map fun _ => 0) tail (ctxsFor_lits (fun _ => 0) id ids) hchk
    (fun i hi => by obtain ⟨v, _, rfl⟩ := mem_map.1 hi; trivial)
  rw [expandItems_ids] at hseq
  have hhead' := hhead (encodeItems ip (ids.map fun v => Item.lit 0 v) ++ tail)
  rw [encodeHeaderD, append_assoc, append_assoc] at hhead'
  rw [readClusters.eq_1, encodeClusterMapD]
  simp only [h1, if_false, hin, hids, encodeSymbols, map_map, Function.comp_def, cons_append, nil_append,
    rbool_cons, append_assoc, hhead']
  simp only [hb, ← hlen, readClusterIds_of_readSeq _ ids _ _ _ _ hseq h256', hfin, hdec,
    (checkClusters_ok_iff p.clusterMap).2 hnoHole]
  rfl

theorem parseDecoder_of_readClusters (fuel depth : Nat) (p : EntropyPlan) (allowLz : Bool)
    (rest : Bits) (ok : HeaderOKD depth p) (hrt : HistRTD depth p)
    (hno : allowLz = false → p.lz77 = none)
    (hcl : readClusters fuel p.totalDist (encodeClusterMapD depth p ++ (encodeCodes p ++ rest))
      = .ok ((p.numClusters, p.clusterMap), encodeCodes p ++ rest)) :
    parseDecoder (fuel + 1) allowLz p.numDist (encodeHeaderD depth p ++ rest)
      = .ok (planDecoder p, rest) := by
  obtain ⟨oklens, _, okcfgs, okla, oklz, _⟩ := ok.top
  have hrt' : HistRT (trimD 0 p) := by
    have := hrt.top
    unfold HistRT at this ⊢
    rwa [trimD_coder, trimD_codes, ← oklens.2, take_length]
  have := parseDecoder_level fuel depth p allowLz rest ⟨oklens.1.ge, oklens.2.ge⟩
    (fun c hc => okcfgs c (mem_of_mem_take hc)) okla oklz hrt' hno hcl
  rwa [planDecoder_trimD 0 p oklens] at this

theorem parse_header_nested (depth : Nat) :
    ∀ (fuel : Nat) (p : EntropyPlan) (allowLz : Bool) (rest : Bits),
      depth < fuel → HeaderOKD depth p → HistRTD depth p → (allowLz = false → p.lz77 = none) →
      parseDecoder fuel allowLz p.numDist (encodeHeaderD depth p ++ rest) = .ok (planDecoder p, rest) := by
  induction depth using Nat.strong_induction_on with | _ depth ih => ?_
  intro fuel p allowLz rest hf ok hrt hno
  obtain ⟨f, rfl⟩ : ∃ f, fuel = f + 1 := ⟨fuel - 1, by omega⟩
  refine parseDecoder_of_readClusters f depth p allowLz rest ok hrt hno ?_
  cases depth with
  | zero =>
    have ok' : HeaderOK p := ok
    exact readClusters_plain p f 0 _ (Or.inl ok'.simple.1) ok'.cmLen ok'.noHole ok'.simple.2
  | succ d =>
    obtain ⟨_, okcm, _, _, _, oknh, okc⟩ := ok
    have hrt2 := hrt.2
    rcases hin : p.clusterInner with _ | ⟨mtf, ip⟩ <;> rw [hin] at okc hrt2
    · exact readClusters_plain p f (d + 1) _ (Or.inl hin) okcm oknh okc
    · by_cases h1 : p.totalDist = 1
      · simp only [h1, if_true] at okc
        exact readClusters_plain p f (d + 1) _ (Or.inr h1) okcm oknh (by simp [h1, okc])
      · simp only [h1, if_false] at okc
        obtain ⟨hnd1, hlzin, h256, okin, hchk⟩ := okc
        exact readClusters_nested f d p ip mtf _ hin h1 okcm h256 oknh hchk fun t =>
          planDecoder_trimD 0 ip okin.top.1 ▸ hnd1 ▸ ih d (by omega) f ip _ t (by omega) okin hrt2
            fun hdec => hlzin.resolve_left (by simpa using hdec)

theorem parse_encodeHeader_simple (p : EntropyPlan) (ok : HeaderOK p) (hrt : HistRT p) (rest : Bits) :
    Decoder.parse p.numDist (encodeHeader p ++ rest) = .ok (planDecoder p, rest) := by
  have hin := ok.simple.1
  refine parse_header_nested planDepth parseFuel p true rest (by decide) ?_ ?_ (by simp)
  · refine ⟨ok.lens, ok.cmLen, ok.cfgs, ok.la, ok.lz, ok.noHole, ?_⟩
    rw [hin]
    exact ok.simple.2
  · refine ⟨hrt, ?_⟩
    rw [hin]
    trivial

end Jxl.Entropy
