import JxlModel.Model.Entropy.Ans
import JxlModel.Model.Enc.AnsEnc
import JxlModel.Proofs.Entropy.AnsStep
/-! The alias table of `ans::Histogram::parse`: an invariant over the overfull/underfull loop
shows that the final map is in range and onto `Σ_s [0, d s)`. At the start a stack is the filtered
index range, reversed (`stackOf_eq`); at the end index `B * i + pos` is slot `pos` of bucket `i`, and
the table is read slot by slot (`workSlot`); the invariant names a retired bucket's alias positions
the same way (`aliasOff - cutoff + pos`), so the reading is a rewrite. -/
namespace Jxl.Entropy
open List Jxl.Enc

abbrev wb (bs : List WB) (i : Nat) : WB := bs.getD i default

def sumL (l : List Nat) (f : Nat → Nat) : Nat := (l.map f).sum

theorem sumL_congr (l : List Nat) (f g : Nat → Nat) (h : ∀ i ∈ l, f i = g i) : sumL l f = sumL l g := by
  unfold sumL
  rw [map_congr_left h]

theorem sumL_cons (a : Nat) (l : List Nat) (f : Nat → Nat) : sumL (a :: l) f = f a + sumL l f := by
  simp [sumL]

/-- `o` keeps `x` of its own offsets, as many less as `u` is short of `B`, and `u` records that
`o`'s offsets from `x` on are its alias slice. -/
theorem aliasStep_get (B : Nat) (bs : List WB) (o u : Nat) (ho : o < bs.length) (hu : u < bs.length)
    (hne : o ≠ u) (hcu : (wb bs u).cutoff < B) (hco : B < (wb bs o).cutoff) :
    (aliasStep B bs o u).length = bs.length ∧
    ∃ x, x + B = (wb bs o).cutoff + (wb bs u).cutoff ∧ ∀ i, wb (aliasStep B bs o u) i =
      ⟨(wb bs i).dist, if i = u then o else (wb bs i).aliasSym,
        if i = u then x else (wb bs i).aliasOff, if i = o then x else (wb bs i).cutoff⟩ := by
  refine ⟨by unfold aliasStep; simp only [length_set],
    (wb bs o).cutoff - (B - (wb bs u).cutoff), by omega, fun i => ?_⟩
  unfold aliasStep wb
  simp only [getD_set, length_set, hu, ho, and_true, hne, if_false]
  by_cases h1 : i = u
  · subst h1
    simp [Ne.symm hne]
  · by_cases h2 : i = o
    · subst h2
      simp [h1, Ne.symm h1]
    · simp [h1, h2, Ne.symm h1, Ne.symm h2]

/-- The loop invariant. A bucket is *retired* once it is below `B` and off the underfull stack:
its positions `pos` from `cutoff` up to `B` then serve the offsets `aliasOff - cutoff + pos` of
`aliasSym`, which is how the final table will read them. -/
structure AliasInv (B : Nat) (ds : List Nat) (bs : List WB) (over under : List Nat) : Prop where
  len : bs.length = ds.length
  dist : ∀ i, (wb bs i).dist = ds.getD i 0
  /-- a bucket keeps at most its own symbol's offsets `[0, cutoff)` -/
  cut_le : ∀ i, (wb bs i).cutoff ≤ ds.getD i 0
  over_nd : over.Nodup
  under_nd : under.Nodup
  over_iff : ∀ i, i ∈ over ↔ i < ds.length ∧ B < (wb bs i).cutoff
  under_lt : ∀ i ∈ under, i < ds.length ∧ (wb bs i).cutoff < B
  /-- a retired bucket's alias positions stay inside its alias symbol's offsets -/
  ret_ok : ∀ i, i < ds.length → (wb bs i).cutoff < B → i ∉ under →
    (wb bs i).aliasSym < ds.length ∧
    (wb bs i).aliasOff - (wb bs i).cutoff + B ≤ ds.getD (wb bs i).aliasSym 0
  /-- an offset of `s` is below the cutoff of bucket `s` or served by a retired bucket -/
  cover : ∀ s k, k < ds.getD s 0 → k < (wb bs s).cutoff ∨
    ∃ i pos, i < ds.length ∧ i ∉ under ∧ (wb bs i).cutoff ≤ pos ∧ pos < B ∧
      (wb bs i).aliasSym = s ∧ (wb bs i).aliasOff - (wb bs i).cutoff + pos = k
  balance : sumL over (fun i => (wb bs i).cutoff - B) = sumL under (fun i => B - (wb bs i).cutoff)

theorem mem_ite_cons {p : Prop} [Decidable p] {a i : Nat} {l : List Nat} :
    i ∈ (if p then a :: l else l) ↔ p ∧ i = a ∨ i ∈ l := by
  split <;> simp [*]

theorem sumL_ite_cons {p : Prop} [Decidable p] {a : Nat} {l : List Nat} {f : Nat → Nat}
    (h0 : ¬ p → f a = 0) : sumL (if p then a :: l else l) f = f a + sumL l f := by
  split
  · exact sumL_cons a l f
  · rename_i hp
    rw [h0 hp, Nat.zero_add]

theorem inv_step (B : Nat) (ds : List Nat) (bs : List WB) (o u : Nat) (over under : List Nat)
    (h : AliasInv B ds bs (o :: over) (u :: under)) :
    AliasInv B ds (aliasStep B bs o u)
      (if B < (wb (aliasStep B bs o u) o).cutoff then o :: over else over)
      (if (wb (aliasStep B bs o u) o).cutoff < B then o :: under else under) := by
  obtain ⟨ho, hco⟩ := (h.over_iff o).1 mem_cons_self
  obtain ⟨hu, hcu⟩ := h.under_lt u mem_cons_self
  obtain ⟨hoo, nd1⟩ := nodup_cons.1 h.over_nd
  obtain ⟨huu, nd2⟩ := nodup_cons.1 h.under_nd
  have hne : o ≠ u := by
    intro e; subst e; omega
  have hou : o ∉ under := fun hm => by
    have := (h.under_lt o (mem_cons_of_mem _ hm)).2; omega
  obtain ⟨slen, x, sco, get⟩ := aliasStep_get B bs o u (h.len ▸ ho) (h.len ▸ hu) hne hcu hco
  generalize aliasStep B bs o u = bs' at *
  have hxo : (wb bs' o).cutoff = x := by
    simp only [get o, if_pos]
  have scut : ∀ i, i ≠ o → (wb bs' i).cutoff = (wb bs i).cutoff := fun i hi => by
    simp only [get i, if_neg hi]
  -- retired buckets are never touched again
  have same : ∀ i, i ≠ o → i ≠ u → wb bs' i = wb bs i := fun i h1 h2 => by
    rw [get i, if_neg h1, if_neg h2, if_neg h2]
  have hdo := h.cut_le o
  refine ⟨slen.trans h.len, fun i => ?_, fun i => ?_, ?_, ?_,
    fun i => ?_, fun i hi => ?_, fun i hi hc hni => ?_, fun s k hk => ?_, ?_⟩
  · simp only [get i]; exact h.dist i
  · by_cases hio : i = o
    · subst hio; omega
    · rw [scut i hio]; exact h.cut_le i
  · split
    · exact h.over_nd
    · exact nd1
  · split
    · exact nodup_cons.2 ⟨hou, nd2⟩
    · exact nd2
  · rw [mem_ite_cons]
    by_cases hio : i = o
    · subst hio; simp [hoo, ho]
    · rw [scut i hio, ← h.over_iff i]; simp [hio]
  · rcases mem_ite_cons.1 hi with ⟨hc, rfl⟩ | hi
    · exact ⟨ho, hc⟩
    · rw [scut i (fun e => hou (e ▸ hi))]; exact h.under_lt i (mem_cons_of_mem _ hi)
  · rw [mem_ite_cons, not_or] at hni
    by_cases hio : i = o
    · subst hio; exact absurd ⟨hc, rfl⟩ hni.1
    by_cases hiu : i = u
    · -- `u` retires, with `o`'s offsets from `x` on
      subst hiu
      simp only [get i, if_pos, if_neg (Ne.symm hne)]
      exact ⟨ho, by omega⟩
    · rw [same i hio hiu] at hc ⊢
      exact h.ret_ok i hi hc (by simp [hiu, hni.2])
  · rcases h.cover s k hk with hlt | ⟨i, pos, hi, hni, hc, hp, ha, hoff⟩
    · -- the offsets that `o` gave up are served by `u`
      by_cases hso : s = o
      · subst hso
        by_cases hk' : k < (wb bs' s).cutoff
        · exact Or.inl hk'
        · refine Or.inr ⟨u, k - x + (wb bs u).cutoff, hu, ?_, ?_⟩
          · simp [mem_ite_cons, Ne.symm hne, huu]
          · simp only [get u, if_pos, if_neg (Ne.symm hne)]
            exact ⟨by omega, by omega, trivial, by omega⟩
      · exact Or.inl (by rw [scut s hso]; exact hlt)
    · -- an old witness is a retired bucket other than `o` and `u`
      rw [mem_cons, not_or] at hni
      have hio : i ≠ o := by
        intro e; subst e; omega
      rw [← same i hio hni.1] at hc ha hoff
      exact Or.inr ⟨i, pos, hi, by simp [mem_ite_cons, hio, hni.2], hc, hp, ha, hoff⟩
  · -- `u` took from `o` just what it lacked
    have := h.balance
    rw [sumL_cons, sumL_cons] at this
    rw [sumL_ite_cons, sumL_ite_cons,
      sumL_congr over _ _ fun i hi => congrArg (· - B) (scut i fun e => hoo (e ▸ hi)),
      sumL_congr under _ _ fun i hi => congrArg (B - ·) (scut i fun e => hou (e ▸ hi))]
    · omega
    · omega
    · omega

theorem sumL_eq_zero {l : List Nat} {f : Nat → Nat} (h : sumL l f = 0) (hf : ∀ i ∈ l, 0 < f i) :
    l = [] := by
  cases l with
  | nil => rfl
  | cons a r =>
    have := hf a mem_cons_self
    rw [sumL_cons] at h
    omega

theorem inv_both_empty {B : Nat} {ds : List Nat} {bs : List WB} {over under : List Nat}
    (h : AliasInv B ds bs over under) : over = [] ↔ under = [] := by
  have hb := h.balance
  refine ⟨fun e => sumL_eq_zero (e ▸ hb).symm fun i hi => ?_,
    fun e => sumL_eq_zero (e ▸ hb) fun i hi => ?_⟩
  · have := (h.under_lt i hi).2
    omega
  · have := ((h.over_iff i).1 hi).2
    omega

/-- Every round takes a bucket off the two stacks for good (`u` always, `o` when it ends exactly
full), so fuel above the two stack lengths runs the loop until a stack is empty, and then both are. -/
theorem inv_loop (B : Nat) (ds : List Nat) (fuel : Nat) (bs : List WB) (over under : List Nat)
    (h : AliasInv B ds bs over under) (hf : over.length + under.length < fuel) :
    AliasInv B ds (aliasLoop B fuel bs over under) [] [] := by
  induction fuel generalizing bs over under with
  | zero => omega
  | succ fuel ih =>
    cases over with
    | nil =>
      obtain rfl := (inv_both_empty h).1 rfl
      simpa [aliasLoop] using h
    | cons o over' =>
      cases under with
      | nil => exact absurd ((inv_both_empty h).2 rfl) (cons_ne_nil _ _)
      | cons u under' =>
        have hs := inv_step B ds bs o u over' under' h
        simp only [aliasLoop]
        simp only [length_cons] at hf
        split
        · rename_i hlt
          rw [if_neg (Nat.lt_asymm hlt), if_pos hlt] at hs
          exact ih _ _ _ hs (by simp only [length_cons]; omega)
        · split
          · rename_i hge heq
            rw [if_neg (Nat.not_lt_of_ge (Nat.le_of_eq heq)), if_neg hge] at hs
            exact ih _ _ _ hs (by omega)
          · rename_i hge hne
            rw [if_pos (by unfold wb; omega), if_neg hge] at hs
            exact ih _ _ _ hs (by simp only [length_cons]; omega)

theorem zipIdx_eq (ds : List Nat) : ds.zipIdx = (range ds.length).map fun i => (ds.getD i 0, i) := by
  apply ext_getElem (by simp)
  intro i h1 h2
  simp at h1
  simp [h1]

theorem stackOf_eq (p : Nat → Bool) (ds : List Nat) :
    stackOf p ds = ((range ds.length).filter fun i => p (ds.getD i 0)).reverse := by
  unfold stackOf
  rw [zipIdx_eq, filter_map, map_map]
  exact congrArg reverse (map_id _)

theorem mem_stackOf (p : Nat → Bool) (ds : List Nat) (i : Nat) :
    i ∈ stackOf p ds ↔ i < ds.length ∧ p (ds.getD i 0) = true := by
  simp [stackOf_eq]

theorem stackOf_nodup (p : Nat → Bool) (ds : List Nat) : (stackOf p ds).Nodup := by
  rw [stackOf_eq]
  exact pairwise_reverse.2 ((nodup_range.filter _).imp Ne.symm)

theorem sumL_stackOf (p : Nat → Bool) (ds : List Nat) (g : Nat → Nat) :
    sumL (stackOf p ds) (fun i => g (ds.getD i 0)) = ((ds.filter p).map g).sum := by
  unfold sumL
  rw [stackOf_eq, map_reverse, sum_reverse]
  conv => rhs; rw [← zipIdx_map_fst 0 ds, zipIdx_eq, map_map, filter_map, map_map]
  rfl

theorem initWB_get (a : Nat) (ds : List Nat) (i : Nat) :
    (wb (initWB a ds) i).dist = ds.getD i 0 ∧ (wb (initWB a ds) i).cutoff = ds.getD i 0 := by
  unfold wb initWB
  rw [getD_eq_getElem?_getD, getElem?_map, getElem?_zipIdx, getD_eq_getElem?_getD]
  cases ds[i]? <;> exact ⟨rfl, rfl⟩

/-- `(d - B) + B = d + (B - d)`, summed: a term that a filter drops is zero -/
theorem balance_init (B : Nat) (ds : List Nat) :
    sumL (ds.filter fun d => d > B) (fun d => d - B) + B * ds.length
      = ds.sum + sumL (ds.filter fun d => d < B) (fun d => B - d) := by
  induction ds with
  | nil => rfl
  | cons d r ih =>
    rw [filter_cons, filter_cons, sumL_ite_cons, sumL_ite_cons, sum_cons, length_cons, Nat.mul_succ]
    · omega
    · simp; omega
    · simp; omega

theorem inv_aliasLoop (B a : Nat) (ds : List Nat) (hsum : ds.sum = B * ds.length) :
    AliasInv B ds (aliasLoop B (ds.length + 1) (initWB a ds) (stackOf (fun x => x > B) ds)
      (stackOf (fun x => x < B) ds)) [] [] := by
  have hcut := fun i => (initWB_get a ds i).2
  refine inv_loop _ _ _ _ _ _ ⟨by simp [initWB], fun i => (initWB_get a ds i).1,
    fun i => Nat.le_of_eq (hcut i), stackOf_nodup _ _, stackOf_nodup _ _, fun i => ?_, fun i hi => ?_,
    fun i hi hc hni => ?_, fun s k hk => Or.inl ?_, ?_⟩ (Nat.lt_succ_of_le ?_)
  · rw [mem_stackOf, hcut]
    simp
  · rw [hcut]
    simpa [mem_stackOf] using hi
  · rw [hcut] at hc
    exact absurd ((mem_stackOf _ _ _).2 ⟨hi, by simpa using hc⟩) hni
  · rw [hcut]
    exact hk
  · simp only [hcut]
    rw [sumL_stackOf _ ds (· - B), sumL_stackOf _ ds (B - ·)]
    have := balance_init B ds
    unfold sumL at this
    omega
  · -- an index is on one stack at most
    have h1 := length_eq_countP_add_countP (fun i => decide (ds.getD i 0 > B)) (l := range ds.length)
    have h2 : countP (fun i => decide (ds.getD i 0 < B)) (range ds.length) ≤ _ :=
      countP_mono_left (q := fun i => decide ¬ decide (ds.getD i 0 > B) = true) (by simp; omega)
    rw [stackOf_eq, stackOf_eq, length_reverse, length_reverse, ← countP_eq_length_filter,
      ← countP_eq_length_filter]
    rw [length_range] at h1
    omega

theorem getD_map_zipIdx {α β : Type} (l : List α) (f : α × Nat → β) (i : Nat) (hi : i < l.length)
    (a : α) (b : β) : (l.zipIdx.map f).getD i b = f (l.getD i a, i) := by
  rw [getD_eq_getElem?_getD, getElem?_map, getElem?_zipIdx, getD_eq_getElem?_getD,
    getElem?_eq_getElem hi]
  simp

/-- the alias map read off the working buckets at position `pos` of bucket `i` -/
def workSlot (ws : List WB) (i pos : Nat) : Nat × Nat × Nat :=
  if pos ≥ (wb ws i).cutoff then
    ((wb ws i).aliasSym, (wb ws i).aliasOff - (wb ws i).cutoff + pos, (wb ws (wb ws i).aliasSym).dist)
  else (i, pos, (wb ws i).dist)

theorem xor_cancel (a b : Nat) : a ^^^ (a ^^^ b) = b := by
  rw [← Nat.xor_assoc, Nat.xor_self, Nat.zero_xor]

theorem lookup_final (lb : Nat) (ws : List WB) (i pos : Nat) (hi : i < ws.length) (hp : pos < 2 ^ lb) :
    (AnsHist.mk (finalBuckets (2 ^ lb) ws) lb none).lookup (2 ^ lb * i + pos) = workSlot ws i pos := by
  unfold AnsHist.lookup workSlot finalBuckets
  simp only [Nat.mul_add_div (Nat.two_pow_pos lb), Nat.div_eq_of_lt hp, Nat.add_zero, Nat.mul_add_mod,
    Nat.mod_eq_of_lt hp, getD_map_zipIdx ws _ i hi default]
  -- a bucket that ends full is final as its own alias
  by_cases hc : (wb ws i).cutoff = 2 ^ lb
  · have h1 : ¬ pos ≥ (wb ws i).cutoff := by omega
    rw [if_pos hc, if_neg h1]
    simp
  · simp only [hc, if_false]
    by_cases hp : pos ≥ (wb ws i).cutoff
    · simp only [hp, if_true, xor_cancel]
    · simp only [hp, if_false]

theorem work_in_range (B : Nat) (ds : List Nat) (ws : List WB) (h : AliasInv B ds ws [] []) (i pos : Nat)
    (hi : i < ds.length) (hp : pos < B) :
    let r := workSlot ws i pos
    r.1 < ds.length ∧ r.2.2 = ds.getD r.1 0 ∧ r.2.1 < ds.getD r.1 0 := by
  unfold workSlot
  by_cases hc : pos ≥ (wb ws i).cutoff
  · simp only [hc, if_true]
    obtain ⟨r1, r2⟩ := h.ret_ok i hi (by omega) not_mem_nil
    exact ⟨r1, h.dist _, by omega⟩
  · simp only [hc, if_false]
    have := h.cut_le i
    exact ⟨hi, h.dist _, by omega⟩

theorem work_onto (B : Nat) (ds : List Nat) (ws : List WB) (h : AliasInv B ds ws [] []) (s k : Nat)
    (hk : k < ds.getD s 0) :
    ∃ i pos, i < ds.length ∧ pos < B ∧ workSlot ws i pos = (s, k, ds.getD s 0) := by
  rcases h.cover s k hk with hc | ⟨i, pos, hi, _, hle, hlt, hsym, hoff⟩
  · have hs : s < ds.length := lt_length_of_getD_ne (Nat.ne_of_gt (Nat.zero_lt_of_lt hk))
    have : (wb ws s).cutoff ≤ B :=
      Nat.le_of_not_lt fun hc => absurd ((h.over_iff s).2 ⟨hs, hc⟩) not_mem_nil
    refine ⟨s, k, hs, by omega, ?_⟩
    rw [workSlot, if_neg (Nat.not_le.2 hc), h.dist]
  · refine ⟨i, pos, hi, hlt, ?_⟩
    rw [workSlot, if_pos hle, hsym, hoff, h.dist]

theorem sum_set_zero (l : List Nat) (i : Nat) : (l.set i 0).sum + l.getD i 0 = l.sum := by
  induction l generalizing i with
  | nil => rfl
  | cons a r ih =>
    cases i with
    | zero => simp [Nat.add_comm]
    | succ i =>
      simp only [set_cons_succ, sum_cons, getD_cons_succ]
      have := ih i
      omega

theorem getD_add_le_sum (l : List Nat) (i j : Nat) (hij : i ≠ j) : l.getD i 0 + l.getD j 0 ≤ l.sum := by
  have h1 := sum_set_zero l i
  have h2 := sum_set_zero (l.set i 0) j
  rw [getD_set, if_neg (fun h => hij h.1)] at h2
  omega

/-- behind `C04_alias_bijection` -/
theorem alias_bijection (la : Nat) (hla : la ≤ 12) (d : AnsDist)
    (hlen : d.dist.length = 2 ^ la) (hsum : d.dist.sum = 4096) :
    let h := AnsHist.build la d
    (∀ idx, idx < 4096 →
      (h.lookup idx).1 < 2 ^ la ∧ (h.lookup idx).2.2 = d.dist.getD (h.lookup idx).1 0 ∧
      (h.lookup idx).2.1 < d.dist.getD (h.lookup idx).1 0) ∧
    (∀ s k, k < d.dist.getD s 0 → ∃ idx, idx < 4096 ∧ h.lookup idx = (s, k, d.dist.getD s 0)) := by
  have hB : 0 < 2 ^ (12 - la) := Nat.two_pow_pos _
  have hN : 2 ^ (12 - la) * d.dist.length = 4096 := by
    rw [hlen, ← Nat.pow_add, Nat.sub_add_cancel hla]
  have hdiv : ∀ idx, idx < 4096 → idx / 2 ^ (12 - la) < d.dist.length := fun idx hidx =>
    Nat.div_lt_of_lt_mul (hN.symm ▸ hidx)
  rw [← hlen]
  unfold AnsHist.build
  cases hf : d.dist.findIdx? (· = 4096) with
  | some single =>
    intro h
    obtain ⟨hj, h1, _⟩ := List.findIdx?_eq_some_iff_getElem.1 hf
    have hd : d.dist.getD single 0 = 4096 := by
      rw [← List.getElem_eq_getD (h := hj)]; simpa using h1
    -- every bucket sends all its slots to `single`, bucket `i` to the offsets from `B * i` on
    have hl : ∀ idx, idx < 4096 → h.lookup idx = (single, idx, 4096) := fun idx hidx => by
      unfold AnsHist.lookup
      simp only [h, getD_map_zipIdx _ _ _ (hdiv idx hidx) 0, ge_iff_le, Nat.zero_le, if_true, xor_cancel,
        Nat.div_add_mod]
    refine ⟨fun idx hidx => ?_, fun s k hk => ?_⟩
    · rw [hl idx hidx]
      exact ⟨hj, hd.symm, hd ▸ hidx⟩
    · by_cases hs : s = single
      · subst hs
        rw [hd] at hk ⊢
        exact ⟨k, hk, hl k hk⟩
      · have := getD_add_le_sum d.dist s single hs
        omega
  | none =>
    have hinv : AliasInv _ _ (aliasWork la d) [] [] :=
      inv_aliasLoop _ d.alphabetSize _ (by rw [hsum, hN])
    refine ⟨fun idx hidx => ?_, fun s k hk => ?_⟩
    · rw [← Nat.div_add_mod idx (2 ^ (12 - la)),
        lookup_final _ _ _ _ (hinv.len ▸ hdiv idx hidx) (Nat.mod_lt _ hB)]
      exact work_in_range _ _ _ hinv _ _ (hdiv idx hidx) (Nat.mod_lt _ hB)
    · obtain ⟨i, pos, hi, hp, e⟩ := work_onto _ _ _ hinv s k hk
      refine ⟨2 ^ (12 - la) * i + pos, ?_, (lookup_final _ _ i pos (hinv.len ▸ hi) hp).trans e⟩
      have := Nat.mul_le_mul_left (2 ^ (12 - la)) (Nat.succ_le_of_lt hi)
      rw [Nat.mul_succ] at this
      omega

theorem symDist_build (la : Nat) (hla : la ≤ 12) (d : AnsDist)
    (hlen : d.dist.length = 2 ^ la) (hsum : d.dist.sum = 4096) (s : Nat) (hs : s < d.dist.length) :
    symDist (AnsHist.build la d) s = d.dist.getD s 0 := by
  unfold symDist AnsHist.build
  cases hf : d.dist.findIdx? (· = 4096) with
  | some single => exact congrArg Bucket.dist (getD_map_zipIdx d.dist _ s hs 0 default)
  | none =>
    have hinv : AliasInv _ _ (aliasWork la d) [] [] :=
      inv_aliasLoop _ d.alphabetSize _ (by rw [hsum, hlen, ← Nat.pow_add, Nat.sub_add_cancel hla])
    unfold finalBuckets
    simp only [getD_map_zipIdx _ _ s (hinv.len ▸ hs) default]
    split <;> exact hinv.dist s

theorem alias_symOK (la : Nat) (hla : la ≤ 12) (d : AnsDist)
    (hlen : d.dist.length = 2 ^ la) (hsum : d.dist.sum = 4096) (s : Nat) (hs : d.dist.getD s 0 ≠ 0) :
    AnsSymOK (AnsHist.build la d) s := by
  have := sum_set_zero d.dist s
  unfold AnsSymOK
  rw [symDist_build la hla d hlen hsum s (lt_length_of_getD_ne hs)]
  exact ⟨by omega, by omega, (alias_bijection la hla d hlen hsum).2 s⟩

end Jxl.Entropy
