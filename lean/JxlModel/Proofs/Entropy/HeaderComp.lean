import JxlModel.Proofs.Entropy.Header
import JxlModel.Proofs.Entropy.Cluster
import JxlModel.Proofs.Entropy.Check
/-! Composition of the header, the part after the cluster map: coder kind, configs and histograms
read back as `planDecoder p`, *given* that every histogram header round-trips (`HistRT`); the
one-symbol histogram header of either coder (`prefix_single_rt`, `ans_single_rt`). -/
namespace Jxl.Entropy
open List Jxl.Enc

def HistRT (p : EntropyPlan) : Prop :=
  match p.coder with
  | .prefix => ∀ c ∈ p.codes, ∃ count lens form, c = .lengths count lens form ∧ 1 ≤ count ∧
      count ≤ 2 ^ 15 ∧
      ∀ rest, parsePrefix count (writePrefix count lens form ++ rest) = .ok (c.prefixCode, rest)
  | .ans la => ∀ c ∈ p.codes, ∃ d form, c = .dist d form ∧
      ∀ rest, parseAns la (writeAns d form ++ rest) = .ok (c.ansHist la, rest)

/-- shape conditions (all part of `EntropyPlan.check`) -/
structure HeaderOK (p : EntropyPlan) : Prop where
  lens : p.configs.length = p.numClusters ∧ p.codes.length = p.numClusters
  cmLen : p.clusterMap.length = p.totalDist
  cfgs : ∀ c ∈ p.configs, c.valid p.logAlpha = true
  la : match p.coder with | .prefix => True | .ans la => 5 ≤ la ∧ la ≤ 8
  lz : ∀ q, p.lz77 = some q →
      (q.minSymbol = 224 ∨ q.minSymbol = 512 ∨ q.minSymbol = 4096 ∨
        (8 ≤ q.minSymbol ∧ q.minSymbol < 8 + 2 ^ 15)) ∧
      (3 ≤ q.minLength ∧ q.minLength ≤ 264) ∧ q.lenConf.valid 8 = true
  noHole : ∀ k, k < p.numClusters → k ∈ p.clusterMap
  simple : p.clusterInner = none ∧
    (if p.totalDist = 1 then p.clusterMap = [0]
     else p.clusterNbits ≤ 3 ∧ ∀ x ∈ p.clusterMap, x < 2 ^ p.clusterNbits)

theorem parseInnerRest_encodeCodes (p : EntropyPlan)
    (oklens : p.configs.length = p.numClusters ∧ p.codes.length = p.numClusters)
    (okcfgs : ∀ c ∈ p.configs, c.valid p.logAlpha = true)
    (okla : match p.coder with | .prefix => True | .ans la => 5 ≤ la ∧ la ≤ 8)
    (hrt : HistRT p) (rest : Bits) :
    parseInnerRest p.numClusters p.clusterMap p.lz77 (encodeCodes p ++ rest)
      = .ok (planDecoder p, rest) := by
  obtain ⟨hl1, hl2⟩ := oklens
  have hcfg : p.logAlpha < 2 ^ 32 → ∀ rest, readMany (IntegerConfig.parse p.logAlpha) p.numClusters
      (p.configs.flatMap (writeConfig p.logAlpha) ++ rest) = .ok (p.configs, rest) := fun hla rest =>
    hl1 ▸ readMany_roundtrip _ _ _ (fun c hc r => integerConfig_roundtrip _ hla c (okcfgs c hc) r) rest
  unfold parseInnerRest encodeCodes planDecoder planCode
  unfold HistRT at hrt
  simp only [show p.configs.take p.numClusters = p.configs by rw [← hl1, take_length],
    show p.codes.take p.numClusters = p.codes by rw [← hl2, take_length]]
  unfold EntropyPlan.logAlpha at hcfg ⊢
  cases hc : p.coder with
  | «prefix» =>
    rw [hc] at hrt hcfg
    simp only [cons_append, nil_append, rbool_cons, append_assoc, if_true, hcfg (by decide),
      hl2 ▸ readMany_roundtrip_map readPrefixCount CodeSpec.countBits CodeSpec.count p.codes
        (fun c hcm r => by
          obtain ⟨count, lens, form, rfl, h1, h2, _⟩ := hrt c hcm
          exact readPrefixCount_write count h1 h2 r),
      readEach_roundtrip parsePrefix CodeSpec.prefixHeader CodeSpec.count CodeSpec.prefixCode p.codes
        (fun c hcm r => by
          obtain ⟨count, lens, form, rfl, _, _, h3⟩ := hrt c hcm
          exact h3 r)]
  | ans la =>
    rw [hc] at hrt hcfg okla
    simp only at hrt hcfg okla
    simp only [cons_append, nil_append, rbool_cons, append_assoc, Bool.false_eq_true, if_false,
      rbits_toBits 2 (la - 5) _ (show la - 5 < 2 ^ 2 by omega), show la - 5 + 5 = la by omega,
      hcfg (by omega),
      hl2 ▸ readMany_roundtrip_map (parseAns la) CodeSpec.ansHeader (CodeSpec.ansHist la) p.codes
        (fun c hcm r => by
          obtain ⟨d, form, rfl, h3⟩ := hrt c hcm
          exact h3 r)]

theorem prefix_single_rt (count : Nat) (lens : List Nat) (form : PrefixForm) (l0 s : Nat)
    (h1 : 1 ≤ count) (h15 : count ≤ 2 ^ 15) (hs : s < count)
    (hone : (lens.zipIdx.filter fun (x : Nat × Nat) => x.1 ≠ 0) = [(l0, s)])
    (h0 : count = 1 → s = 0) (rest : Bits) :
    parsePrefix count (writePrefix count lens form ++ rest)
      = .ok ((CodeSpec.lengths count lens form).prefixCode, rest) := by
  have hone' : (lens.zipIdx.filter fun (l, _) => l ≠ 0) = [(l0, s)] := hone
  have hcode : codeOfLens lens = .single s := by
    unfold codeOfLens
    rw [hone']
  have hshape : simpleShape lens = some ([s], none) := by
    unfold simpleShape
    rw [hone']
    rfl
  unfold CodeSpec.prefixCode
  by_cases hc : count ≤ 1
  · have : count = 1 := by omega
    subst this
    simp [writePrefix, parsePrefix]
  · simp only [hc, if_false, hcode]
    have hw : writePrefix count lens form = writeSimple count [s] none := by
      unfold writePrefix
      simp only [hc, if_false, hshape]
      cases form <;> rfl
    rw [hw]
    exact parsePrefix_simple1 count s (by omega) h15 hs rest

theorem ans_single_rt (la : Nat) (d : List Nat) (form : AnsForm) (v : Nat)
    (hform : form = .auto ∨ form = .single)
    (hused : usedSyms d = [v]) (hv : v < d.length) (hlen : d.length ≤ 2 ^ la) (hv8 : v < 256)
    (hd : ∀ i, d.getD i 0 = if i = v then 4096 else 0) (rest : Bits) :
    parseAns la (writeAns d form ++ rest) = .ok ((CodeSpec.dist d form).ansHist la, rest) := by
  have heff : effectiveForm d form = .single := by
    unfold effectiveForm
    rcases hform with rfl | rfl <;> simp [ansFormOk, hused]
  have hw : writeAns d form = [true, false] ++ writeU8 v := by
    unfold writeAns
    simp only [heff, hused, List.getD_cons_zero]
  have halpha : ansAlphabet d form = v + 1 := by
    unfold ansAlphabet
    simp only [heff, hused, List.getD_cons_zero]
  unfold parseAns CodeSpec.ansHist
  rw [hw, parseAns_single la v (by omega) hv8 rest]
  simp only [halpha]
  congr 4
  apply List.ext_getElem
  · simp only [length_set, length_replicate, length_append]
    omega
  · intro i _ _
    rw [getElem_set, getElem_replicate, getElem_eq_getD 0, getD_append_replicate, hd i]
    simp only [eq_comm]

end Jxl.Entropy
