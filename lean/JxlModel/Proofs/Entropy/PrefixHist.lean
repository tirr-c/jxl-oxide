import JxlModel.Proofs.Entropy.PrefixSimple
import JxlModel.Proofs.Entropy.HeaderComp
/-! Every prefix-code histogram header the encoder writes for a code that passes its Boolean
check (`codeOk`) is read back as the code the spec denotes. -/
namespace Jxl.Entropy
open Jxl.Enc

theorem shape_len1 (lens syms : List Nat) (sel : Option Bool)
    (h : simpleShape lens = some (syms, sel)) (h1 : syms.length = 1) :
    ∃ l s, usedL lens = [(l, s)] := by
  rcases shape_ok lens.length lens rfl syms sel h with hu | ⟨pat, ok, hsh⟩
  · exact hu
  · have hl := h1.symm.trans ok.hlp
    rcases hsh with ⟨_, rfl⟩ | ⟨_, rfl⟩ | ⟨_, rfl⟩ | ⟨_, rfl⟩ <;> exact absurd hl (by decide)

theorem codeOk_lengths (count : Nat) (lens : List Nat) (form : PrefixForm) (tokens : List Nat)
    (h : codeOk .prefix tokens (.lengths count lens form) = true) :
    1 ≤ count ∧ count ≤ 2 ^ 15 ∧ lens.length = count ∧ (∀ l ∈ lens, l ≤ 15) ∧
    (count ≠ 1 → ∀ es, codeOfLens lens = .table es → kraft lens = 2 ^ 15) := by
  simp only [codeOk, Bool.and_eq_true, decide_eq_true_eq, beq_iff_eq, List.all_eq_true] at h
  obtain ⟨⟨⟨⟨⟨_, hc1⟩, hc15⟩, hlen⟩, h15⟩, hrest⟩ := h
  refine ⟨hc1, hc15, hlen, h15, fun hone es hcode => ?_⟩
  rw [if_neg hone, hcode] at hrest
  simp only [Bool.and_eq_true, beq_iff_eq] at hrest
  exact hrest.1

theorem prefix_histogram_rt (count : Nat) (lens : List Nat) (form : PrefixForm) (tokens : List Nat)
    (h : codeOk .prefix tokens (.lengths count lens form) = true) (rest : Bits) :
    parsePrefix count (writePrefix count lens form ++ rest)
      = .ok ((CodeSpec.lengths count lens form).prefixCode, rest) := by
  obtain ⟨hc1, hc15, hlen, h15, hkraft⟩ := codeOk_lengths count lens form tokens h
  by_cases hone : count = 1
  · subst hone
    simp [writePrefix, parsePrefix, CodeSpec.prefixCode]
  have h2 : 2 ≤ count := by omega
  by_cases hu : ∃ l s, usedL lens = [(l, s)]
  · obtain ⟨l0, s, hu⟩ := hu
    have hs := (usedL_getD lens l0 s (by rw [hu]; simp)).2.2
    exact prefix_single_rt count lens form l0 s hc1 hc15 (by omega) hu (by omega) rest
  · have hcode : codeOfLens lens = .table (sortedSyms lens) := by
      rw [codeOfLens_eq]
      split
      · rename_i hu'
        exact absurd ⟨_, _, hu'⟩ hu
      · rfl
    have hk : kraft lens = 2 ^ 15 := hkraft hone _ hcode
    simp only [CodeSpec.prefixCode]
    rw [if_neg (by omega), hcode]
    unfold writePrefix
    rw [if_neg (by omega)]
    split
    · rename_i rle hsk s x hs
      exact absurd (shape_len1 lens [s] x hs rfl) hu
    · exact parsePrefix_complex count lens _ _ h2 hc15 hlen h15 hk rest
    · exact parsePrefix_simple count lens _ _ h2 hc15 hlen hk (by assumption) hu rest
    · exact parsePrefix_complex count lens _ _ h2 hc15 hlen h15 hk rest

end Jxl.Entropy
