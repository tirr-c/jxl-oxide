import Mathlib.Data.List.Perm.Basic
import Mathlib.Data.List.Basic
import JxlModel.Model.Entropy.Cluster
import JxlModel.Model.Entropy.Perm
import JxlModel.Proofs.Util
/-! Move-to-front, the hole check, Lehmer codes. -/
namespace Jxl.Entropy
open List

theorem mem_moveToFront {tbl : List Nat} {v x : Nat} (hx : x ∈ tbl) :
    x ∈ v :: tbl.eraseIdx (tbl.idxOf v) := by
  by_cases hxv : x = v
  · subst hxv; simp
  · rw [eraseIdx_idxOf_eq_erase]
    exact mem_cons_of_mem _ ((mem_erase_of_ne hxv).2 hx)

theorem mtf_decode_encode_from (tbl l : List Nat) (h : ∀ x ∈ l, x ∈ tbl) :
    mtfDecodeFrom tbl (mtfEncodeFrom tbl l) = l := by
  induction l generalizing tbl with
  | nil => rfl
  | cons v r ih =>
    simp only [mtfEncodeFrom, mtfDecodeFrom, mtfStep, getD_idxOf (h v (by simp))]
    congr 1
    exact ih _ fun x hx => mem_moveToFront (h x (by simp [hx]))

theorem mtf_decode_encode (l : List Nat) (h : ∀ x ∈ l, x < 256) : mtfDecode (mtfEncode l) = l :=
  mtf_decode_encode_from _ l (fun x hx => List.mem_range.2 (h x hx))

theorem mtf_encode_lt_from (tbl l : List Nat) (h : ∀ x ∈ l, x ∈ tbl) :
    ∀ i ∈ mtfEncodeFrom tbl l, i < tbl.length := by
  induction l generalizing tbl with
  | nil => simp [mtfEncodeFrom]
  | cons v r ih =>
    have hv : v ∈ tbl := h v (by simp)
    have hi := idxOf_lt_length_of_mem hv
    intro i hmem
    simp only [mtfEncodeFrom, mem_cons] at hmem
    rcases hmem with rfl | hmem
    · exact hi
    · have hlen : (v :: tbl.eraseIdx (tbl.idxOf v)).length = tbl.length := by
        rw [List.length_cons, length_eraseIdx_of_lt hi]; omega
      rw [← hlen]
      exact ih _ (fun x hx => mem_moveToFront (h x (by simp [hx]))) i hmem

theorem mtf_encode_lt (l : List Nat) (h : ∀ x ∈ l, x < 256) : ∀ i ∈ mtfEncode l, i < 256 := by
  have := mtf_encode_lt_from (List.range 256) l (fun x hx => List.mem_range.2 (h x hx))
  unfold mtfEncode
  simpa using this

theorem le_listMax (l : List Nat) : ∀ x ∈ l, x ≤ listMax l := by
  induction l with
  | nil => simp
  | cons a r ih =>
    intro x hx
    simp only [mem_cons] at hx
    simp only [listMax]
    rcases hx with rfl | hx
    · omega
    · have := ih x hx; omega

theorem getD_le_listMax (l : List Nat) (i : Nat) : l.getD i 0 ≤ listMax l :=
  getD_of_forall (P := (· ≤ listMax l)) (Nat.zero_le _) (le_listMax l) i

theorem getLastD_le_listMax (l : List Nat) : l.getLastD 0 ≤ listMax l := by
  induction l with
  | nil => simp
  | cons a r ih =>
    cases r with
    | nil => simp [listMax]
    | cons b t =>
      have : (a :: b :: t).getLastD 0 = (b :: t).getLastD 0 := by simp [getLastD]
      rw [this]
      simp only [listMax] at ih ⊢
      omega

theorem checkClusters_ok_iff (cl : List Nat) :
    checkClusters cl = .ok (listMax cl + 1, cl) ↔ ∀ k, k < listMax cl + 1 → k ∈ cl := by
  -- all of `0 .. max` pass the filter that `distinctCount` counts
  have key : distinctCount cl = listMax cl + 1 ↔ ∀ k, k < listMax cl + 1 → k ∈ cl := by
    unfold distinctCount
    have := length_filter_eq_length_iff (p := fun k => cl.contains k) (l := range (listMax cl + 1))
    rw [List.length_range] at this
    simp only [this, mem_range, contains_iff_mem]
  rw [← key]
  unfold checkClusters
  simp only
  split
  · rename_i h
    exact ⟨fun e => (by cases e), fun e => absurd e h⟩
  · rename_i h
    exact ⟨fun _ => Decidable.not_not.1 h, fun _ => rfl⟩

theorem checkClusters_err_iff (cl : List Nat) :
    checkClusters cl = .error .clusterHole ↔ ∃ k, k < listMax cl + 1 ∧ k ∉ cl := by
  -- an error is the failure of `checkClusters_ok_iff`
  rw [show (∃ k, k < listMax cl + 1 ∧ k ∉ cl) ↔ ¬ ∀ k, k < listMax cl + 1 → k ∈ cl by
    simp only [not_forall, exists_prop], ← checkClusters_ok_iff]
  unfold checkClusters
  simp only
  split
  · exact ⟨fun _ h => (by cases h), fun _ => rfl⟩
  · exact ⟨fun h => (by cases h), fun h => absurd rfl h⟩

theorem lehmerApply_code (p temp : List Nat) (hp : p ~ temp) :
    lehmerApply (lehmerCode p temp) temp = p := by
  induction p generalizing temp with
  | nil =>
    have : temp = [] := by simpa using hp.symm
    subst this; rfl
  | cons x r ih =>
    have hx : x ∈ temp := hp.subset (by simp)
    simp only [lehmerCode, lehmerApply, getD_idxOf hx]
    congr 1
    apply ih
    rw [eraseIdx_idxOf_eq_erase]
    exact (perm_cons x).1 (hp.trans (perm_cons_erase hx))

theorem lehmerApply_zeros (k : Nat) (temp : List Nat) (hk : k ≤ temp.length) :
    lehmerApply (List.replicate k 0) temp = temp := by
  induction k generalizing temp with
  | zero => rfl
  | succ k ih =>
    cases temp with
    | nil => simp at hk
    | cons a t =>
      simp only [List.replicate, lehmerApply, List.getD_cons_zero, List.eraseIdx_cons_zero]
      rw [ih t (by simpa using hk)]

theorem lehmerApply_append_zeros (l : List Nat) (k : Nat) (temp : List Nat)
    (h : l.length + k ≤ temp.length) :
    lehmerApply (l ++ List.replicate k 0) temp = lehmerApply l temp := by
  induction l generalizing temp with
  | nil => exact lehmerApply_zeros k temp (by simpa using h)
  | cons i r ih =>
    have : temp.length - 1 ≤ (temp.eraseIdx i).length := by
      rw [List.length_eraseIdx]; split <;> omega
    simp only [List.cons_append, lehmerApply, ih (temp.eraseIdx i) (by simp only [List.length_cons] at h; omega)]

theorem lehmerApply_perm (l temp : List Nat)
    (h : ∀ j, (hj : j < l.length) → l[j] < temp.length - j) :
    lehmerApply l temp ~ temp := by
  induction l generalizing temp with
  | nil => exact Perm.refl _
  | cons i r ih =>
    have hi : i < temp.length := by have := h 0 (by simp); simpa using this
    simp only [lehmerApply]
    rw [← List.getElem_eq_getD (h := hi)]
    have hr : lehmerApply r (temp.eraseIdx i) ~ temp.eraseIdx i := by
      apply ih
      intro j hj
      have := h (j + 1) (by simp; omega)
      simp only [List.getElem_cons_succ] at this
      rw [length_eraseIdx_of_lt hi]; omega
    exact ((perm_cons _).2 hr).trans (getElem_cons_eraseIdx_perm hi)

theorem lehmerCode_length (p temp : List Nat) : (lehmerCode p temp).length = p.length := by
  induction p generalizing temp with
  | nil => rfl
  | cons x r ih => simp [lehmerCode, ih]

theorem dropTrailingZeros_spec (l : List Nat) :
    ∃ k, l = dropTrailingZeros l ++ List.replicate k 0 :=
  ⟨_, (dropTrailingZeros_append l).symm⟩

theorem lehmerApply_trim (code temp : List Nat) (hlen : code.length = temp.length) :
    lehmerApply (dropTrailingZeros code) temp = lehmerApply code temp := by
  obtain ⟨k, hk⟩ := dropTrailingZeros_spec code
  rw [hk] at hlen
  conv => rhs; rw [hk]
  rw [lehmerApply_append_zeros _ k temp (by simpa using Nat.le_of_eq hlen)]

end Jxl.Entropy
