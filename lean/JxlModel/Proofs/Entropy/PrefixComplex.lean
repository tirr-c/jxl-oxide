import JxlModel.Proofs.Entropy.PrefixClc
/-! The complex prefix-code histogram (`parse_complex`) reads back what `writeComplex` writes. -/
namespace Jxl.Entropy
open Jxl.Enc

/-- the `let clc` of `writeComplex` -/
def clcOf (rle : Bool) (lens : List Nat) : List Nat :=
  huffLengths 5 (histogram 18 ((clTokens rle lens).map (·.1)))

/-- the `let hskip` of `writeComplex` -/
def hskipOf (clc : List Nat) (req : Option Nat) : Nat :=
  match req with
  | some h =>
    if (h = 2 ∨ h = 3) ∧ ((codeLengthOrder.take h).all fun i => clc.getD i 0 = 0) then h else 0
  | none =>
    if ((codeLengthOrder.take 3).all fun i => clc.getD i 0 = 0) then 3
    else if ((codeLengthOrder.take 2).all fun i => clc.getD i 0 = 0) then 2 else 0

theorem writeComplex_eq (lens : List Nat) (rle : Bool) (req : Option Nat) :
    writeComplex lens rle req
      = toBits 2 (hskipOf (clcOf rle lens) req)
        ++ writeClc (codeLengthOrder.drop (hskipOf (clcOf rle lens) req)) (clcOf rle lens) 0
        ++ (clTokens rle lens).flatMap (tokBits (codeOfLens (clcOf rle lens))) := by
  rfl

theorem hskipOf_spec (clc : List Nat) (req : Option Nat) :
    (hskipOf clc req = 0 ∨ hskipOf clc req = 2 ∨ hskipOf clc req = 3) ∧
    ∀ i ∈ codeLengthOrder.take (hskipOf clc req), clc.getD i 0 = 0 := by
  unfold hskipOf
  cases req with
  | some h =>
    simp only
    split
    · rename_i hc
      refine ⟨by omega, fun i hi => ?_⟩
      have := hc.2
      rw [List.all_eq_true] at this
      simpa using this i hi
    · exact ⟨by omega, fun i hi => by simp at hi⟩
  | none =>
    simp only
    split
    · rename_i hc
      refine ⟨by omega, fun i hi => ?_⟩
      rw [List.all_eq_true] at hc
      simpa using hc i hi
    · split
      · rename_i hc
        refine ⟨by omega, fun i hi => ?_⟩
        rw [List.all_eq_true] at hc
        simpa using hc i hi
      · exact ⟨by omega, fun i hi => by simp at hi⟩

/-- what the round trip needs to know about `huffLengths 5 (histogram 18 syms)` -/
structure ClcFacts (clc : List Nat) (syms : List Nat) : Prop where
  len : clc.length = 18
  le5 : ∀ l ∈ clc, l ≤ 5
  used : ∀ i, clc.getD i 0 ≠ 0 ↔ i ∈ syms
  alt : (∃ s, (∀ t ∈ syms, t = s) ∧ clc.getD s 0 = 1) ∨
        (kraftN 5 clc = 32 ∧ ∃ a ∈ syms, ∃ b ∈ syms, a ≠ b)

theorem ClcFacts.single {clc syms : List Nat} (F : ClcFacts clc syms) {s : Nat}
    (hs : ∀ t ∈ syms, t = s) (h1 : clc.getD s 0 = 1) : ∀ i, clc.getD i 0 ≠ 0 ↔ i = s := by
  intro i
  rw [F.used i]
  exact ⟨hs i, fun h => by rw [h]; exact (F.used s).1 (by omega)⟩

theorem clcFacts (syms : List Nat) (hne : syms ≠ []) (h18 : ∀ t ∈ syms, t < 18) :
    ClcFacts (huffLengths 5 (histogram 18 syms)) syms := by
  obtain ⟨hl, hc⟩ := histogram_spec 18 syms
  have hfd : ∀ i, (histogram 18 syms).getD i 0 ≠ 0 ↔ i ∈ syms := by
    intro i
    by_cases hi : i < 18
    · rw [hc i hi]
      constructor
      · intro h
        exact List.count_pos_iff.1 (by omega)
      · intro h
        have := List.count_pos_iff.2 h
        omega
    · constructor
      · intro h
        rw [List.getD_eq_getElem?_getD, List.getElem?_eq_none (by omega)] at h
        simp at h
      · intro h
        exact absurd (h18 i h) hi
  obtain ⟨s1, s2, s3, s4, s5⟩ := huffLengths_spec 5 (histogram 18 syms) (by omega) (by omega)
  have hused : ∀ i, (huffLengths 5 (histogram 18 syms)).getD i 0 ≠ 0 ↔ i ∈ syms :=
    fun i => (s3 i).trans (hfd i)
  refine ⟨by rw [s1, hl], s2, hused, ?_⟩
  obtain ⟨s, r, rfl⟩ := List.exists_cons_of_ne_nil hne
  by_cases hall : ∀ t ∈ s :: r, t = s
  · left
    refine ⟨s, hall, ?_⟩
    have hle1 := s5 s fun i hi => hall i ((hfd i).1 hi)
    have hnz := (hused s).2 (by simp)
    have hmem : (huffLengths 5 (histogram 18 (s :: r))).getD s 0 ∈ huffLengths 5 (histogram 18 (s :: r)) := by
      have hs : s < (huffLengths 5 (histogram 18 (s :: r))).length := by
        rw [s1, hl]; exact h18 s (by simp)
      rw [List.getD_eq_getElem?_getD, List.getElem?_eq_getElem hs]
      simp
    have := hle1 _ hmem
    omega
  · right
    have hex : ∃ t ∈ s :: r, t ≠ s := by
      by_contra hcon
      apply hall
      intro t ht
      by_contra hts
      exact hcon ⟨t, ht, hts⟩
    obtain ⟨t, ht, hts⟩ := hex
    refine ⟨?_, t, ht, s, by simp, hts⟩
    exact s4 t s hts ((hfd t).2 ht) ((hfd s).2 (by simp))

theorem codeOfLens_table (clc : List Nat) (a b : Nat) (hab : a ≠ b) (ha : clc.getD a 0 ≠ 0)
    (hb : clc.getD b 0 ≠ 0) : codeOfLens clc = .table (sortedSyms clc) := by
  rw [codeOfLens_eq]
  split
  · rename_i x s heq
    have h1 := usedL_of_getD clc a ha
    have h2 := usedL_of_getD clc b hb
    rw [heq] at h1 h2
    simp only [List.mem_singleton, Prod.mk.injEq] at h1 h2
    omega
  · rfl

theorem ofLengths_complete {lens : List Nat} (hk : kraft lens = 2 ^ 15) :
    PrefixCode.ofLengths lens = .ok (.table (sortedSyms lens)) := if_pos hk

theorem order_nodup : codeLengthOrder.Nodup := by decide
theorem order_lt : ∀ i ∈ codeLengthOrder, i < 18 := by decide
theorem order_mem : ∀ i, i < 18 → i ∈ codeLengthOrder := by decide

theorem readClc_complex (clc syms : List Nat) (F : ClcFacts clc syms) (req : Option Nat)
    (tail : Bits) :
    ∃ st', readClc (codeLengthOrder.drop (hskipOf clc req)) ⟨List.replicate 18 0, 0, 0, 0⟩
        (writeClc (codeLengthOrder.drop (hskipOf clc req)) clc 0 ++ tail) = .ok (st', tail) ∧
      (if st'.nonzeroCount = 1 then (Except.ok (PrefixCode.single st'.nonzeroSym) : Except Err PrefixCode)
       else if st'.bitacc ≠ 32 then .error .invalidPrefixHistogram
       else PrefixCode.ofLengths st'.lens) = .ok (codeOfLens clc) := by
  obtain ⟨_, hfeas⟩ := hskipOf_spec clc req
  generalize hskipOf clc req = hskip at hfeas
  have hnd : (codeLengthOrder.drop hskip).Nodup := order_nodup.sublist (List.drop_sublist _ _)
  have hle5 : ∀ i, clc.getD i 0 ≤ 5 := getD_of_forall (P := (· ≤ 5)) (by omega) F.le5
  have hused : ∀ i, clc.getD i 0 ≠ 0 → i ∈ codeLengthOrder.drop hskip := by
    intro i hi
    have hio := order_mem i (F.len ▸ lt_length_of_getD_ne hi)
    rw [← List.take_append_drop hskip codeLengthOrder, List.mem_append] at hio
    exact hio.resolve_left fun h => hi (hfeas i h)
  have hmass : clcMass clc (codeLengthOrder.drop hskip) = kraftN 5 clc := by
    rw [← clcMass_order clc F.len]
    conv => rhs; rw [← List.take_append_drop hskip codeLengthOrder]
    rw [clcMass_append, (clcMass_eq_zero clc _).2 hfeas, Nat.zero_add]
  have hcnt := clcMass_le clc (codeLengthOrder.drop hskip) (fun i _ => hle5 i)
  have key := fun hb => readClc_write clc tail (codeLengthOrder.drop hskip)
    ⟨List.replicate 18 0, 0, 0, 0⟩ hnd (fun i _ => hle5 i) (by simpa using hb) (by simp)
    (by simp [F.len]) (fun i hi => F.len ▸ order_lt i (List.mem_of_mem_drop hi))
    (fun i => by
      rw [getD_replicate]
      split
      · rfl
      · rename_i hi; exact (Decidable.byContradiction fun h => hi (hused i (Ne.symm h))))
  simp only [Nat.zero_add] at key
  rcases F.alt with ⟨s, hs, h1⟩ | ⟨hk, a, ha, b, hb, hab⟩
  · have hiff := F.single hs h1
    have hnz : clcNz clc (codeLengthOrder.drop hskip) = [s] :=
      eq_singleton_of_nodup (hnd.sublist List.filter_sublist)
        (List.mem_filter.2 ⟨hused s (by omega), decide_eq_true (by omega)⟩)
        (fun i hi => (hiff i).1 (of_decide_eq_true (List.mem_filter.1 hi).2))
    rw [hnz] at hcnt key
    refine ⟨_, key (Nat.le_trans hcnt (by simp)), ?_⟩
    simp only [List.length_singleton, List.getLast?_singleton, Option.getD_some, if_true]
    rw [codeOfLens_single clc s h1 (fun i => (hiff i).1)]
  · rw [hmass, hk] at hcnt key
    refine ⟨_, key (Nat.le_refl _), ?_⟩
    simp only
    rw [if_neg (by omega), if_neg (by simp)]
    rw [ofLengths_complete (by rw [kraft_of_kraftN5 clc F.le5, hk]; rfl),
      codeOfLens_table clc a b hab ((F.used a).2 ha) ((F.used b).2 hb)]

theorem tokRead_clc (clc syms : List Nat) (F : ClcFacts clc syms) (t : Nat) (ht : t ∈ syms) :
    TokRead (codeOfLens clc) t := by
  rcases F.alt with ⟨s, hs, h1⟩ | ⟨hk, a, ha, b, hb, hab⟩
  · have hiff := F.single hs h1
    rw [codeOfLens_single clc s h1 (fun i => (hiff i).1), hs t ht]
    intro rest
    rfl
  · rw [codeOfLens_table clc a b hab ((F.used a).2 ha) ((F.used b).2 hb)]
    intro rest
    exact (prefix_read_encode clc (fun l hl => by have := F.le5 l hl; omega)
      (by rw [kraft_of_kraftN5 clc F.le5, hk]; decide) t ((F.used t).2 ht) rest).1

theorem TokOK.lt {t : ClTok} (h : TokOK t) : t.1 < 18 := by
  rcases h with ⟨h, _⟩ | ⟨b, ⟨h, _⟩ | ⟨h, _⟩, _⟩ <;> omega

/-- behind `C04_prefix_complex_roundtrip` -/
theorem parsePrefix_complex (count : Nat) (lens : List Nat) (rle : Bool) (req : Option Nat)
    (h2 : 2 ≤ count) (hc15 : count ≤ 2 ^ 15) (hlen : lens.length = count)
    (h15 : ∀ l ∈ lens, l ≤ 15) (hk : kraft lens = 2 ^ 15) (rest : Bits) :
    parsePrefix count (writeComplex lens rle req ++ rest) = .ok (.table (sortedSyms lens), rest) := by
  obtain ⟨hout, hok⟩ := toksOut_clTokens rle lens h15 (by omega) {} (by decide)
  have hne : clTokens rle lens ≠ [] := fun h => by
    rw [h, toksOut] at hout
    rw [← kraft_trim, ← hout] at hk
    cases hk
  have F : ClcFacts (clcOf rle lens) ((clTokens rle lens).map (·.1)) :=
    clcFacts _ (by simpa using hne) (by
      intro t ht
      obtain ⟨x, hx, rfl⟩ := List.mem_map.1 ht
      exact (hok x hx).lt)
  obtain ⟨hhs, _⟩ := hskipOf_spec (clcOf rle lens) req
  rw [writeComplex_eq]
  unfold parsePrefix
  rw [if_neg (by omega), if_neg (by omega)]
  simp only [List.append_assoc]
  rw [rbits_toBits 2 _ _ (by omega)]
  simp only
  rw [if_neg (by omega)]
  unfold parseComplex
  obtain ⟨st', e1, e2⟩ := readClc_complex (clcOf rle lens) _ F req
    ((clTokens rle lens).flatMap (tokBits (codeOfLens (clcOf rle lens))) ++ rest)
  rw [e1]
  simp only [e2]
  have hlc := trimTZ_length_le lens
  obtain ⟨f1, f2, f3⟩ := reads_toks (codeOfLens (clcOf rle lens)) rest (clTokens rle lens) {}
    (count - (trimTrailingZeros lens).length) []
    (fun t ht => ⟨hok t ht, tokRead_clc _ _ F t.1 (List.mem_map.2 ⟨t, ht, rfl⟩)⟩) rfl
    (by rw [hout, kraft_trim, hk]; exact Nat.le_refl _) (by rw [hout]; exact trim_last lens)
  rw [hout, kraft_trim, hk] at f3
  -- the lengths fill the code space, so the loop stops after the last token
  rw [hout, Nat.add_sub_cancel' (by omega), lensK_run (Or.inl (by decide)), lensK,
    if_pos ⟨f3, f2⟩] at f1
  rw [f1]
  simp only
  rw [if_neg (by rw [f2, f3]; simp)]
  rw [List.append_nil, List.reverse_reverse, List.length_reverse, ← hlen, trim_append_zeros,
    ofLengths_complete hk]

end Jxl.Entropy
