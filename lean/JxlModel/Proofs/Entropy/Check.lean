import JxlModel.Proofs.Entropy.Lz
import JxlModel.Proofs.Entropy.Alias
import JxlModel.Proofs.Entropy.Cluster
/-! The encoder's Boolean `EntropyPlan.check` implies the semantic hypotheses of the stream
theorems (`ToksOK`, `ItemsOK`, `CfgOK`). -/
namespace Jxl.Entropy
open List Jxl.Enc

theorem cfgOK_of_valid (c : IntegerConfig) (la : Nat) (h : c.valid la = true) : CfgOK c := by
  unfold IntegerConfig.valid at h
  unfold CfgOK
  simp only [Bool.and_eq_true, decide_eq_true_eq] at h
  obtain ⟨_, h2⟩ := h
  split at h2
  · simp only [Bool.and_eq_true, beq_iff_eq] at h2; omega
  · simpa using h2

theorem clusterOf_lt (p : EntropyPlan) (c : Nat) : p.clusterOf c < p.numClusters := by
  have := getD_le_listMax p.clusterMap c
  unfold EntropyPlan.clusterOf EntropyPlan.numClusters; omega

theorem lzCluster_lt (p : EntropyPlan) : p.lzCluster < p.numClusters := by
  have := getLastD_le_listMax p.clusterMap
  unfold EntropyPlan.lzCluster EntropyPlan.numClusters; omega

theorem tok_cluster_lt (p : EntropyPlan) (items : List Item) (t : Tok) (ht : t ∈ p.toks items) :
    t.cluster < p.numClusters := by
  unfold EntropyPlan.toks at ht
  rw [mem_flatMap] at ht
  obtain ⟨i, _, hi⟩ := ht
  cases i with
  | lit c v =>
    simp only [EntropyPlan.itemToks, mem_singleton] at hi
    subst hi
    exact clusterOf_lt p c
  | copy c len dc =>
    simp only [EntropyPlan.itemToks] at hi
    cases hlz : p.lz77 with
    | none => rw [hlz] at hi; simp at hi
    | some lz =>
      rw [hlz] at hi
      simp only [mem_cons, not_mem_nil, or_false] at hi
      rcases hi with rfl | rfl
      · exact clusterOf_lt p c
      · exact lzCluster_lt p

theorem prefixSymOK_of_codeOk (tokens : List Nat) (c : CodeSpec) (h : codeOk .prefix tokens c = true)
    (t : Nat) (ht : t ∈ tokens) : PrefixSymOK c.prefixCode t := by
  cases c with
  | lengths count lens form =>
    simp only [codeOk, Bool.and_eq_true, decide_eq_true_eq, beq_iff_eq, all_eq_true] at h
    obtain ⟨⟨⟨⟨⟨_, h1⟩, h2⟩, h3⟩, h4⟩, h5⟩ := h
    unfold CodeSpec.prefixCode
    by_cases hc : count = 1
    · simp only [hc, if_true, all_eq_true, decide_eq_true_eq] at h5
      have : count ≤ 1 := by omega
      simp only [this, if_true]
      left; rw [h5 t ht]
    · have hc' : ¬ count ≤ 1 := by omega
      simp only [hc, if_false] at h5
      simp only [hc', if_false]
      cases hcode : codeOfLens lens with
      | single s =>
        rw [hcode] at h5
        simp only [all_eq_true, decide_eq_true_eq] at h5
        left; rw [h5 t ht]
      | table es =>
        rw [hcode] at h5
        simp only [Bool.and_eq_true, beq_iff_eq, all_eq_true, decide_eq_true_eq] at h5
        right
        have hes : es = sortedSyms lens := by
          unfold codeOfLens at hcode
          split at hcode
          · cases hcode
          · cases hcode; rfl
        subst hes
        exact ⟨lens, rfl, fun l hl => by simpa using h4 l hl, by omega, h5.2 t ht⟩
  | dist d form => simp [codeOk] at h
  | auto a b => simp [codeOk] at h

theorem ansSymOK_of_codeOk (la : Nat) (tokens : List Nat) (c : CodeSpec)
    (h : codeOk (.ans la) tokens c = true) (t : Nat) (ht : t ∈ tokens) :
    AnsSymOK (c.ansHist la) t := by
  cases c with
  | lengths count lens form => simp [codeOk] at h
  | auto a b => simp [codeOk] at h
  | dist d form =>
    simp only [codeOk, Bool.and_eq_true, decide_eq_true_eq, beq_iff_eq, all_eq_true] at h
    obtain ⟨⟨⟨⟨h1, h2⟩, h3⟩, h4⟩, h5⟩ := h
    unfold CodeSpec.ansHist
    apply alias_symOK la (Nat.le_trans h2 (by decide))
    · simp only [length_append, length_replicate]; omega
    · rw [sum_append, sum_replicate_nat, Nat.mul_zero, Nat.add_zero, ← h4]
      exact sum_eq_foldl_nat
    · simp only
      rw [getD_append_replicate]
      simpa using h5 t ht

structure CheckDFacts (depth : Nat) (p : EntropyPlan) (items : List Item) : Prop where
  cmLen : p.clusterMap.length = p.totalDist
  tot : 1 ≤ p.totalDist
  nc256 : p.numClusters ≤ 256
  distinct : distinctCount p.clusterMap = p.numClusters
  ncfg : p.numClusters ≤ p.configs.length
  ncode : p.numClusters ≤ p.codes.length
  cfgs : ∀ c ∈ p.configs.take p.numClusters, c.valid p.logAlpha = true
  inner : match depth, p.clusterInner with
    | d+1, some (mtf, ip) => ip.numDist = 1 ∧ (p.totalDist > 2 ∨ ip.lz77 = none) ∧
        ip.checkD d ((clusterIds mtf p.clusterMap).map fun v => Item.lit 0 v) = true
    | _, some _ => False
    | _, none => p.totalDist = 1 ∨ (p.clusterNbits ≤ 3 ∧ ∀ x ∈ p.clusterMap, x < 2 ^ p.clusterNbits)
  lz : ∀ q, p.lz77 = some q →
      (q.minSymbol = 224 ∨ q.minSymbol = 512 ∨ q.minSymbol = 4096 ∨
        (8 ≤ q.minSymbol ∧ q.minSymbol < 8 + 2 ^ 15)) ∧
      (3 ≤ q.minLength ∧ q.minLength ≤ 264) ∧ q.lenConf.valid 8 = true
  codes : ∀ c ∈ p.codes.take p.numClusters, ∃ tokens, codeOk p.coder tokens c = true

theorem itemsOK_true_of (p : EntropyPlan) (items : List Item)
    (h : ∀ i ∈ items, ItemOK p True i) : ItemsOK p items True := by
  induction items with
  | nil => trivial
  | cons i r ih => exact ⟨h i (by simp), ih (fun j hj => h j (by simp [hj]))⟩

theorem itemsOK_false_of (p : EntropyPlan) (items : List Item) (h : ∀ i ∈ items, ItemOK p True i)
    (hf : (match (generalizing := false) items with | .copy .. :: _ => false | _ => true) = true) : ItemsOK p items False := by
  rcases items with _ | ⟨_ | _, r⟩
  · trivial
  · exact ⟨h _ (mem_cons_self ..), itemsOK_true_of p r fun j hj => h j (mem_cons_of_mem _ hj)⟩
  · cases hf

theorem getD_mem_take {α : Type} {l : List α} {n i : Nat} (hi : i < n) (hl : i < l.length) (d : α) :
    l.getD i d ∈ l.take n := by
  rw [getD_eq_getElem l i hl, List.mem_iff_getElem?]
  exact ⟨i, by rw [getElem?_take_of_lt hi, getElem?_eq_getElem hl]⟩

/-- `checkD` taken apart once: the header side (`CheckDFacts`) and the hypotheses of the stream
theorems -/
theorem checkD_facts (depth : Nat) (p : EntropyPlan) (items : List Item)
    (h : p.checkD depth items = true) :
    CheckDFacts depth p items ∧ ToksOK p (p.toks items) ∧
    ((∀ i ∈ items, match i with | .copy _ len _ => len < 2 ^ 32 | .lit _ _ => True) →
      ItemsOK p items False) := by
  unfold EntropyPlan.checkD at h
  simp only [Bool.and_eq_true] at h
  -- the names follow the conjuncts of `checkD` in order
  obtain ⟨⟨⟨⟨⟨⟨⟨⟨⟨⟨cmLen, tot⟩, nc256⟩, distinct⟩, ncfg⟩, ncode⟩, cfgs⟩, inner⟩, lzItems⟩, vals⟩, codes⟩ := h
  simp only [decide_eq_true_eq, beq_iff_eq] at cmLen tot nc256 distinct ncfg ncode
  rw [all_eq_true] at cfgs vals codes
  have hcfg : ∀ i, i < p.numClusters → CfgOK (p.config i) := fun i hi =>
    cfgOK_of_valid _ _ (cfgs _ (getD_mem_take hi (by omega) _))
  -- each token belongs to a cluster below `numClusters`, whose code `check` has tested against it
  have key : ∀ t ∈ p.toks items, t.cluster < p.codes.length ∧
      codeOk p.coder (((p.toks items).filter fun t' => t'.cluster = t.cluster).map (·.sym))
        (p.codes.getD t.cluster default) = true ∧
      t.sym ∈ ((p.toks items).filter fun t' => t'.cluster = t.cluster).map (·.sym) := fun t ht =>
    have hi := tok_cluster_lt p items t ht
    have hlt : t.cluster < p.codes.length := by omega
    ⟨hlt, codes (p.codes.getD t.cluster default, t.cluster) (by
        rw [mem_zipIdx_iff_getElem?]
        simp only
        rw [getElem?_take_of_lt hi, getElem?_eq_getElem hlt, ← getElem_eq_getD (h := hlt)]),
      mem_map.2 ⟨t, mem_filter.2 ⟨ht, by simp⟩, rfl⟩⟩
  have htoks : ToksOK p (p.toks items) := by
    unfold ToksOK
    cases hc : p.coder with
    | «prefix» =>
      intro t ht
      obtain ⟨hl, hcode, hmem⟩ := key t ht
      rw [getD_map _ _ _ hl default]
      exact prefixSymOK_of_codeOk _ _ (hc ▸ hcode) t.sym hmem
    | ans la =>
      intro t ht
      obtain ⟨hl, hcode, hmem⟩ := key t ht
      rw [getD_map _ _ _ hl default]
      exact ansSymOK_of_codeOk la _ _ (hc ▸ hcode) t.sym hmem
  refine ⟨⟨cmLen, tot, nc256, distinct, ncfg, ncode, cfgs, ?_, fun q hq => ?_, fun c hc => ?_⟩, htoks,
    fun hlen => ?_⟩
  · rcases hin : p.clusterInner with _ | ⟨mtf, ip⟩ <;> rw [hin] at inner <;> cases depth <;>
      simp only [Bool.or_eq_true, beq_iff_eq, Bool.and_eq_true, decide_eq_true_eq, all_eq_true,
        Option.isNone_iff_eq_none, Bool.false_eq_true, and_assoc] at inner <;> exact inner
  · rw [hq] at lzItems
    simp only [Bool.and_eq_true, decide_eq_true_eq, Bool.or_eq_true, beq_iff_eq] at lzItems
    exact ⟨by omega, ⟨lzItems.1.1.1.1.2, lzItems.1.1.1.2⟩, lzItems.1.1.1.1.1⟩
  · obtain ⟨i, hi1, hi2⟩ := List.getElem_of_mem hc
    exact ⟨_, codes (c, i) (by rw [mem_zipIdx_iff_getElem?, List.getElem?_eq_getElem hi1, hi2])⟩
  cases hq : p.lz77 with
  | none =>
    rw [hq, all_eq_true] at lzItems
    refine itemsOK_false_of p items (fun i hi => ?_) ?_
    · have := lzItems i hi
      have hv := vals i hi
      cases i with
      | lit c v => exact ⟨by simpa using hv, hcfg _ (clusterOf_lt p c), fun q hq' => (nomatch hq.symm.trans hq')⟩
      | copy c len dc => simp at this
    · rcases items with _ | ⟨_ | _, r⟩
      · rfl
      · rfl
      · simpa using lzItems _ (mem_cons_self ..)
  | some q =>
    rw [hq] at lzItems
    simp only [Bool.and_eq_true, decide_eq_true_eq, Bool.or_eq_true, beq_iff_eq, all_eq_true] at lzItems
    obtain ⟨⟨⟨⟨⟨hvalid, h3⟩, h264⟩, hms⟩, hfirst⟩, hall⟩ := lzItems
    refine itemsOK_false_of p items (fun i hi => ?_) hfirst
    have := hall i hi
    have hv := vals i hi
    have hl := hlen i hi
    cases i with
    | lit c v =>
      simp only [Bool.and_eq_true, decide_eq_true_eq] at this
      exact ⟨by simpa using hv, hcfg _ (clusterOf_lt p c), fun q' hq' => Option.some.inj (hq.symm.trans hq') ▸ this.2⟩
    | copy c len dc =>
      simp only [Bool.and_eq_true, decide_eq_true_eq] at this
      exact ⟨trivial, by simpa using hv, hl, by omega, hcfg _ (lzCluster_lt p), q, hq, this.1.2,
        cfgOK_of_valid _ 8 hvalid⟩

/-- stands behind `C04_entropy_roundtrip_checked` -/
theorem check_roundtrip {depth : Nat} (p : EntropyPlan) (mult : Nat) (items : List Item) (ctxs : List Nat)
    (rest : Bits) (hctx : CtxsFor items ctxs) (h : p.checkD depth items = true)
    (hlen : ∀ i ∈ items, match i with | .copy _ len _ => len < 2 ^ 32 | .lit _ _ => True) :
    ∃ st0 s0 st1,
      (planDecoder p).begin {} (encodeItems p items ++ rest) = .ok (st0, s0) ∧
      (planDecoder p).readSeq mult ctxs st0 s0 = .ok ((expandItems mult items, st1), rest) ∧
      (planDecoder p).finalize st1 = .ok () :=
  have ⟨_, htoks, hitems⟩ := checkD_facts depth p items h
  stream_roundtrip p mult items ctxs rest hctx (hitems hlen) htoks

end Jxl.Entropy
