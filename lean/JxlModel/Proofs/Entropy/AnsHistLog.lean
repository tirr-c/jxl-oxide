import JxlModel.Proofs.Entropy.Header
import JxlModel.Proofs.Entropy.AnsHistRuns
/-! General ANS histogram header, first decoder loop (`readLogCounts`): over the bits `logBitsAt`
written index by index, the loop rebuilds the code list `codeAt`, the run list and the omitted
position. -/
namespace Jxl.Entropy
open Jxl Jxl.Enc

def logBitsAt (x : Nat → Nat) (rs : List (Nat × Nat)) (i : Nat) : Bits :=
  match startAt rs i with
  | some (_, l) => writeLogCount 13 ++ writeU8 (l - 4)
  | none => if inRunB rs i then [] else writeLogCount (logCount (x i))

/-- the decoder's `dist[i]` after the first loop: in a run the marker at its first index and `0`
after it, else the log count -/
def codeAt (x : Nat → Nat) (rs : List (Nat × Nat)) (i : Nat) : Nat :=
  if inRunB rs i then (if startAt rs i = none then 0 else 13) else logCount (x i)

/-- `(start, len)` to `(start, end)` -/
def runConv (r : Nat × Nat) : Nat × Nat := (r.1, r.1 + r.2)

/-- update of `omit_data` at a normal index -/
def omNext (om : Option (Nat × Nat)) (c idx : Nat) : Option (Nat × Nat) :=
  match om with
  | some (log, pos) => if c > log then some (c, idx) else some (log, pos)
  | none => some (c, idx)

theorem range'_split (lo n l : Nat) (h : l ≤ n) :
    List.range' lo n = List.range' lo l ++ List.range' (lo + l) (n - l) := by
  rw [List.range'_append_1]
  congr 1; omega

theorem logBitsAt_normal {x : Nat → Nat} {rs : List (Nat × Nat)} {i : Nat}
    (h : startAt rs i = none ∧ inRunB rs i = false) : logBitsAt x rs i = writeLogCount (logCount (x i)) := by
  simp [logBitsAt, h.1, h.2]

theorem codeAt_normal {x : Nat → Nat} {rs : List (Nat × Nat)} {i : Nat}
    (h : inRunB rs i = false) : codeAt x rs i = logCount (x i) := by
  simp [codeAt, h]

theorem run_emit {x : Nat → Nat} {op a s l : Nat} {tl : List (Nat × Nat)}
    (hrs : RunsOK x op a s ((s, l) :: tl)) (n : Nat) (hn : l ≤ n) :
    (List.range' s n).flatMap (logBitsAt x ((s, l) :: tl))
      = writeLogCount 13 ++ writeU8 (l - 4) ++ (List.range' (s + l) (n - l)).flatMap (logBitsAt x tl)
    ∧ (List.range' s n).map (codeAt x ((s, l) :: tl))
      = 13 :: List.replicate (l - 1) 0 ++ (List.range' (s + l) (n - l)).map (codeAt x tl) := by
  have hl : 1 ≤ l := Nat.le_trans (by decide) hrs.2.1.len4
  have h1 : ∀ j ∈ List.range' (s + 1) (l - 1),
      logBitsAt x ((s, l) :: tl) j = [] ∧ codeAt x ((s, l) :: tl) j = 0 := by
    intro j hj
    rw [List.mem_range'_1] at hj
    rw [logBitsAt, codeAt, startAt_cons, if_neg (by omega), (hrs.2.2.kind_out (by omega)).1,
      inRunB_cons, decide_eq_true (by omega)]
    exact ⟨rfl, rfl⟩
  have h2 : ∀ j ∈ List.range' (s + l) (n - l),
      logBitsAt x ((s, l) :: tl) j = logBitsAt x tl j ∧ codeAt x ((s, l) :: tl) j = codeAt x tl j := by
    intro j hj
    rw [List.mem_range'_1] at hj
    rw [logBitsAt, codeAt, startAt_cons, if_neg (by omega), inRunB_cons, decide_eq_false (by omega)]
    exact ⟨rfl, rfl⟩
  rw [range'_split s n l hn, range'_split s l 1 hl, List.range'_one, List.flatMap_append,
    List.flatMap_append, List.map_append, List.map_append, List.flatMap_singleton, List.map_singleton,
    List.flatMap_eq_nil_iff.2 fun j hj => (h1 j hj).1, List.map_eq_replicate_iff.2 fun j hj => (h1 j hj).2,
    List.length_range', List.flatMap_def, List.flatMap_def, List.map_congr_left fun j hj => (h2 j hj).1,
    List.map_congr_left fun j hj => (h2 j hj).2]
  constructor
  · simp only [logBitsAt, startAt_cons, if_pos, List.append_nil]
  · simp only [codeAt, startAt_cons, inRunB_cons, if_pos, decide_eq_true (show s ≤ s ∧ s < s + l by omega)]
    rfl

theorem readLogCounts_done (a f idx : Nat) (st : LogState) (s : Bits) (h : idx ≥ a) :
    readLogCounts a f idx st s = .ok (st, s) := by
  cases f with
  | zero => rfl
  | succ f => rw [readLogCounts, if_pos h]

/-- what the decoder knows about the omitted position before index `i`: up to `op` any stored code
is smaller than the one at `op`, past `op` that one is stored -/
def OmInv (x : Nat → Nat) (op i : Nat) (om : Option (Nat × Nat)) : Prop :=
  (i ≤ op → ∀ c p, om = some (c, p) → c < logCount (x op)) ∧
  (op < i → om = some (logCount (x op), op))

theorem OmInv.step {x : Nat → Nat} {op i : Nat} {om : Option (Nat × Nat)}
    (hmax : ∀ j, logCount (x j) ≤ logCount (x op))
    (hfirst : ∀ j, j < op → logCount (x j) < logCount (x op))
    (h : OmInv x op i om) : OmInv x op (i + 1) (omNext om (logCount (x i)) i) := by
  refine ⟨fun h1 c p e => ?_, fun h1 => ?_⟩
  · -- before `op`: the stored code is the old one or the one at `i`, both smaller
    have hlt := hfirst i h1
    cases om with
    | none => cases e; exact hlt
    | some lp =>
      simp only [omNext] at e
      split at e
      · cases e; exact hlt
      · exact h.1 (by omega) c p e
  · by_cases h2 : i = op
    · -- at `op`: its code is larger than the stored one
      subst h2
      cases om with
      | none => rfl
      | some lp => exact if_pos (h.1 (Nat.le_refl _) _ _ rfl)
    · -- past `op`: no code is larger
      have hm := hmax i
      rw [h.2 (by omega)]
      exact if_neg (by omega)

theorem OmInv.skip {x : Nat → Nat} {op i i' : Nat} {om : Option (Nat × Nat)}
    (hno : ∀ j, i ≤ j → j < i' → j ≠ op) (hle : i ≤ i') (h : OmInv x op i om) : OmInv x op i' om := by
  have := hno op
  exact ⟨fun h1 => h.1 (by omega), fun h1 => h.2 (by omega)⟩

theorem readLogCounts_main {x : Nat → Nat} {op a : Nat} (hop : op < a)
    (hlc : ∀ j, logCount (x j) ≤ 12)
    (hmax : ∀ j, logCount (x j) ≤ logCount (x op))
    (hfirst : ∀ j, j < op → logCount (x j) < logCount (x op)) :
    ∀ (n i : Nat) (rs : List (Nat × Nat)) (cs : List Nat) (rn : List (Nat × Nat))
      (om : Option (Nat × Nat)) (f : Nat) (rest : Bits),
      i + n = a → n ≤ f → RunsOK x op a i rs → OmInv x op i om →
      readLogCounts a f i ⟨cs, rn, om⟩ ((List.range' i n).flatMap (logBitsAt x rs) ++ rest)
        = .ok (⟨((List.range' i n).map (codeAt x rs)).reverse ++ cs, (rs.map runConv).reverse ++ rn,
                some (logCount (x op), op)⟩, rest) := by
  intro n
  -- strong induction, because a run consumes `l` indices in one round
  induction n using Nat.strong_induction_on with
  | _ n ih =>
  intro i rs cs rn om f rest hia hnf hrs hom
  cases n with
  | zero =>
    have hrs0 : rs = [] := by
      cases rs with
      | nil => rfl
      | cons r tl =>
        have h1 := hrs.1
        have h2 := hrs.2.1.inA
        have h3 := hrs.2.1.len4
        omega
    rw [readLogCounts_done a f i _ _ (by omega), hrs0, hom.2 (by omega)]
    rfl
  | succ n =>
    obtain ⟨f, rfl⟩ : ∃ f', f = f' + 1 := ⟨f - 1, by omega⟩
    have hci := hlc i
    rcases hrs.here with hrs' | ⟨l, tl, rfl⟩
    · have hk := hrs'.kind_out (Or.inl (Nat.lt_succ_self i))
      rw [List.range'_succ, List.flatMap_cons, List.map_cons, logBitsAt_normal hk, codeAt_normal hk.2,
        List.append_assoc, readLogCounts, if_neg (by omega), readLogCount_write _ (by omega)]
      simp only
      rw [if_neg (by omega)]
      -- the update of `omit_data` in the body is `omNext`
      refine (ih n (by omega) (i + 1) rs _ _ _ f rest (by omega) (by omega) hrs'
        (hom.step hmax hfirst)).trans ?_
      simp
    · have hok := hrs.2.1
      have hl4 : 4 ≤ l := hok.len4
      have hl259 : l ≤ 259 := hok.len259
      have hin : i + l ≤ a := hok.inA
      obtain ⟨hb, hc⟩ := run_emit hrs (n + 1) (by omega)
      rw [hb, hc, List.append_assoc, List.append_assoc, readLogCounts, if_neg (by omega),
        readLogCount_write 13 (by omega)]
      simp only
      rw [if_pos trivial, readU8_writeU8 (l - 4) (by omega)]
      simp only
      rw [Nat.sub_add_cancel hl4, if_neg (by omega), ih (n + 1 - l) (by omega) (i + l) tl _ _ _ f rest
        (by omega) (by omega) (hrs.2.2.mono (Nat.le_succ _))
        (hom.skip hok.noOp (by omega))]
      simp [runConv]

end Jxl.Entropy
