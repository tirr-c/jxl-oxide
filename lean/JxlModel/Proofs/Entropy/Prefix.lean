import Mathlib.Tactic.Ring
import Mathlib.Tactic.Linarith
import Mathlib.Tactic.IntervalCases
import Mathlib.Data.List.Basic
import JxlModel.Model.Entropy.Prefix
import JxlModel.Proofs.Entropy.Reader
/-! Canonical prefix codes: decoding the codeword of a symbol returns the symbol and consumes
exactly the codeword, for every complete (or merely Kraft-feasible) length vector. -/
namespace Jxl.Entropy
open List

/-- Kraft mass (scaled by 2^15) of an entry list -/
def total : List (Nat × Nat) → Nat
  | [] => 0
  | e :: r => 2 ^ (15 - e.2) + total r

theorem total_append (a b : List (Nat × Nat)) : total (a ++ b) = total a + total b := by
  induction a with
  | nil => simp [total]
  | cons e r ih => simp only [cons_append, total, ih, Nat.add_assoc]

/-- In an entry list sorted by length whose widths all divide the left end `acc`, every entry starts
at a multiple of its own width (a later width divides an earlier one). -/
theorem walk_codeword (es : List (Nat × Nat)) (acc sym l : Nat) (rest : Bits)
    (hs : es.Pairwise (fun a b => a.2 ≤ b.2)) (hle : ∀ e ∈ es, e.2 ≤ 15)
    (hd : ∀ e ∈ es, 2 ^ (15 - e.2) ∣ acc) (htot : acc + total es ≤ 2 ^ 15)
    (hmem : (sym, l) ∈ es) (hfun : ∀ l', (sym, l') ∈ es → l' = l) :
    ∃ w, codeword sym acc es = some w ∧ w.length = l ∧
      walk (msbVal 15 (w ++ rest)) acc es = some (sym, l) ∧ acc ≤ msbVal 15 (w ++ rest) := by
  induction es generalizing acc with
  | nil => cases hmem
  | cons e r ih =>
    obtain ⟨s, l'⟩ := e
    simp only [total] at htot
    have hpos : 0 < 2 ^ (15 - l') := Nat.pos_of_ne_zero (by simp)
    simp only [codeword, walk]
    by_cases hsym : s = sym
    · subst hsym
      obtain rfl := hfun l' mem_cons_self
      have hv := msbVal_codeword 15 l' acc rest (hle _ mem_cons_self) (hd _ mem_cons_self)
        (by omega)
      have hlt := msbVal_lt (15 - l') rest
      rw [if_pos rfl]
      exact ⟨_, rfl, toBitsMSB_length _ _, by rw [if_pos (by omega)], by omega⟩
    · obtain ⟨hsl, hsr⟩ := pairwise_cons.1 hs
      obtain ⟨w, h1, h2, h3, h4⟩ := ih (acc + 2 ^ (15 - l')) hsr (fun e he => hle e (mem_cons_of_mem _ he))
        (fun e he => Nat.dvd_add (hd e (mem_cons_of_mem _ he))
          (Nat.pow_dvd_pow 2 (by have := hsl e he; omega)))
        (by omega) ((mem_cons.1 hmem).resolve_left fun h => hsym (Prod.mk.inj h).1.symm)
        (fun l'' h => hfun l'' (mem_cons_of_mem _ h))
      rw [if_neg hsym]
      exact ⟨w, h1, h2, by rw [if_neg (by omega), h3], by omega⟩

theorem mem_symsOfLen (l : Nat) (z : List (Nat × Nat)) (e : Nat × Nat) :
    e ∈ symsOfLen l z ↔ e.2 = l ∧ (l, e.1) ∈ z := by
  induction z with
  | nil => simp [symsOfLen]
  | cons a r ih =>
    obtain ⟨len, sym⟩ := a
    obtain ⟨es, el⟩ := e
    simp only [symsOfLen]
    split
    · simp only [mem_cons, ih, Prod.mk.injEq]
      grind
    · simp only [mem_cons, ih, Prod.mk.injEq]
      grind

theorem mem_sortedSyms (lens : List Nat) (s l : Nat) :
    (s, l) ∈ sortedSyms lens ↔ 1 ≤ l ∧ l ≤ 15 ∧ lens[s]? = some l := by
  unfold sortedSyms
  simp only [mem_flatMap, mem_range, mem_symsOfLen, mem_zipIdx_iff_getElem?]
  constructor
  · rintro ⟨a, ha, h1, h2⟩
    subst h1
    exact ⟨by omega, by omega, h2⟩
  · rintro ⟨h1, h2, h3⟩
    refine ⟨l - 1, by omega, by omega, ?_⟩
    rw [show l - 1 + 1 = l by omega]; exact h3

theorem symsOfLen_len (l : Nat) (z : List (Nat × Nat)) : ∀ e ∈ symsOfLen l z, e.2 = l := by
  intro e he; exact ((mem_symsOfLen l z e).1 he).1

theorem sortedSyms_sorted (lens : List Nat) :
    (sortedSyms lens).Pairwise (fun a b => a.2 ≤ b.2) := by
  unfold sortedSyms
  rw [pairwise_flatMap]
  refine ⟨?_, ?_⟩
  · intro a _
    rw [pairwise_iff_forall_sublist]
    intro x y hxy
    have hx := symsOfLen_len _ _ x (hxy.subset (by simp))
    have hy := symsOfLen_len _ _ y (hxy.subset (by simp))
    omega
  · have : (List.range 15).Pairwise (· < ·) := pairwise_lt_range
    refine this.imp ?_
    intro a b hab x hx y hy
    have hx := symsOfLen_len _ _ x hx
    have hy := symsOfLen_len _ _ y hy
    omega

theorem total_levels_cons (e : Nat × Nat) (z : List (Nat × Nat)) (L : List Nat) :
    total (L.flatMap fun l => symsOfLen (l + 1) (e :: z))
      = (L.map fun l => if e.1 = l + 1 then 2 ^ (15 - (l + 1)) else 0).sum
        + total (L.flatMap fun l => symsOfLen (l + 1) z) := by
  induction L with
  | nil => rfl
  | cons a L ih =>
    simp only [flatMap_cons, total_append, map_cons, sum_cons, ih]
    simp only [symsOfLen]
    split
    · simp only [total]; omega
    · omega

theorem single_term : ∀ len, len ≤ 15 →
    ((List.range 15).map fun l => if len = l + 1 then 2 ^ (15 - (l + 1)) else 0).sum
      = if len = 0 then 0 else 2 ^ (15 - len) := by
  decide

theorem total_levels (z : List (Nat × Nat)) (h : ∀ e ∈ z, e.1 ≤ 15) :
    total ((List.range 15).flatMap fun l => symsOfLen (l + 1) z) = kraft (z.map (·.1)) := by
  induction z with
  | nil => rfl
  | cons e z ih =>
    rw [total_levels_cons, single_term _ (h e mem_cons_self),
      ih fun e he => h e (mem_cons_of_mem _ he), map_cons, kraft]

theorem total_sortedSyms (lens : List Nat) (h : ∀ l ∈ lens, l ≤ 15) :
    total (sortedSyms lens) = kraft lens := by
  unfold sortedSyms
  simp only
  rw [total_levels, List.zipIdx_map_fst]
  intro e he
  obtain ⟨l, s⟩ := e
  have := (mem_zipIdx_iff_getElem?.1 he)
  exact h l (List.mem_of_getElem? this)

theorem prefix_read_encode (lens : List Nat) (hle : ∀ l ∈ lens, l ≤ 15) (hk : kraft lens ≤ 2 ^ 15)
    (sym : Nat) (hused : lens.getD sym 0 ≠ 0) (rest : Bits) :
    (PrefixCode.table (sortedSyms lens)).read
        ((PrefixCode.table (sortedSyms lens)).encode sym ++ rest) = .ok (sym, rest) ∧
    ((PrefixCode.table (sortedSyms lens)).encode sym).length = lens.getD sym 0 := by
  have hget : lens[sym]? = some (lens.getD sym 0) := by
    by_cases hlt : sym < lens.length
    · simp [List.getD, hlt]
    · simp [List.getD, List.getElem?_eq_none (by omega : lens.length ≤ sym)] at hused
  obtain ⟨w, hw, hwl, h1, _⟩ := walk_codeword _ 0 sym _ rest (sortedSyms_sorted lens)
    (fun e he => ((mem_sortedSyms lens e.1 e.2).1 he).2.1) (fun _ _ => Nat.dvd_zero _)
    (by rw [total_sortedSyms lens hle]; omega)
    ((mem_sortedSyms lens sym _).2 ⟨by omega, hle _ (List.mem_of_getElem? hget), hget⟩)
    (fun l' h => by
      have := ((mem_sortedSyms lens sym l').1 h).2.2
      rw [hget] at this
      exact (Option.some.inj this).symm)
  simp only [PrefixCode.encode, hw, Option.getD_some, PrefixCode.read, h1]
  exact ⟨by rw [dropChk_append _ w rest hwl], hwl⟩

end Jxl.Entropy
