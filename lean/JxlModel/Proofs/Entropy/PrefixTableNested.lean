import JxlModel.Proofs.Entropy.PrefixTable
/-! Second-level chunks of `with_code_lengths` (codes with a length in 11..=15): loop invariant of
`secondLevels` / `chunkSyms`, the read through both levels, tables = Spec. A code without such a
length is the case of no chunk. -/
namespace Jxl.Entropy
open List

theorem replicateEach_replicate (m n : Nat) (x : Entry) :
    replicateEach m (replicate n x) = replicate (n * m) x := by
  induction n with
  | zero => simp [replicateEach]
  | succ n ih =>
    unfold replicateEach at ih ⊢
    rw [replicate_succ, flatMap_cons, ih, Nat.succ_mul, Nat.add_comm, replicate_append_replicate]

theorem replicateEach_append (m : Nat) (a b : List Entry) :
    replicateEach m (a ++ b) = replicateEach m a ++ replicateEach m b := by
  simp [replicateEach]

theorem replicateEach_length (m : Nat) (l : List Entry) :
    (replicateEach m l).length = m * l.length :=
  length_flatMap_const _ m l fun _ _ => length_replicate

theorem replicateEach_ite (m : Nat) (c : List Entry) :
    (if (!c.isEmpty) = true then replicateEach m c else []) = replicateEach m c := by
  cases c <;> simp [replicateEach]

theorem replicateEach_flat (d d' : Nat) (es : List (Nat × Nat)) (h : ∀ e ∈ es, e.2 ≤ d)
    (hd : d ≤ d') : replicateEach (2 ^ (d' - d)) (flat d es) = flat d' es := by
  induction es with
  | nil => simp [flat, replicateEach]
  | cons e r ih =>
    obtain ⟨hl, hr⟩ := forall_mem_cons.1 h
    simp only [flat, replicateEach_append, replicateEach_replicate, ih hr]
    rw [← Nat.pow_add, show d - e.2 + (d' - d) = d' - e.2 by omega]

theorem walk_append_left (v : Nat) (a b : List (Nat × Nat)) (acc : Nat) (x : Nat × Nat)
    (h : walk v acc a = some x) : walk v acc (a ++ b) = some x := by
  induction a generalizing acc with
  | nil => simp [walk] at h
  | cons e r ih =>
    obtain ⟨s, l⟩ := e
    simp only [walk, cons_append] at h ⊢
    split
    · rename_i hv; simpa [hv] using h
    · rename_i hv; simp only [hv, if_false] at h; exact ih _ h

theorem walk_skip (v : Nat) (a b : List (Nat × Nat)) (acc : Nat) (h : acc + total a ≤ v) :
    walk v acc (a ++ b) = walk v (acc + total a) b := by
  induction a generalizing acc with
  | nil => simp [total]
  | cons e r ih =>
    obtain ⟨s, l⟩ := e
    simp only [total] at h
    have : ¬ v < acc + 2 ^ (15 - l) := by omega
    simp only [walk, cons_append, this, if_false, total]
    rw [ih _ (by omega)]; congr 1; omega

/-- a completed chunk: its depth below the top level and its canonical entries -/
abbrev Chunk := Nat × List (Nat × Nat)

def chunkTab (c : Chunk) : List Entry := vecReverseBits (flat (10 + c.1) c.2)

def secondOf (done : List Chunk) : List Entry := done.flatMap chunkTab

/-- the `nested` top-level entries written for the chunks, `pre` = second-level entries so far -/
def nestedOf (pre : List Entry) : List Chunk → List Entry
  | [] => []
  | c :: r => ⟨true, 2 ^ c.1 - 1, pre.length⟩ :: nestedOf (pre ++ chunkTab c) r

def longOf (done : List Chunk) : List (Nat × Nat) := done.flatMap (·.2)

theorem nestedOf_length (pre : List Entry) (done : List Chunk) :
    (nestedOf pre done).length = done.length := by
  induction done generalizing pre with
  | nil => rfl
  | cons c r ih => simp [nestedOf, ih]

theorem nestedOf_snoc (pre : List Entry) (done : List Chunk) (c : Chunk) :
    nestedOf pre (done ++ [c])
      = nestedOf pre done ++ [⟨true, 2 ^ c.1 - 1, (pre ++ secondOf done).length⟩] := by
  induction done generalizing pre with
  | nil => simp [nestedOf, secondOf]
  | cons d r ih => simp [nestedOf, ih, secondOf, append_assoc]

def ChunkOk (c : Chunk) : Prop :=
  c.1 ≤ 5 ∧ (∀ e ∈ c.2, e.2 ≤ 10 + c.1) ∧ (flat (10 + c.1) c.2).length = 2 ^ c.1

theorem ChunkOk.total {c : Chunk} (h : ChunkOk c) : total c.2 = 32 := by
  obtain ⟨h1, h2, h3⟩ := h
  have := flat_length_mul (10 + c.1) (by omega) c.2 h2
  rw [h3, show 15 - (10 + c.1) = 5 - c.1 by omega, ← Nat.pow_add,
    show c.1 + (5 - c.1) = 5 by omega] at this
  omega

theorem total_longOf (done : List Chunk) (h : ∀ c ∈ done, ChunkOk c) :
    total (longOf done) = 32 * done.length := by
  induction done with
  | nil => simp [longOf, total]
  | cons c r ih =>
    obtain ⟨hc, hr⟩ := forall_mem_cons.1 h
    have := ih hr
    unfold longOf at this ⊢
    simp only [flatMap_cons, total_append, hc.total, this, length_cons]; omega

/-- State of the second-level loop. `T`: the top-level entries filled by the first loop; `N`: size
of the top-level table; `done`: the completed chunks, each with one nested top-level entry after
`T` and its reversed table in `second`; `rem`: canonical entries of the open chunk, held in
`chunk` at depth `10 + b`, not yet full. -/
structure NInv (T : List Entry) (N : Nat) (st : ChunkState) (done : List Chunk)
    (rem : List (Nat × Nat)) (b : Nat) : Prop where
  hN : T.length + done.length ≤ N
  entries : st.entries = T ++ nestedOf [] done ++ replicate (N - (T.length + done.length)) default
  cb : st.currentBits = T.length + done.length
  second : st.second = secondOf done
  chunk : st.chunk = flat (10 + b) rem
  doneOk : ∀ c ∈ done, ChunkOk c
  remOk : ∀ e ∈ rem, e.2 ≤ 10 + b
  remLt : (flat (10 + b) rem).length < 2 ^ b
  bOk : b ≤ 5

theorem set_at_boundary (A : List Entry) (m : Nat) (x d : Entry) (hm : 0 < m) :
    (A ++ replicate m d).set A.length x = A ++ [x] ++ replicate (m - 1) d := by
  obtain ⟨m', rfl⟩ : ∃ m', m = m' + 1 := ⟨m - 1, by omega⟩
  simp [replicate_succ]

theorem flat_snoc_leaf (d : Nat) (rem : List (Nat × Nat)) (a : Nat) :
    flat d (rem ++ [(a, d)]) = flat d rem ++ [⟨false, d, a⟩] := by
  simp [flat_append, flat, entryOf]

theorem longOf_snoc (done : List Chunk) (c : Chunk) : longOf (done ++ [c]) = longOf done ++ c.2 := by
  simp only [longOf, flatMap_append, flatMap_cons, flatMap_nil, append_nil]

/-- `hmass`: the entries fit into the `N - T.length` top-level slots left for chunks (32 units of
Kraft mass each). -/
theorem chunkSyms_ok (T : List Entry) (N idx b : Nat) (hidx : idx + 1 = 10 + b) (syms : List Nat)
    (st : ChunkState) (done : List Chunk) (rem : List (Nat × Nat))
    (inv : NInv T N st done rem b)
    (hmass : total (longOf done ++ rem ++ syms.map (·, idx + 1)) ≤ 32 * (N - T.length)) :
    ∃ st' done' rem', chunkSyms idx (2 ^ b) syms st = .ok st' ∧ NInv T N st' done' rem' b ∧
      longOf done' ++ rem' = longOf done ++ rem ++ syms.map (·, idx + 1) := by
  induction syms generalizing st done rem with
  | nil => exact ⟨st, done, rem, rfl, inv, by rw [map_nil, append_nil]⟩
  | cons a r ih =>
    obtain ⟨rem1, hrem1⟩ : ∃ rem1, rem1 = rem ++ [(a, idx + 1)] := ⟨_, rfl⟩
    have hleaf : st.chunk ++ [(⟨false, idx + 1, a⟩ : Entry)] = flat (10 + b) rem1 := by
      rw [hrem1, hidx, flat_snoc_leaf, inv.chunk]
    have hsnoc : longOf done ++ rem ++ map (·, idx + 1) (a :: r)
        = longOf done ++ rem1 ++ map (·, idx + 1) r := by
      simp only [hrem1, map_cons, append_assoc, singleton_append]
    rw [hsnoc] at hmass ⊢
    have hR' : ∀ e ∈ rem1, e.2 ≤ 10 + b := by
      rw [hrem1]
      exact forall_mem_append.2 ⟨inv.remOk, forall_mem_singleton.2 (Nat.le_of_eq hidx)⟩
    rw [chunkSyms]
    simp only [hleaf]
    by_cases hfull : (flat (10 + b) rem1).length = 2 ^ b
    · have hok : ChunkOk (b, rem1) := ⟨inv.bOk, hR', hfull⟩
      -- the completed chunk needs a top-level slot: there is one, by mass
      have hlt : T.length + done.length < N := by
        have h32 : total rem1 = 32 := hok.total
        have hd := total_longOf done inv.doneOk
        rw [total_append, total_append] at hmass
        omega
      have hcb : st.currentBits = (T ++ nestedOf [] done).length := by
        rw [inv.cb, length_append, nestedOf_length]
      have inv' : NInv T N ⟨st.entries.set st.currentBits ⟨true, 2 ^ b - 1, st.second.length⟩,
          st.currentBits + 1, st.second ++ vecReverseBits (flat (10 + b) rem1), []⟩
          (done ++ [(b, rem1)]) [] b := by
        refine ⟨?_, ?_, ?_, ?_, rfl, forall_mem_append.2 ⟨inv.doneOk, forall_mem_singleton.2 hok⟩,
          fun _ h => absurd h not_mem_nil, Nat.two_pow_pos b, inv.bOk⟩
        · simp only [length_append, length_singleton]; omega
        · rw [inv.entries, hcb, set_at_boundary _ _ _ _ (by omega), nestedOf_snoc, inv.second]
          simp only [length_append, length_cons, length_nil, nil_append, append_assoc]
          congr 3
        · rw [inv.cb]; simp only [length_append, length_singleton]; omega
        · simp only [inv.second, secondOf, chunkTab, flatMap_append, flatMap_cons, flatMap_nil,
            append_nil]
      rw [if_pos hfull, if_pos (by rw [inv.entries, hcb]; simp; omega)]
      obtain ⟨st', done', rem', h1, h2, h3⟩ := ih _ _ _ inv' (by
        rw [longOf_snoc, append_nil]; exact hmass)
      exact ⟨st', done', rem', h1, h2, by rw [h3, longOf_snoc, append_nil]⟩
    · have hlen1 : (flat (10 + b) rem1).length = (flat (10 + b) rem).length + 1 := by
        rw [← hleaf, inv.chunk, length_append, length_singleton]
      rw [if_neg hfull]
      exact ih _ _ _ ⟨inv.hN, inv.entries, inv.cb, inv.second, rfl, inv.doneOk, hR',
        by have := inv.remLt; omega, inv.bOk⟩ hmass

theorem secondLevels_ok (T : List Entry) (N : Nat) (groups : List (List Nat)) (idx : Nat)
    (st : ChunkState) (done : List Chunk) (rem : List (Nat × Nat)) (b : Nat)
    (inv : NInv T N st done rem b) (hb : 10 + b ≤ idx) (h15 : idx + groups.length ≤ 15)
    (hmass : total (longOf done ++ rem ++ entsOf idx groups) ≤ 32 * (N - T.length)) :
    ∃ st' done' rem' b', secondLevels 10 groups idx st b = .ok st' ∧ NInv T N st' done' rem' b' ∧
      longOf done' ++ rem' = longOf done ++ rem ++ entsOf idx groups := by
  induction groups generalizing idx st done rem b with
  | nil => exact ⟨st, done, rem, b, rfl, inv, by rw [entsOf, append_nil]⟩
  | cons syms r ih =>
    simp only [length_cons] at h15
    rw [secondLevels]
    by_cases hs : syms = []
    · subst hs
      simp only [isEmpty_nil, if_true]
      simp only [entsOf, map_nil, nil_append] at hmass ⊢
      exact ih (idx + 1) st done rem b inv (by omega) (by omega) hmass
    · have hne : syms.isEmpty = false := by rw [List.isEmpty_eq_false_iff]; exact hs
      simp only [hne, Bool.false_eq_true, if_false, replicateEach_ite]
      generalize hb' : idx + 1 - 10 = b'
      -- the open chunk is brought to the depth of this level
      have hrep : replicateEach (2 ^ (b' - b)) st.chunk = flat (10 + b') rem := by
        rw [inv.chunk, ← replicateEach_flat (10 + b) (10 + b') rem inv.remOk (by omega),
          show 10 + b' - (10 + b) = b' - b by omega]
      have hlen : (flat (10 + b') rem).length < 2 ^ (b' - b) * 2 ^ b := by
        rw [← hrep, replicateEach_length, inv.chunk]
        exact Nat.mul_lt_mul_of_pos_left inv.remLt (Nat.two_pow_pos _)
      rw [← Nat.pow_add, show b' - b + b = b' by omega] at hlen
      have inv1 : NInv T N { st with chunk := replicateEach (2 ^ (b' - b)) st.chunk } done rem b' :=
        ⟨inv.hN, inv.entries, inv.cb, inv.second, hrep, inv.doneOk,
          fun e he => Nat.le_trans (inv.remOk e he) (by omega), hlen, by omega⟩
      simp only [entsOf, ← append_assoc] at hmass ⊢
      obtain ⟨st1, done1, rem1, h1, h2, h3⟩ :=
        chunkSyms_ok T N idx b' (by omega) syms _ done rem inv1 (by
          rw [total_append] at hmass; omega)
      simp only [h1]
      rw [← h3] at hmass ⊢
      exact ih (idx + 1) st1 done1 rem1 b' h2 (by omega) (by omega) hmass

/-- `s'`: the five stream bits that follow the top level; a chunk takes 32 units of code space. -/
theorem nested_lookup (done : List Chunk) (hD : ∀ c ∈ done, ChunkOk c) (pre : List Entry)
    (rest : List (Nat × Nat)) (acc j : Nat) (hj : j < done.length) (s' : Bits) :
    ∃ b off x, b ≤ 5 ∧ (nestedOf pre done)[j]? = some ⟨true, 2 ^ b - 1, off⟩ ∧
      walk (acc + 32 * j + msbVal 5 s') acc (longOf done ++ rest) = some x ∧
      (pre ++ secondOf done)[off + peekPad b s']? = some (entryOf x) := by
  induction done generalizing pre acc j with
  | nil => simp at hj
  | cons c r ih =>
    obtain ⟨b, C⟩ := c
    obtain ⟨hok, hDr⟩ := forall_mem_cons.1 hD
    have h32 : total C = 32 := hok.total
    obtain ⟨hb5, hC, hF⟩ := hok
    simp only at hb5 hC hF
    have hlong : longOf ((b, C) :: r) ++ rest = C ++ (longOf r ++ rest) := by
      simp [longOf, append_assoc]
    have hsec : pre ++ secondOf ((b, C) :: r) = (pre ++ chunkTab (b, C)) ++ secondOf r := by
      simp [secondOf, append_assoc]
    cases j with
    | zero =>
      have hlen : (chunkTab (b, C)).length = 2 ^ b := by simp [chunkTab, vecReverseBits_length, hF]
      -- the first `b` of the five bits choose the slot of the chunk's table
      have h5 : msbVal 5 s' = msbVal b s' * 2 ^ (15 - (10 + b))
          + msbVal (15 - (10 + b)) (s'.drop b) := by
        rw [← msbVal_add]; congr 1; omega
      have hlo' := msbVal_lt (15 - (10 + b)) (s'.drop b)
      obtain ⟨x, hx, hg⟩ := flat_lookup (10 + b) (by omega) C hC acc (msbVal b s')
        (acc + msbVal 5 s') (by rw [hF]; exact msbVal_lt b s') (by omega) (by omega)
      rw [← vecReverseBits_peek _ b hF] at hg
      refine ⟨b, pre.length, x, hb5, by simp [nestedOf], ?_, ?_⟩
      · rw [hlong, Nat.mul_zero, Nat.add_zero]
        exact walk_append_left _ _ _ _ _ hx
      · rw [hsec, getElem?_append_left (by simp [hlen]; exact peekPad_lt b s'),
          getElem?_append_right (by omega), Nat.add_sub_cancel_left]
        exact hg
    | succ j =>
      obtain ⟨b', off, x, g1, g2, g3, g4⟩ :=
        ih hDr (pre ++ chunkTab (b, C)) (acc + 32) j (by simpa using hj)
      refine ⟨b', off, x, g1, by simpa [nestedOf] using g2, ?_, by rw [hsec]; exact g4⟩
      rw [hlong, walk_skip _ _ _ _ (by omega), h32, ← g3]
      congr 1; omega

theorem read_two_level (tb : Nat) (htb : tb ≤ 10) (esTop : List (Nat × Nat))
    (hTop : ∀ e ∈ esTop, e.2 ≤ tb) (done : List Chunk) (hD : ∀ c ∈ done, ChunkOk c)
    (h10 : done ≠ [] → tb = 10) (hlen : (flat tb esTop).length + done.length = 2 ^ tb) (s : Bits) :
    TableHist.read ⟨tb, vecReverseBits (flat tb esTop ++ nestedOf [] done), secondOf done⟩ s
      = (PrefixCode.table (esTop ++ longOf done)).read s := by
  have hTtot := flat_length_mul tb (by omega) esTop hTop
  have hv : msbVal 15 s = msbVal tb s * 2 ^ (15 - tb) + msbVal (15 - tb) (s.drop tb) := by
    rw [← msbVal_add]; congr 1; omega
  have hlo := msbVal_lt (15 - tb) (s.drop tb)
  have hidx := peekPad_mask tb 15 s (by omega)
  have hget := vecReverseBits_peek (flat tb esTop ++ nestedOf [] done) tb
    (by rw [length_append, nestedOf_length, hlen]) s
  by_cases hcase : msbVal tb s < (flat tb esTop).length
  · obtain ⟨x, hw, hg⟩ := flat_lookup tb (by omega) esTop hTop 0 (msbVal tb s) (msbVal 15 s) hcase
      (by omega) (by omega)
    simp only [TableHist.read, hidx, hget, getElem?_append_left hcase, hg, PrefixCode.read,
      walk_append_left _ _ (longOf done) _ _ hw]
    rfl
  · obtain rfl : tb = 10 := h10 (fun h => by
      have := msbVal_lt tb s; subst h; simp at hlen; omega)
    obtain ⟨b, off, x, g1, g2, g3, g4⟩ := nested_lookup done hD [] [] (total esTop)
      (msbVal 10 s - (flat 10 esTop).length) (by have := msbVal_lt 10 s; omega) (s.drop 10)
    have hw : walk (msbVal 15 s) 0 (esTop ++ longOf done) = some x := by
      simp only [Nat.reduceSub] at hv hlo
      rw [walk_skip _ _ _ _ (by omega), Nat.zero_add, ← g3, append_nil]
      congr 1; omega
    have hk : (peekPad 15 s >>> 10) &&& (2 ^ b - 1) = peekPad b (s.drop 10) := by
      rw [peekPad_shift 10 15 s (by omega), peekPad_mask b 5 _ g1]
    rw [nil_append] at g4
    simp only [TableHist.read, hidx, hget, getElem?_append_right (Nat.le_of_not_lt hcase), g2, hk,
      g4, PrefixCode.read, hw, if_true]
    rfl

theorem total_eq_zero (es : List (Nat × Nat)) : total es = 0 ↔ es = [] := by
  cases es with
  | nil => simp [total]
  | cons e r =>
    have := Nat.two_pow_pos (15 - e.2)
    simp only [total, reduceCtorEq, iff_false]; omega

theorem flat_total_lt (b : Nat) (hb : b ≤ 5) (rem : List (Nat × Nat))
    (hR : ∀ e ∈ rem, e.2 ≤ 10 + b) (hL : (flat (10 + b) rem).length < 2 ^ b) : total rem < 32 := by
  have := flat_length_mul (10 + b) (by omega) rem hR
  rw [← this, show (32:Nat) = 2 ^ b * 2 ^ (15 - (10 + b)) by
    rw [← Nat.pow_add, show b + (15 - (10 + b)) = 5 by omega]]
  exact Nat.mul_lt_mul_of_pos_right hL (Nat.pos_of_ne_zero (by simp))

theorem flat_eq_nil (d : Nat) (rem : List (Nat × Nat)) : flat d rem = [] ↔ rem = [] := by
  cases rem with
  | nil => simp [flat]
  | cons e r =>
    simp only [flat, append_eq_nil_iff, replicate_eq_nil_iff, reduceCtorEq, iff_false, not_and]
    intro h; exact absurd h (by simp)

/-- `with_code_lengths`: for a complete code the table of `read_two_level`, otherwise
`InvalidPrefixHistogram` (dangling chunk or unfilled top level) -/
theorem withCodeLengths_eq (lens : List Nat) (h15 : ∀ l ∈ lens, l ≤ 15) (hk : kraft lens ≤ 2 ^ 15) :
    ∃ tb esTop done, tb ≤ 10 ∧ (∀ e ∈ esTop, e.2 ≤ tb) ∧ (∀ c ∈ done, ChunkOk c) ∧
      (done ≠ [] → tb = 10) ∧
      (kraft lens = 2 ^ 15 →
        (flat tb esTop).length + done.length = 2 ^ tb ∧ sortedSyms lens = esTop ++ longOf done) ∧
      withCodeLengths lens = if kraft lens = 2 ^ 15
        then .ok ⟨tb, vecReverseBits (flat tb esTop ++ nestedOf [] done), secondOf done⟩
        else .error .invalidPrefixHistogram := by
  have hl15 : (symsForLength lens).length ≤ 15 := sfl_length 15 lens 0 [] h15 (by simp)
  have hes := entsOf_symsForLength lens h15
  have hkr := total_sortedSyms lens h15
  generalize hsfl : symsForLength lens = sfl at *
  obtain ⟨tb, htb⟩ : ∃ tb, min sfl.length maxToplevelBits = tb := ⟨_, rfl⟩
  have htb' : tb = min sfl.length 10 := htb.symm
  have htl : (sfl.take tb).length = tb := by rw [length_take]; omega
  have hsplit : sortedSyms lens = entsOf 0 (sfl.take tb) ++ entsOf tb (sfl.drop tb) := by
    rw [← hes]
    conv => lhs; rw [← List.take_append_drop tb sfl]
    rw [entsOf_append, htl, Nat.zero_add]
  have hTop : ∀ e ∈ entsOf 0 (sfl.take tb), e.2 ≤ tb := by
    intro e he; have := entsOf_le 0 _ e he; omega
  have hTtot := flat_length_mul tb (by omega) _ hTop
  have hpow : (2 : Nat) ^ 15 = 2 ^ tb * 2 ^ (15 - tb) := by rw [← Nat.pow_add]; congr 1; omega
  have hu : 0 < 2 ^ (15 - tb) := Nat.pos_of_ne_zero (by simp)
  rw [hsplit, total_append] at hkr
  have hfit : (flat tb (entsOf 0 (sfl.take tb))).length ≤ 2 ^ tb :=
    Nat.le_of_mul_le_mul_right (by rw [hTtot, ← hpow]; omega) hu
  have htop := topLevels_ok tb (sfl.take tb) 0 [] (2 ^ tb) (by simpa using hfit)
  simp only [nil_append, length_nil, Nat.zero_add] at htop
  generalize hT : flat tb (entsOf 0 (sfl.take tb)) = T at *
  have inv0 : NInv T (2 ^ tb) ⟨T ++ replicate (2 ^ tb - T.length) default, T.length, [], []⟩ [] [] 0 :=
    ⟨by simpa using hfit, by simp [nestedOf], by simp, by simp [secondOf], by simp [flat],
      by simp, by simp, by simp [flat], by omega⟩
  -- the second-level loop, which does not run when no length exceeds 10
  obtain ⟨st', done, rem, b', inv, g3, h10, hwc⟩ : ∃ st' done rem b',
      NInv T (2 ^ tb) st' done rem b' ∧ longOf done ++ rem = entsOf tb (sfl.drop tb) ∧
      (tb = 10 ∨ done = [] ∧ rem = []) ∧
      withCodeLengths lens =
        if (!st'.chunk.isEmpty) = true then .error .invalidPrefixHistogram
        else if st'.currentBits = 2 ^ tb then .ok ⟨tb, vecReverseBits st'.entries, st'.second⟩
        else .error .invalidPrefixHistogram := by
    by_cases hlen : 10 < sfl.length
    · obtain rfl : tb = 10 := by omega
      obtain ⟨st', done, rem, b', g1, g2, g3⟩ :=
        secondLevels_ok T (2 ^ 10) (sfl.drop 10) 10 _ [] [] 0 inv0 (by omega)
          (by rw [length_drop]; omega)
          (by show total (entsOf 10 (sfl.drop 10)) ≤ _; omega)
      refine ⟨st', done, rem, b', g2, g3, Or.inl rfl, ?_⟩
      unfold withCodeLengths
      simp only [hsfl, htb, htop, hlen, if_true, g1]
      cases hce : st'.chunk.isEmpty <;> simp
    · obtain rfl : tb = sfl.length := by omega
      refine ⟨_, [], [], 0, inv0, by simp [entsOf, longOf], Or.inr ⟨rfl, rfl⟩, ?_⟩
      unfold withCodeLengths
      simp only [hsfl, htb, htop, Nat.lt_irrefl, if_false]
      simp
  -- mass: `2 ^ (15 - tb)` per top-level slot, taken by a leaf or (32, for `tb = 10`) a chunk;
  -- an open chunk has less
  have hiff : kraft lens = 2 ^ 15 ↔ rem = [] ∧ T.length + done.length = 2 ^ tb := by
    have hd := total_longOf done inv.doneOk
    have hr := flat_total_lt b' inv.bOk rem inv.remOk inv.remLt
    rw [← g3, total_append, hd, ← hTtot] at hkr
    rcases h10 with rfl | ⟨rfl, rfl⟩
    · rw [← total_eq_zero]; omega
    · rw [← hkr, hpow]
      simp [total, Nat.mul_left_inj hu.ne']
  refine ⟨tb, _, done, by omega, hTop, inv.doneOk, fun h => h10.resolve_right fun h' => h h'.1,
    fun hfull => ?_, ?_⟩
  · obtain ⟨rfl, hcnt⟩ := hiff.1 hfull
    exact ⟨by rw [hT]; exact hcnt, by rw [hsplit, ← g3, append_nil]⟩
  · rw [hwc, inv.chunk, inv.cb, inv.entries, inv.second, hT]
    simp only [hiff]
    by_cases hrem : rem = []
    · subst hrem
      by_cases hcnt : T.length + done.length = 2 ^ tb
      · simp [flat, hcnt]
      · simp [flat, hcnt]
    · simp [flat_eq_nil, hrem]

end Jxl.Entropy
