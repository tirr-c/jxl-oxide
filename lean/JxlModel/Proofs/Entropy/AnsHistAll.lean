import JxlModel.Proofs.Entropy.AnsHist
/-! Every ANS histogram header the encoder writes for a distribution that passes its Boolean check
(`codeOk`) is read back as the table the spec denotes: single / binary / flat / general forms and
the fall-backs of `effectiveForm`. -/
namespace Jxl.Entropy
open Jxl Jxl.Enc

theorem sum_filter_ne_zero (l : List Nat) : (l.filter fun x => decide (x ≠ 0)).sum = l.sum := by
  induction l with
  | nil => rfl
  | cons a t ih =>
    by_cases ha : a = 0
    · subst ha
      rw [List.filter_cons_of_neg (by simp), List.sum_cons, Nat.zero_add, ih]
    · rw [List.filter_cons_of_pos (by simpa using ha), List.sum_cons, List.sum_cons, ih]

theorem sum_usedSyms (d : List Nat) : ((usedSyms d).map fun i => d.getD i 0).sum = d.sum := by
  have h := sumL_stackOf (fun x => decide (x ≠ 0)) d (fun x => x)
  rw [stackOf_ne_zero, sumL, List.map_reverse, List.sum_reverse, List.map_id'] at h
  rw [h, sum_filter_ne_zero]

theorem pad_eq_set_set (d : List Nat) (T v0 v1 : Nat) (hd : d.length ≤ T) (h0 : v0 < T) (h1 : v1 < T)
    (hu : ∀ i ∈ usedSyms d, i = v0 ∨ i = v1) :
    d ++ List.replicate (T - d.length) 0
      = ((List.replicate T 0).set v0 (d.getD v0 0)).set v1 (d.getD v1 0) := by
  apply ext_getD 0
  · rw [List.length_append, List.length_replicate, List.length_set, List.length_set,
      List.length_replicate]
    omega
  · intro i
    rw [getD_append_replicate, getD_set, getD_set, getD_replicate, List.length_set,
      List.length_replicate]
    by_cases e1 : v1 = i
    · rw [if_pos ⟨e1, h1⟩, e1]
    · rw [if_neg fun h => e1 h.1]
      by_cases e0 : v0 = i
      · rw [if_pos ⟨e0, h0⟩, e0]
      · rw [if_neg fun h => e0 h.1]
        by_contra hne
        rcases hu i ((mem_usedSyms d i).2 hne) with e | e
        · exact e0 e.symm
        · exact e1 e.symm

theorem pad_eq_take (d : List Nat) (a T : Nat) (ha : a ≤ d.length) (hd : d.length ≤ T)
    (hz : ∀ x ∈ d.drop a, x = 0) :
    d ++ List.replicate (T - d.length) 0 = d.take a ++ List.replicate (T - a) 0 := by
  have hdrop : d.drop a = List.replicate (d.length - a) 0 :=
    List.eq_replicate_iff.2 ⟨List.length_drop, hz⟩
  rw [show T - a = (d.length - a) + (T - d.length) by omega, ← List.replicate_append_replicate,
    ← hdrop, ← List.append_assoc, List.take_append_drop]

theorem effectiveForm_spec (d : List Nat) (form : AnsForm) (hsum : d.sum = 4096) :
    match effectiveForm d form with
    | .auto => False
    | .single => (usedSyms d).length = 1
    | .binary => (usedSyms d).length = 2
    | .flat => ansFormOk d .flat = true
    | .general shift _ => shift ≤ 13 ∧ 2 ≤ (usedSyms d).length ∧ ReprOK shift d := by
  unfold effectiveForm
  simp only
  -- the form used passes its check: the requested one, or else `auto`, which always does
  obtain ⟨f, hf, hok⟩ : ∃ f, (if ansFormOk d form = true then form else AnsForm.auto) = f ∧
      ansFormOk d f = true := by
    by_cases hok : ansFormOk d form = true
    · exact ⟨form, if_pos hok, hok⟩
    · exact ⟨.auto, if_neg hok, rfl⟩
  rw [hf]
  cases f with
  | auto =>
    simp only
    by_cases h1 : (usedSyms d).length = 1
    · rw [if_pos h1]; exact h1
    · by_cases h2 : (usedSyms d).length = 2
      · rw [if_neg h1, if_pos h2]; exact h2
      · rw [if_neg h1, if_neg h2]
        obtain ⟨j, hj⟩ := exists_nonzero d (by omega)
        have hpos := List.length_pos_of_mem ((mem_usedSyms d j).2 hj)
        exact ⟨Nat.le_refl 13, by omega,
          reprOK_13 d hsum⟩
  | single => exact of_decide_eq_true hok
  | binary => exact of_decide_eq_true hok
  | flat => exact hok
  | general shift rle =>
    simp only [ansFormOk, Bool.and_eq_true, decide_eq_true_eq, Bool.decide_and] at hok
    exact ⟨hok.1, hok.2.1, reprOK_of_quantize shift d hok.2.2⟩

/-- behind `C04_ans_histogram_roundtrip` -/
theorem ans_histogram_rt (la : Nat) (d : List Nat) (form : AnsForm) (tokens : List Nat)
    (h : codeOk (.ans la) tokens (.dist d form) = true) (rest : Bits) :
    parseAns la (writeAns d form ++ rest) = .ok ((CodeSpec.dist d form).ansHist la, rest) := by
  simp only [codeOk, Bool.and_eq_true, decide_eq_true_eq, beq_iff_eq] at h
  obtain ⟨⟨⟨⟨hla5, hla8⟩, hlen⟩, hsum'⟩, _⟩ := h
  have hsum : d.sum = 4096 := by rw [← hsum']; exact List.sum_eq_foldl_nat
  have hT8 : 2 ^ la ≤ 256 := Nat.pow_le_pow_right (by decide) hla8
  suffices hd : parseAnsDist la (writeAns d form ++ rest)
      = .ok (⟨d ++ List.replicate (2 ^ la - d.length) 0, ansAlphabet d form⟩, rest) by
    unfold parseAns CodeSpec.ansHist
    rw [hd]
  have htot := sum_usedSyms d
  have hnd := usedSyms_nodup d
  have hlt : ∀ i ∈ usedSyms d, i < 2 ^ la := fun i hi =>
    Nat.lt_of_lt_of_le (lt_length_of_getD_ne ((mem_usedSyms d i).1 hi)) hlen
  have hf := effectiveForm_spec d form hsum
  rw [hsum] at htot
  unfold writeAns ansAlphabet
  simp only
  generalize effectiveForm d form = f at hf ⊢
  cases f with
  | auto => exact hf.elim
  | single =>
    obtain ⟨v, hv⟩ := List.length_eq_one_iff.1 hf
    have hvT := hlt v (by simp [hv])
    simp only [hv, List.map_cons, List.map_nil, List.sum_cons, List.sum_nil,
      List.getD_cons_zero] at htot ⊢
    rw [parseAns_single la v hvT (Nat.lt_of_lt_of_le hvT hT8) rest,
      pad_eq_set_set d _ v v hlen hvT hvT (by simp [hv]), List.set_set,
      show d.getD v 0 = 4096 by omega]
  | binary =>
    obtain ⟨v0, v1, hv⟩ := List.length_eq_two.1 hf
    have hv0T := hlt v0 (by simp [hv])
    have hv1T := hlt v1 (by simp [hv])
    simp only [hv, List.map_cons, List.map_nil, List.sum_cons, List.sum_nil,
      List.getD_cons_zero, List.getD_cons_succ] at htot hnd ⊢
    rw [parseAns_binary la v0 v1 (d.getD v0 0) hv0T hv1T (by simpa using hnd)
        (Nat.lt_of_lt_of_le hv0T hT8) (Nat.lt_of_lt_of_le hv1T hT8)
        (by have := (mem_usedSyms d v1).1 (by simp [hv]); omega) rest,
      pad_eq_set_set d _ v0 v1 hlen hv0T hv1T (by simp [hv]),
      show 4096 - d.getD v0 0 = d.getD v1 0 by omega]
  | flat =>
    simp only [ansFormOk, Bool.and_eq_true, decide_eq_true_eq, List.all_eq_true,
      Bool.decide_and] at hf
    obtain ⟨ha1, htake, hdrop⟩ := hf
    have hale := usedSyms_length_le d
    simp only
    rw [parseAns_flat la (usedSyms d).length ha1 (Nat.le_trans hale hlen)
        (Nat.le_trans (Nat.le_trans hale hlen) hT8) rest,
      pad_eq_take d _ _ hale hlen hdrop, htake]
  | general shift rle =>
    simp only
    exact parseAnsDist_general la ⟨hla5, hla8⟩ d shift rle hlen hsum hf.2.1 hf.1 hf.2.2 rest

end Jxl.Entropy
