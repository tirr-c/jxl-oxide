import JxlModel.Model.Entropy.Reader
import JxlModel.Proofs.Bits
import JxlModel.Proofs.Util
/-! The reader layer: the `length`-free readers agree with `Jxl.readBits` and read back what `toBits`
wrote; the MSB-first look-ahead `msbVal` of a codeword written by `toBitsMSB`. -/
namespace Jxl.Entropy

theorem dropChk_eq (n : Nat) (s : Bits) :
    dropChk n s = if n ≤ s.length then some (s.drop n) else none := by
  induction n generalizing s with
  | zero => simp [dropChk]
  | succ n ih =>
    cases s with
    | nil => simp [dropChk]
    | cons b s => simp [dropChk, ih]

theorem rbits_eq_readBits (n : Nat) (s : Bits) :
    rbits n s = match readBits n s with | some r => .ok r | none => .error .eof := by
  unfold rbits readBits peekPad
  rw [dropChk_eq]
  by_cases h : n ≤ s.length <;> simp [h]

theorem dropChk_append (n : Nat) (a r : Bits) (h : a.length = n) : dropChk n (a ++ r) = some r := by
  subst h
  rw [dropChk_eq]
  simp

theorem peekPad_append (n : Nat) (a r : Bits) (h : a.length = n) : peekPad n (a ++ r) = ofBits a := by
  subst h
  unfold peekPad
  simp

theorem rbits_toBits (n v : Nat) (r : Bits) (h : v < 2 ^ n) :
    rbits n (toBits n v ++ r) = .ok (v, r) := by
  rw [rbits_eq_readBits, readBits_toBits n v r h]

theorem rbool_cons (b : Bool) (r : Bits) : rbool (b :: r) = .ok (b, r) := rfl

theorem rbits_length {n : Nat} {s r : Bits} {v : Nat} (h : rbits n s = .ok (v, r)) :
    s.length = r.length + n := by
  unfold rbits at h
  rw [dropChk_eq] at h
  by_cases hn : n ≤ s.length
  · simp [hn] at h
    rw [← h.2]; simp; omega
  · simp [hn] at h

theorem ofBits_lt (s : Bits) : ofBits s < 2 ^ s.length := by
  induction s with
  | nil => simp [ofBits]
  | cons b s ih => simp only [ofBits, List.length_cons, Nat.pow_succ]; split <;> omega

theorem peekPad_lt (n : Nat) (s : Bits) : peekPad n s < 2 ^ n := by
  unfold peekPad
  have := ofBits_lt (s.take n)
  have h2 : (s.take n).length ≤ n := by simp; omega
  exact Nat.lt_of_lt_of_le this (Nat.pow_le_pow_right (by omega) h2)

theorem toBitsMSB_length (n v : Nat) : (toBitsMSB n v).length = n := by
  induction n with
  | zero => rfl
  | succ n ih => simp [toBitsMSB, ih]

theorem msbVal_lt (n : Nat) (s : Bits) : msbVal n s < 2 ^ n := by
  induction n generalizing s with
  | zero => simp [msbVal]
  | succ n ih =>
    cases s with
    | nil => simp [msbVal]; exact Nat.pos_of_ne_zero (by simp)
    | cons b s =>
      simp only [msbVal, Nat.pow_succ]
      have := ih s
      split <;> omega

theorem msbVal_toBitsMSB_mod (L n c : Nat) (r : Bits) (hn : n ≤ L) :
    msbVal L (toBitsMSB n c ++ r) = c % 2 ^ n * 2 ^ (L - n) + msbVal (L - n) r := by
  induction n generalizing L with
  | zero => simp [toBitsMSB, Nat.mod_one]
  | succ n ih =>
    obtain ⟨L', rfl⟩ : ∃ L', L = L' + 1 := ⟨L - 1, by omega⟩
    have hpow : 2 ^ L' = 2 ^ n * 2 ^ (L' - n) := by
      rw [← Nat.pow_add, Nat.add_sub_cancel' (by omega)]
    simp only [toBitsMSB, List.cons_append, msbVal, Nat.add_sub_add_right, ih L' (by omega),
      Nat.mod_pow_succ, hpow]
    rcases Nat.mod_two_eq_zero_or_one (c / 2 ^ n) with h | h
    · simp only [h, Nat.zero_ne_one, beq_iff_eq, if_false, Nat.mul_zero, Nat.add_zero, Nat.zero_add]
    · simp only [h, beq_self_eq_true, if_true, Nat.mul_one, Nat.add_mul, Nat.add_assoc,
        Nat.add_left_comm (2 ^ n * 2 ^ (L' - n))]

theorem msbVal_codeword (L n a : Nat) (r : Bits) (hn : n ≤ L) (hd : 2 ^ (L - n) ∣ a)
    (ha : a < 2 ^ L) :
    msbVal L (toBitsMSB n (a / 2 ^ (L - n)) ++ r) = a + msbVal (L - n) r := by
  rw [msbVal_toBitsMSB_mod L n _ r hn, Nat.mod_eq_of_lt
    (Nat.div_lt_of_lt_mul (by rwa [← Nat.pow_add, Nat.sub_add_cancel hn])), Nat.div_mul_cancel hd]

end Jxl.Entropy
