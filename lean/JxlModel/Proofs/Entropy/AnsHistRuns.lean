import JxlModel.Model.Enc.AnsEnc
/-! General ANS histogram header, the run list of the encoder.
`RunsOK x op a lo rs`: the runs `(start, len)` in `rs` are increasing from `lo`, separated by at
least one index, at least 4 long, inside `[0, a)`, avoid the omitted position `op` and the index
right after it, and every entry of a run repeats the entry before the run.
`findRuns_spec`: the list computed by `findRuns` has this shape. -/
namespace Jxl.Entropy
open Jxl Jxl.Enc

/-- the value a run starting at `s` repeats -/
def prevOf (x : Nat → Nat) (s : Nat) : Nat := if s = 0 then 0 else x (s - 1)

structure RunOK (x : Nat → Nat) (op a : Nat) (r : Nat × Nat) : Prop where
  len4 : 4 ≤ r.2
  len259 : r.2 ≤ 259
  inA : r.1 + r.2 ≤ a
  noOp : ∀ j, r.1 ≤ j → j < r.1 + r.2 → j ≠ op
  notAfter : r.1 ≠ op + 1
  eqPrev : ∀ j, r.1 ≤ j → j < r.1 + r.2 → x j = prevOf x r.1

def RunsOK (x : Nat → Nat) (op a : Nat) : Nat → List (Nat × Nat) → Prop
  | _, [] => True
  | lo, r :: rest => lo ≤ r.1 ∧ RunOK x op a r ∧ RunsOK x op a (r.1 + r.2 + 1) rest

theorem RunsOK.mono {x : Nat → Nat} {op a lo lo' : Nat} {rs : List (Nat × Nat)} (h : lo' ≤ lo)
    (hr : RunsOK x op a lo rs) : RunsOK x op a lo' rs := by
  cases rs with
  | nil => trivial
  | cons r rest => exact ⟨Nat.le_trans h hr.1, hr.2⟩

theorem RunsOK.all_ok {x : Nat → Nat} {op a : Nat} : ∀ {lo : Nat} {rs : List (Nat × Nat)},
    RunsOK x op a lo rs → ∀ r ∈ rs, RunOK x op a r
  | _, [], _, r, hr => by simp at hr
  | lo, r0 :: rest, h, r, hr => by
    rcases List.mem_cons.1 hr with rfl | hr
    · exact h.2.1
    · exact RunsOK.all_ok h.2.2 r hr

theorem RunsOK.succ {x : Nat → Nat} {op a lo : Nat} {rs : List (Nat × Nat)}
    (hr : RunsOK x op a lo rs) (hne : ∀ r ∈ rs, r.1 ≠ lo) : RunsOK x op a (lo + 1) rs := by
  cases rs with
  | nil => trivial
  | cons r rest =>
    have := hr.1
    have := hne r (by simp)
    exact ⟨by omega, hr.2.1, hr.2.2⟩

theorem RunsOK.here {x : Nat → Nat} {op a i : Nat} {rs : List (Nat × Nat)}
    (hrs : RunsOK x op a i rs) : RunsOK x op a (i + 1) rs ∨ ∃ l tl, rs = (i, l) :: tl := by
  cases rs with
  | nil => exact Or.inl trivial
  | cons r tl =>
    by_cases hs : r.1 = i
    · exact Or.inr ⟨r.2, tl, by rw [← hs]⟩
    · exact Or.inl ⟨Nat.lt_of_le_of_ne hrs.1 (Ne.symm hs), hrs.2⟩

def inRunB (rs : List (Nat × Nat)) (i : Nat) : Bool :=
  rs.any fun r => decide (r.1 ≤ i ∧ i < r.1 + r.2)

def startAt (rs : List (Nat × Nat)) (i : Nat) : Option (Nat × Nat) :=
  rs.find? fun r => decide (r.1 = i)

theorem startAt_nil (i : Nat) : startAt [] i = none := rfl
theorem inRunB_nil (i : Nat) : inRunB [] i = false := rfl

theorem startAt_cons (s l : Nat) (tl : List (Nat × Nat)) (i : Nat) :
    startAt ((s, l) :: tl) i = if s = i then some (s, l) else startAt tl i := by
  unfold startAt
  rw [List.find?_cons]
  by_cases h : s = i
  · rw [if_pos h, decide_eq_true h]
  · rw [if_neg h, decide_eq_false h]

theorem inRunB_cons (s l : Nat) (tl : List (Nat × Nat)) (i : Nat) :
    inRunB ((s, l) :: tl) i = (decide (s ≤ i ∧ i < s + l) || inRunB tl i) := rfl

theorem RunsOK.kind_out {x : Nat → Nat} {op a i : Nat} : ∀ {lo : Nat} {rs : List (Nat × Nat)},
    RunsOK x op a lo rs → i < lo ∨ a ≤ i → startAt rs i = none ∧ inRunB rs i = false
  | _, [], _, _ => ⟨rfl, rfl⟩
  | _, (s, l) :: tl, h, hi => by
    have h1 := h.1
    have h2 := h.2.1.inA
    have h4 := h.2.1.len4
    have ih := RunsOK.kind_out h.2.2 (i := i) (by omega)
    rw [startAt_cons, inRunB_cons, if_neg (by omega), decide_eq_false (by omega)]
    exact ih

theorem startAt_mem {rs : List (Nat × Nat)} {i : Nat} {r : Nat × Nat} (h : startAt rs i = some r) :
    r ∈ rs ∧ r.1 = i := by
  unfold startAt at h
  exact ⟨List.mem_of_find?_eq_some h, by simpa using List.find?_some h⟩

theorem findRuns_ext_spec (op : Nat) (d : Array Nat) (n i prev f j : Nat) :
    ∃ m, findRuns.ext op d n i prev f j = j + m ∧
      (∀ k, j ≤ k → k < j + m → k < n ∧ k ≠ op ∧ d[k]! = prev ∧ k - i < 259) ∧
      (m < f → ¬ (j + m < n ∧ j + m ≠ op ∧ d[j + m]! = prev ∧ j + m - i < 259)) := by
  fun_induction findRuns.ext op d n i prev f j with
  | case1 j => exact ⟨0, rfl, fun k h1 h2 => absurd h2 (by omega), fun h => absurd h (by omega)⟩
  | case2 j f hc ih =>
    obtain ⟨m, he, hall, hstop⟩ := ih
    rw [Nat.add_right_comm] at he hall hstop
    refine ⟨m + 1, he, fun k hk1 hk2 => ?_, fun h => hstop (by omega)⟩
    rcases Nat.eq_or_lt_of_le hk1 with rfl | hk1
    · exact hc
    · exact hall k hk1 hk2
  | case3 j f hc => exact ⟨0, rfl, fun k h1 h2 => absurd h2 (by omega), fun _ => hc⟩

/-- Alphabets have at most 256 entries, so neither the length limit 259 nor the fuel of `ext` is what
stops a run. -/
theorem findRuns_spec (op : Nat) (d : Array Nat) (n : Nat) (hn : n ≤ 256) (fuel i : Nat)
    (acc : List (Nat × Nat)) :
    ∃ rs, findRuns op d n fuel i acc = acc.reverse ++ rs ∧ RunsOK (d[·]!) op n i rs := by
  fun_induction findRuns op d n fuel i acc with
  | case1 i acc | case2 fuel i acc hin => exact ⟨[], by simp, trivial⟩
  | case3 fuel i acc _ _ _ ih | case5 fuel i acc _ _ _ _ _ ih =>
    obtain ⟨rs, h1, h2⟩ := ih
    exact ⟨rs, h1, h2.mono (Nat.le_succ i)⟩
  | case4 fuel i acc hin prev hb j hlen ih =>
    obtain ⟨l, hj, hall, hstop⟩ := findRuns_ext_spec op d n i prev 300 i
    rw [show j = i + l from hj, Nat.add_sub_cancel_left] at hlen ih ⊢
    obtain ⟨rs, h1, h2⟩ := ih
    obtain ⟨hln, _, hlast, h259⟩ := hall (i + l - 1) (by omega) (by omega)
    refine ⟨(i, l) :: rs, by rw [h1, List.reverse_cons, List.append_assoc]; rfl, Nat.le_refl _,
      ⟨hlen, show l ≤ 259 by omega, show i + l ≤ n by omega, fun k h1 h2 => (hall k h1 h2).2.1,
        show i ≠ op + 1 by omega, fun k h1 h2 => (hall k h1 h2).2.2.1⟩, ?_⟩
    -- the scan stopped at `i + l`: a run starting there would satisfy the condition of `ext`
    rcases h2.here with h | ⟨l', tl, rfl⟩
    · exact h
    · have ok := h2.2.1
      have h4 := ok.len4
      have hA := ok.inA
      have hop := ok.noOp (i + l) (Nat.le_refl _) (by omega)
      have hp := ok.eqPrev (i + l) (Nat.le_refl _) (by omega)
      unfold prevOf at hp
      rw [if_neg (by omega)] at hp
      exact absurd ⟨by omega, hop, hp.trans hlast, by omega⟩ (hstop (by omega))

end Jxl.Entropy
