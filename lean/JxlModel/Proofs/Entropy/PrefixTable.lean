import JxlModel.Model.Entropy.PrefixTable
import JxlModel.Proofs.Entropy.Prefix
/-! The two-level bit-reversed tables of `with_code_lengths` (Impl) decode exactly like the
canonical interval search (Spec): bit reversal, the flat table `flat d es` of an entry list at depth
`d` (`flat_lookup`), the top-level loops, `syms_for_length` as the canonical entry list. -/
namespace Jxl.Entropy
open List

theorem ofBits_append_single (x : Bits) (b : Bool) :
    ofBits (x ++ [b]) = ofBits x + 2 ^ x.length * (if b then 1 else 0) := by
  induction x with
  | nil => simp [ofBits]
  | cons a x ih =>
    simp only [List.cons_append, ofBits, ih, List.length_cons, Nat.pow_succ]
    cases b <;> simp <;> omega

theorem peekPad_nil (n : Nat) : peekPad n [] = 0 := by simp [peekPad, ofBits]

theorem bit_mod (b : Bool) (x : Nat) :
    ((if b then 1 else 0) + 2 * x) % 2 = if b then 1 else 0 := by
  cases b <;> simp

theorem bit_div (b : Bool) (x : Nat) : ((if b then 1 else 0) + 2 * x) / 2 = x := by
  cases b
  · simp
  · simp only [if_true]; omega

theorem peekPad_succ_cons (n : Nat) (b : Bool) (s : Bits) :
    peekPad (n + 1) (b :: s) = (if b then 1 else 0) + 2 * peekPad n s := by
  simp [peekPad, ofBits]

theorem revBits_peekPad (n : Nat) (s : Bits) : revBits n (peekPad n s) = msbVal n s := by
  induction n generalizing s with
  | zero => simp [revBits, toBits, ofBits, msbVal]
  | succ n ih =>
    cases s with
    | nil =>
      have h0 := ih []
      rw [peekPad_nil] at h0 ⊢
      unfold revBits at h0 ⊢
      simp only [toBits, List.reverse_cons, ofBits_append_single, msbVal] at h0 ⊢
      simp [h0, msbVal]
      cases n <;> simp [msbVal]
    | cons b s =>
      have h := ih s
      rw [peekPad_succ_cons]
      unfold revBits at h ⊢
      have hb : (((if b then 1 else 0) + 2 * peekPad n s) % 2 == 1) = b := by
        rw [bit_mod]; cases b <;> rfl
      simp only [toBits, List.reverse_cons, ofBits_append_single, msbVal, hb, bit_div, h,
        List.length_reverse, toBits_length]
      cases b <;> simp <;> omega

theorem peekPad_add (a b : Nat) (s : Bits) :
    peekPad (a + b) s = peekPad a s + 2 ^ a * peekPad b (s.drop a) := by
  induction a generalizing s with
  | zero => simp [peekPad, ofBits]
  | succ a ih =>
    cases s with
    | nil => simp [peekPad_nil]
    | cons c s =>
      rw [show a + 1 + b = (a + b) + 1 by omega, peekPad_succ_cons, peekPad_succ_cons, ih,
        drop_succ_cons, Nat.pow_succ]
      ring

theorem peekPad_mask (n m : Nat) (s : Bits) (h : n ≤ m) :
    peekPad m s &&& (2 ^ n - 1) = peekPad n s := by
  obtain ⟨k, rfl⟩ := Nat.exists_eq_add_of_le h
  rw [Nat.and_two_pow_sub_one_eq_mod, peekPad_add, Nat.add_mul_mod_self_left,
    Nat.mod_eq_of_lt (peekPad_lt n s)]

theorem peekPad_shift (a m : Nat) (s : Bits) (h : a ≤ m) :
    peekPad m s >>> a = peekPad (m - a) (s.drop a) := by
  obtain ⟨k, rfl⟩ := Nat.exists_eq_add_of_le h
  rw [Nat.shiftRight_eq_div_pow, peekPad_add, Nat.add_mul_div_left _ _ (Nat.two_pow_pos a),
    Nat.div_eq_of_lt (peekPad_lt a s), Nat.zero_add, Nat.add_sub_cancel_left]

theorem msbVal_nil (n : Nat) : msbVal n [] = 0 := by cases n <;> rfl

theorem msbVal_add (a b : Nat) (s : Bits) :
    msbVal (a + b) s = msbVal a s * 2 ^ b + msbVal b (s.drop a) := by
  induction a generalizing s with
  | zero => simp [msbVal]
  | succ a ih =>
    cases s with
    | nil => simp [msbVal_nil]
    | cons c s =>
      rw [show a + 1 + b = (a + b) + 1 by omega]
      simp only [msbVal, ih s, List.drop_succ_cons, Nat.pow_add]
      split <;> simp [Nat.add_mul] <;> omega

theorem vecReverseBits_length (v : List Entry) : (vecReverseBits v).length = v.length := by
  simp [vecReverseBits]

theorem vecReverseBits_peek (F : List Entry) (k : Nat) (hF : F.length = 2 ^ k) (s : Bits) :
    (vecReverseBits F)[peekPad k s]? = F[msbVal k s]? := by
  have hm := msbVal_lt k s
  simp [vecReverseBits, hF, Nat.log2_two_pow, peekPad_lt, revBits_peekPad, hm]

def entryOf (e : Nat × Nat) : Entry := ⟨false, e.2, e.1⟩

/-- every entry replicated to depth `d` -/
def flat (d : Nat) : List (Nat × Nat) → List Entry
  | [] => []
  | e :: r => replicate (2 ^ (d - e.2)) (entryOf e) ++ flat d r

theorem flat_append (d : Nat) (a b : List (Nat × Nat)) : flat d (a ++ b) = flat d a ++ flat d b := by
  induction a with
  | nil => rfl
  | cons e r ih => simp [flat, ih]

theorem flat_length_mul (d : Nat) (hd : d ≤ 15) (es : List (Nat × Nat)) (h : ∀ e ∈ es, e.2 ≤ d) :
    (flat d es).length * 2 ^ (15 - d) = total es := by
  induction es with
  | nil => simp [flat, total]
  | cons e r ih =>
    have hl : e.2 ≤ d := h e (by simp)
    have hp : 2 ^ (d - e.2) * 2 ^ (15 - d) = 2 ^ (15 - e.2) := by
      rw [← Nat.pow_add]; congr 1; omega
    simp only [flat, total, length_append, length_replicate, Nat.add_mul, hp,
      ih (fun e he => h e (by simp [he]))]

theorem flat_map_length (d l : Nat) (syms : List Nat) :
    (flat d (syms.map (·, l))).length = syms.length * 2 ^ (d - l) := by
  induction syms with
  | nil => simp [flat]
  | cons a r ih => simp [flat, ih, Nat.add_mul]; omega

theorem flat_lookup (d : Nat) (hd : d ≤ 15) (es : List (Nat × Nat)) (h : ∀ e ∈ es, e.2 ≤ d)
    (acc i v : Nat) (hi : i < (flat d es).length) (hlo : acc + i * 2 ^ (15 - d) ≤ v)
    (hhi : v < acc + i * 2 ^ (15 - d) + 2 ^ (15 - d)) :
    ∃ x, walk v acc es = some x ∧ (flat d es)[i]? = some (entryOf x) := by
  induction es generalizing acc i with
  | nil => cases hi
  | cons e r ih =>
    obtain ⟨s, l⟩ := e
    have hl : l ≤ d := h (s, l) (by simp)
    have hp : 2 ^ (d - l) * 2 ^ (15 - d) = 2 ^ (15 - l) := by
      rw [← Nat.pow_add]; congr 1; omega
    simp only [walk, flat, length_append, length_replicate] at hi ⊢
    by_cases hil : i < 2 ^ (d - l)
    · have := Nat.mul_le_mul_right (2 ^ (15 - d)) (Nat.succ_le_of_lt hil)
      rw [hp, Nat.succ_mul] at this
      exact ⟨(s, l), if_pos (by omega), by
        rw [getElem?_append_left (by rw [length_replicate]; exact hil), getElem?_replicate, if_pos hil]⟩
    · obtain ⟨j, rfl⟩ := Nat.exists_eq_add_of_le (Nat.le_of_not_lt hil)
      rw [Nat.add_mul, hp] at hlo hhi
      obtain ⟨x, hw, hg⟩ := ih (fun e he => h e (by simp [he])) (acc + 2 ^ (15 - l)) j (by omega)
        (by omega) (by omega)
      exact ⟨x, by rw [if_neg (by omega), hw], by
        rw [getElem?_append_right (by rw [length_replicate]; exact Nat.le_add_right ..),
          length_replicate, Nat.add_sub_cancel_left]; exact hg⟩

theorem fillSlice_append (A : List Entry) (m n : Nat) (e d : Entry) (h : n ≤ m) :
    fillSlice (A ++ replicate m d) A.length n e
      = some (A ++ replicate n e ++ replicate (m - n) d) := by
  simp [fillSlice, List.drop_append, h]

/-- entries of `syms_for_length[idx..]`, in table order -/
def entsOf : Nat → List (List Nat) → List (Nat × Nat)
  | _, [] => []
  | idx, syms :: r => syms.map (·, idx + 1) ++ entsOf (idx + 1) r

theorem topSyms_ok (idx d : Nat) (syms : List Nat) (A : List Entry) (m : Nat)
    (hfit : (flat d (syms.map (·, idx + 1))).length ≤ m) :
    topSyms idx (d - (idx + 1)) syms (A ++ replicate m default) A.length
      = .ok (A ++ flat d (syms.map (·, idx + 1))
               ++ replicate (m - (flat d (syms.map (·, idx + 1))).length) default,
             A.length + (flat d (syms.map (·, idx + 1))).length) := by
  induction syms generalizing A m with
  | nil => simp [topSyms, flat]
  | cons a r ih =>
    simp only [map_cons, flat, length_append, length_replicate] at hfit ⊢
    rw [topSyms, fillSlice_append A m _ _ _ (by omega)]
    simp only
    rw [show A.length + 2 ^ (d - (idx + 1))
        = (A ++ replicate (2 ^ (d - (idx + 1))) (⟨false, idx + 1, a⟩ : Entry)).length by simp,
      ih _ (m - 2 ^ (d - (idx + 1))) (by omega)]
    simp [entryOf, Nat.sub_sub, Nat.add_assoc]

theorem topLevels_ok (tb : Nat) (groups : List (List Nat)) (idx : Nat) (A : List Entry) (m : Nat)
    (hfit : (flat tb (entsOf idx groups)).length ≤ m) :
    topLevels tb groups idx (A ++ replicate m default) A.length
      = .ok (A ++ flat tb (entsOf idx groups)
               ++ replicate (m - (flat tb (entsOf idx groups)).length) default,
             A.length + (flat tb (entsOf idx groups)).length) := by
  induction groups generalizing idx A m with
  | nil => simp [topLevels, entsOf, flat]
  | cons syms r ih =>
    simp only [entsOf, flat_append, length_append] at hfit ⊢
    rw [topLevels, show tb - 1 - idx = tb - (idx + 1) by omega, topSyms_ok idx tb syms A m (by omega)]
    simp only
    rw [← length_append, ih (idx + 1) _ _ (by omega)]
    simp [Nat.sub_sub, Nat.add_assoc]

theorem sfl_getD (lens : List Nat) (k : Nat) (sfl : List (List Nat)) (i : Nat) :
    (symsForLengthGo lens k sfl).getD i []
      = sfl.getD i [] ++ (symsOfLen (i + 1) (lens.zipIdx k)).map Prod.fst := by
  induction lens generalizing k sfl with
  | nil => simp [symsForLengthGo, symsOfLen]
  | cons len r ih =>
    simp only [symsForLengthGo, List.zipIdx_cons, symsOfLen]
    by_cases h0 : len > 0
    · -- `resize_with` pads with empty groups: no `getD` changes, and `len - 1` is an index
      generalize hp : (if sfl.length < len then sfl ++ replicate (len - sfl.length) [] else sfl) = p
      have hpd : ∀ j, p.getD j [] = sfl.getD j [] := fun j => by
        subst hp; split
        · exact getD_append_replicate ..
        · rfl
      have hpl : len - 1 < p.length := by
        subst hp; split
        · simp; omega
        · omega
      rw [if_pos h0, ih, getD_set, hpd, hpd]
      by_cases hi : len = i + 1
      · subst hi
        rw [if_pos ⟨rfl, hpl⟩, if_pos rfl, map_cons, append_assoc, singleton_append]
        rfl
      · rw [if_neg (by omega), if_neg hi]
    · rw [if_neg h0, if_neg (by omega)]; exact ih _ _

theorem sfl_length (M : Nat) (lens : List Nat) (k : Nat) (sfl : List (List Nat))
    (h : ∀ l ∈ lens, l ≤ M) (hs : sfl.length ≤ M) : (symsForLengthGo lens k sfl).length ≤ M := by
  induction lens generalizing k sfl with
  | nil => simpa [symsForLengthGo]
  | cons len r ih =>
    have hl : len ≤ M := h len (by simp)
    simp only [symsForLengthGo]
    split
    · apply ih _ _ (fun l hl => h l (by simp [hl]))
      split <;> simp <;> omega
    · exact ih _ _ (fun l hl => h l (by simp [hl])) hs

theorem symsOfLen_map_fst (l : Nat) (z : List (Nat × Nat)) :
    ((symsOfLen l z).map Prod.fst).map (·, l) = symsOfLen l z := by
  induction z with
  | nil => rfl
  | cons a r ih =>
    obtain ⟨len, sym⟩ := a
    simp only [symsOfLen]
    split <;> simp [ih]

theorem entsOf_replicate_nil (idx n : Nat) : entsOf idx (replicate n []) = [] := by
  induction n generalizing idx with
  | zero => rfl
  | succ n ih => simp [replicate_succ, entsOf, ih]

theorem entsOf_append (idx : Nat) (a b : List (List Nat)) :
    entsOf idx (a ++ b) = entsOf idx a ++ entsOf (idx + a.length) b := by
  induction a generalizing idx with
  | nil => simp [entsOf]
  | cons x r ih =>
    simp only [cons_append, entsOf, ih, length_cons, append_assoc]
    rw [show idx + 1 + r.length = idx + (r.length + 1) by omega]

theorem entsOf_pad (idx : Nat) (g : List (List Nat)) (n : Nat) :
    entsOf idx (g ++ replicate n []) = entsOf idx g := by
  rw [entsOf_append, entsOf_replicate_nil, append_nil]

theorem entsOf_range' (z : List (Nat × Nat)) (idx n : Nat) :
    entsOf idx ((List.range' idx n).map fun l => (symsOfLen (l + 1) z).map Prod.fst)
      = (List.range' idx n).flatMap fun l => symsOfLen (l + 1) z := by
  induction n generalizing idx with
  | zero => simp [entsOf]
  | succ n ih =>
    simp [List.range'_succ, entsOf, ih]
    simpa using symsOfLen_map_fst (idx + 1) z

theorem entsOf_symsForLength (lens : List Nat) (h : ∀ l ∈ lens, l ≤ 15) :
    entsOf 0 (symsForLength lens) = sortedSyms lens := by
  have hlen : (symsForLength lens).length ≤ 15 := sfl_length 15 lens 0 [] h (by simp)
  have hpad : symsForLength lens ++ replicate (15 - (symsForLength lens).length) []
      = (List.range' 0 15).map fun l => (symsOfLen (l + 1) lens.zipIdx).map Prod.fst := by
    refine (map_getD_range _ [] (n := 15) (by simp; omega)).symm.trans ?_
    rw [range_eq_range']
    refine map_congr_left fun i _ => ?_
    rw [getD_append_replicate, symsForLength, sfl_getD]; rfl
  rw [← entsOf_pad 0 _ (15 - (symsForLength lens).length), hpad, entsOf_range']
  simp [sortedSyms, List.range_eq_range']

theorem entsOf_le (idx : Nat) (g : List (List Nat)) :
    ∀ e ∈ entsOf idx g, e.2 ≤ idx + g.length := by
  induction g generalizing idx with
  | nil => simp [entsOf]
  | cons a r ih =>
    intro e he
    simp only [entsOf, mem_append, mem_map] at he
    rcases he with ⟨x, _, rfl⟩ | he
    · simp
    · have := ih (idx + 1) e he
      simp only [length_cons]; omega

end Jxl.Entropy
