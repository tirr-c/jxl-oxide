import JxlModel.Proofs.Entropy.AnsHistLog
/-! General ANS histogram header, second decoder loop (`readCounts`): over the code list `codeAt`
and the mantissa bits `mantissaAt`, the loop rebuilds every entry except the omitted one, and
accumulates their sum. -/
namespace Jxl.Entropy
open Jxl Jxl.Enc

def mantissaAt (x : Nat → Nat) (shift op : Nat) (rs : List (Nat × Nat)) (i : Nat) : Bits :=
  if inRunB rs i ∨ i = op then []
  else if logCount (x i) > 1 then
    toBits (mantissaBits shift (logCount (x i)))
      ((x i - 2 ^ (logCount (x i) - 1))
        / 2 ^ ((logCount (x i) - 1) - mantissaBits shift (logCount (x i))))
  else []

/-- the run bookkeeping at the head of the loop body: remaining runs, and "this index repeats" -/
def runStep (runs : List (Nat × Nat)) (idx : Nat) : List (Nat × Nat) × Bool :=
  match runs with
  | (a, b) :: rr => if a ≤ idx then (if b = idx then (rr, false) else (runs, true)) else (runs, false)
  | [] => ([], false)

/-- contribution of index `j` to the accumulator -/
def ex (x : Nat → Nat) (op j : Nat) : Nat := if j = op then 0 else x j

theorem ex_self (x : Nat → Nat) (op : Nat) : ex x op op = 0 := if_pos rfl

theorem ex_of_ne {x : Nat → Nat} {op i : Nat} (h : i ≠ op) : ex x op i = x i := if_neg h

def sumEx (x : Nat → Nat) (op i n : Nat) : Nat := ((List.range' i n).map (ex x op)).sum

theorem sumEx_zero (x : Nat → Nat) (op i : Nat) : sumEx x op i 0 = 0 := rfl

theorem sumEx_succ (x : Nat → Nat) (op i n : Nat) :
    sumEx x op i (n + 1) = ex x op i + sumEx x op (i + 1) n := by
  simp [sumEx, List.range'_succ]

theorem logCount_le {v k : Nat} : logCount v ≤ k ↔ v < 2 ^ k := by
  unfold logCount
  by_cases h : v = 0
  · simp [h]
  · rw [if_neg h, ← Nat.log2_lt h]
    exact Nat.succ_le_iff

theorem mantissa_rt (v z bc : Nat) (hl : 2 ^ z ≤ v) (hu : v < 2 ^ (z + 1)) (hbc : bc ≤ z)
    (h : 2 ^ (z - bc) ∣ v) :
    (v - 2 ^ z) / 2 ^ (z - bc) < 2 ^ bc ∧
    2 ^ z + (v - 2 ^ z) / 2 ^ (z - bc) * 2 ^ (z - bc) = v := by
  have hz : 2 ^ bc * 2 ^ (z - bc) = 2 ^ z := by rw [← Nat.pow_add, Nat.add_sub_cancel' hbc]
  have hd : 2 ^ (z - bc) ∣ v - 2 ^ z := Nat.dvd_sub h (Dvd.intro_left _ hz)
  rw [Nat.div_mul_cancel hd, Nat.div_lt_iff_lt_mul (Nat.two_pow_pos _), hz]
  rw [Nat.pow_succ] at hu
  omega

/-- representability of the non-omitted entries, as a statement about the entry function -/
def ReprFn (shift : Nat) (x : Nat → Nat) (op : Nat) : Prop :=
  ∀ j, j ≠ op → x j ≤ 1 ∨ 2 ^ ((logCount (x j) - 1) - mantissaBits shift (logCount (x j))) ∣ x j

/-- the runs the decoder still holds when it reaches index `i`: those that do not end before `i` -/
def pending : List (Nat × Nat) → Nat → List (Nat × Nat)
  | [], _ => []
  | (s, l) :: tl, i => if i ≤ s + l then (s, s + l) :: tl.map runConv else pending tl i

theorem RunsOK.pending_of_le {x : Nat → Nat} {op a lo : Nat} {rs : List (Nat × Nat)}
    (hrs : RunsOK x op a lo rs) {i : Nat} (hi : i ≤ lo) : pending rs i = rs.map runConv := by
  cases rs with
  | nil => rfl
  | cons r tl => exact if_pos (Nat.le_trans hi (Nat.le_trans hrs.1 (Nat.le_add_right _ _)))

theorem RunsOK.runStep_pending {x : Nat → Nat} {op a : Nat} (i : Nat) :
    ∀ {lo : Nat} {rs : List (Nat × Nat)}, RunsOK x op a lo rs →
      runStep (pending rs i) i = (pending rs (i + 1), inRunB rs i)
  | _, [], _ => rfl
  | lo, (s, l) :: tl, hrs => by
    have h4 := hrs.2.1.len4
    have htl : RunsOK x op a (s + l + 1) tl := hrs.2.2
    rw [inRunB_cons]
    unfold pending
    by_cases h1 : i ≤ s + l
    · rw [if_pos h1]
      simp only [runStep]
      by_cases h2 : s ≤ i
      · rw [if_pos h2]
        by_cases h3 : s + l = i
        · -- the end of the run: dropped, and `i` itself is an ordinary index
          rw [if_pos h3, if_neg (by omega), htl.pending_of_le (by omega),
            decide_eq_false (by omega), (htl.kind_out (by omega)).2]
          rfl
        · rw [if_neg h3, if_pos (by omega), decide_eq_true (by omega)]
          rfl
      · rw [if_neg h2, if_pos (by omega), decide_eq_false (by omega), (htl.kind_out (by omega)).2]
        rfl
    · rw [if_neg h1, if_neg (by omega), decide_eq_false (by omega)]
      exact RunsOK.runStep_pending i htl

theorem RunOK.at_index {x : Nat → Nat} {op a : Nat} {r : Nat × Nat} (h : RunOK x op a r) {i : Nat}
    (h1 : r.1 ≤ i) (h2 : i < r.1 + r.2) : i ≠ op ∧ x i = prevOf (ex x op) i := by
  have hi := h.noOp i h1 h2
  refine ⟨hi, ?_⟩
  rw [h.eqPrev i h1 h2]
  unfold prevOf
  by_cases hs : r.1 = i
  · -- the run's first index: the entry before it is not the omitted one
    have hop1 := h.notAfter
    rw [hs] at hop1 ⊢
    rw [ex_of_ne (by omega)]
  · -- further on: the entry before `i` is in the run too
    have h3 : r.1 ≤ i - 1 := by omega
    have h4 : i - 1 < r.1 + r.2 := by omega
    rw [if_neg (by omega : ¬ i = 0), ex_of_ne (h.noOp _ h3 h4), h.eqPrev _ h3 h4]
    rfl

/-- At the omitted position the loop stores the code; the final patch overwrites it. -/
theorem readCounts_step {x : Nat → Nat} {shift op a : Nat} {rs : List (Nat × Nat)}
    (hrepr : ReprFn shift x op) (hrs : RunsOK x op a 0 rs) (i : Nat) (restc out : List Nat)
    (acc : Nat) (s : Bits) (hacc : acc + ex x op i ≤ 4096) :
    readCounts shift op (codeAt x rs i :: restc) i ⟨out, acc, prevOf (ex x op) i, pending rs i⟩
        (mantissaAt x shift op rs i ++ s)
      = readCounts shift op restc (i + 1)
          ⟨Function.update x op (logCount (x op)) i :: out, acc + ex x op i, ex x op i,
            pending rs (i + 1)⟩ s := by
  rw [readCounts]
  -- the body starts with the run bookkeeping, which is `runStep`; name its result
  split
  next runs inRun hstep =>
  have hstep' : runStep (pending rs i) i = (runs, inRun) := hstep
  rw [hrs.runStep_pending i] at hstep'
  cases hstep'
  dsimp only
  unfold mantissaAt
  cases hk : inRunB rs i with
  | true =>
    obtain ⟨r, hm, hin⟩ := List.any_eq_true.1 hk
    have hin' : r.1 ≤ i ∧ i < r.1 + r.2 := of_decide_eq_true hin
    obtain ⟨hne, hx⟩ := (hrs.all_ok r hm).at_index hin'.1 hin'.2
    rw [ex_of_ne hne, hx] at hacc
    rw [if_pos rfl, if_neg (by omega), if_pos (Or.inl rfl), List.nil_append, Function.update_of_ne hne,
      ex_of_ne hne, hx]
  | false =>
    rw [if_neg Bool.false_ne_true, codeAt_normal hk]
    by_cases hio : i = op
    · -- the code is stored whether it is `0` or not
      subst hio
      rw [if_pos (Or.inr rfl), ex_self, Function.update_self]
      by_cases hc0 : logCount (x i) = 0
      · rw [if_pos hc0, hc0]; rfl
      · rw [if_neg hc0, if_pos rfl]; rfl
    rw [ex_of_ne hio] at hacc
    rw [ex_of_ne hio, Function.update_of_ne hio, if_neg (not_or.2 ⟨Bool.false_ne_true, hio⟩)]
    by_cases hc0 : logCount (x i) = 0
    · have h0 : x i = 0 := by have := logCount_le.1 (Nat.le_of_eq hc0); omega
      rw [if_pos hc0, if_neg (by omega), h0]; rfl
    rw [if_neg hc0, if_neg hio]
    by_cases hc1 : logCount (x i) > 1
    · rw [if_pos hc1, if_pos hc1]
      have hl : 2 ^ (logCount (x i) - 1) ≤ x i := Nat.not_lt.1 (mt logCount_le.2 (by omega))
      have h2 : ¬ x i ≤ 1 := fun h => by have := (@logCount_le (x i) 1).2 (by omega); omega
      obtain ⟨m1, m2⟩ := mantissa_rt (x i) (logCount (x i) - 1) _ hl (logCount_le.1 (by omega))
        (Nat.min_le_right _ _) ((hrepr i hio).resolve_left h2)
      -- the loop body spells `mantissaBits` out
      simp only [mantissaBits] at m1 m2 ⊢
      rw [rbits_toBits _ _ _ m1]
      dsimp only
      rw [m2, if_neg (by omega)]
    · rw [if_neg hc1, if_neg hc1]
      have h1 : logCount (x i) = x i := by
        have := @logCount_le (x i) 0
        have := @logCount_le (x i) 1
        omega
      rw [h1, if_neg (by omega)]
      rfl

theorem readCounts_main {x : Nat → Nat} {shift op a : Nat} {rs : List (Nat × Nat)}
    (hrepr : ReprFn shift x op) (hrs : RunsOK x op a 0 rs) (rest : Bits) :
    ∀ (n i : Nat) (out : List Nat) (acc : Nat), acc + sumEx x op i n ≤ 4096 →
      readCounts shift op ((List.range' i n).map (codeAt x rs)) i
          ⟨out, acc, prevOf (ex x op) i, pending rs i⟩
          ((List.range' i n).flatMap (mantissaAt x shift op rs) ++ rest)
        = .ok (⟨((List.range' i n).map (Function.update x op (logCount (x op)))).reverse ++ out,
                acc + sumEx x op i n, prevOf (ex x op) (i + n), pending rs (i + n)⟩, rest)
  | 0, i, out, acc, _ => rfl
  | n + 1, i, out, acc, hacc => by
    rw [sumEx_succ] at hacc
    rw [List.range'_succ, List.map_cons, List.map_cons, List.flatMap_cons, List.append_assoc,
      readCounts_step hrepr hrs i _ out acc _ (by omega)]
    refine (readCounts_main hrepr hrs rest n (i + 1) _ _ (by omega)).trans ?_
    simp [sumEx_succ, Nat.add_assoc, Nat.add_comm 1 n]

end Jxl.Entropy
