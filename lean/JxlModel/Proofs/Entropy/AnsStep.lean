import JxlModel.Model.Entropy.Ans
import JxlModel.Model.Enc.AnsEnc
import JxlModel.Proofs.Entropy.Reader
/-! One rANS decode step inverts one encode step; states stay in `[2^16, 2^32)`. -/
namespace Jxl.Entropy
open Jxl.Enc

/-- an ANS histogram can encode `sym`: positive probability, and the alias map reaches every
offset of the symbol (this is what `C04_alias_bijection` provides) -/
def AnsSymOK (h : AnsHist) (sym : Nat) : Prop :=
  0 < symDist h sym ∧ symDist h sym ≤ 4096 ∧
  ∀ k, k < symDist h sym → ∃ idx, idx < 4096 ∧ h.lookup idx = (sym, k, symDist h sym)

/-- Slot `inv (y % D)` is offset `y % D` of `s`, so the decoder recomputes `y`, and refills 16 bits
if `y` is below `2^16`. -/
theorem readSymbol_encoded (h : AnsHist) (s D : Nat) (inv : Nat → Nat) (hD : 0 < D)
    (hinv : ∀ k, k < D → h.lookup (inv k) = (s, k, D) ∧ inv k < 4096) (y : Nat)
    (h1 : 16 * D ≤ y) (h2 : y < 2 ^ 20 * D) (bits : Bits) :
    2 ^ 16 ≤ y / D * 4096 + inv (y % D) ∧ y / D * 4096 + inv (y % D) < 2 ^ 32 ∧
    h.readSymbol (y / D * 4096 + inv (y % D)) bits =
      if y < 2 ^ 16 then
        match dropChk 16 bits with
        | some r => .ok ((s, y * 2 ^ 16 + peekPad 16 bits), r)
        | none => .error .eof
      else .ok ((s, y), bits) := by
  obtain ⟨hl, hi⟩ := hinv _ (Nat.mod_lt y hD)
  have := (Nat.le_div_iff_mul_le hD).2 h1
  have := (Nat.div_lt_iff_lt_mul hD).2 h2
  have hslot : (y / D * 4096 + inv (y % D)) % 4096 = inv (y % D) ∧
      (y / D * 4096 + inv (y % D)) / 4096 = y / D := by omega
  refine ⟨by omega, by omega, ?_⟩
  unfold AnsHist.readSymbol
  rw [hslot.1, hl, hslot.2]
  simp only
  rw [Nat.div_add_mod']
  rfl

/-- `inv` is the inverse of the alias map on symbol `s` of probability `D`; the encoder moves 16 bits
out exactly when the new state would otherwise reach `2^32` (`x / 2^20 ≥ D`), and the decoder pulls
them back in because it then lands below `2^16`. -/
theorem ans_step_inv (h : AnsHist) (s D : Nat) (inv : Nat → Nat) (hD : 0 < D) (hD' : D ≤ 4096)
    (hinv : ∀ k, k < D → h.lookup (inv k) = (s, k, D) ∧ inv k < 4096)
    (x : Nat) (hx1 : 2 ^ 16 ≤ x) (hx2 : x < 2 ^ 32) (rest : Bits) :
    let r := ansEncStep D inv x
    2 ^ 16 ≤ r.1 ∧ r.1 < 2 ^ 32 ∧
    h.readSymbol r.1 (stepBits r.2 ++ rest) = .ok ((s, x), rest) := by
  intro r
  by_cases hren : x / 2 ^ 20 ≥ D
  · obtain ⟨b1, b2, e⟩ := readSymbol_encoded h s D inv hD hinv (x / 2 ^ 16) (by omega) (by omega)
      (toBits 16 (x % 2 ^ 16) ++ rest)
    simp only [r, ansEncStep, hren, if_true, stepBits]
    refine ⟨b1, b2, ?_⟩
    rw [e, if_pos (by omega),
      dropChk_append 16 _ rest (toBits_length _ _), peekPad_append 16 _ rest (toBits_length _ _),
      ofBits_toBits _ _ (Nat.mod_lt _ (by decide)), Nat.div_add_mod']
  · obtain ⟨b1, b2, e⟩ := readSymbol_encoded h s D inv hD hinv x (by omega) (by omega) rest
    simp only [r, ansEncStep, hren, if_false]
    rw [if_neg (by omega)] at e
    exact ⟨b1, b2, e⟩

end Jxl.Entropy
