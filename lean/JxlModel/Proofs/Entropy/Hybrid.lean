import Mathlib.Tactic.Ring
import JxlModel.Model.Entropy.Hybrid
import JxlModel.Proofs.Entropy.Reader
/-! Hybrid unsigned integers: `readUint` inverts `splitUint`; widths of the `IntegerConfig` fields. -/
namespace Jxl.Entropy

/-- arithmetic core of the round trip, with the powers of two abstracted: `A = 2^lsb`, `B = 2^nbits`,
`C = 2^msb`, `S·A·C = 2^split_exponent`; `m < B·A·C` is the value below its leading bit. The token
`S·A·C + k·(C·A) + hi·A + lo` carries `k`, the top `msb` bits `hi` and the low `lsb` bits `lo` of `m`;
together with the middle bits they make up `m` again. -/
theorem uint_arith (A B C S k m T : Nat) (hA : 0 < A) (hm : m < B * A * C)
    (hT : T = S * A * C + k * (C * A) + m / (B * A) * A + m % A) :
    S * A * C ≤ T ∧ (T - S * A * C) / (C * A) = k ∧ T % A = m % A ∧ T / A % C = m / (B * A) ∧
    ((m / (B * A) + C) * B + m / A % B) * A + m % A = m + B * A * C := by
  subst hT
  have hhi : m / (B * A) < C := by
    rw [Nat.div_lt_iff_lt_mul (Nat.pos_of_ne_zero fun h => by rw [h] at hm; omega)]
    rw [Nat.mul_comm C]; exact hm
  have hlo : m % A < A := Nat.mod_lt _ hA
  have h1 := Nat.div_add_mod m A
  have h2 := Nat.div_add_mod (m / A) B
  rw [Nat.div_div_eq_div_mul, Nat.mul_comm A B] at h2
  generalize m / (B * A) = hi at *
  generalize m % A = lo at *
  generalize m / A = q at *
  generalize q % B = mid at *
  have e1 : S * A * C + k * (C * A) + hi * A + lo = ((S + k) * C + hi) * A + lo := by ring
  refine ⟨by omega, ?_, ?_, ?_, ?_⟩
  · rw [show S * A * C + k * (C * A) + hi * A + lo - S * A * C = k * (C * A) + (hi * A + lo) by omega]
    exact mul_add_div_of_lt (mul_add_lt_mul hhi hlo)
  · rw [e1, Nat.mul_add_mod', Nat.mod_eq_of_lt hlo]
  · rw [e1, mul_add_div_of_lt hlo, Nat.mul_add_mod', Nat.mod_eq_of_lt hhi]
  · rw [← h1, ← h2]; ring

theorem readUint_splitUint (c : IntegerConfig) (hc : c.msbInToken + c.lsbInToken ≤ c.splitExponent)
    (v : Nat) (hv : v < 2 ^ 32) (rest : Bits) :
    readUint c (tokenOf c v) (uintBits c v ++ rest) = .ok (v, rest) := by
  obtain ⟨se, msb, lsb⟩ := c
  simp only at hc
  unfold tokenOf uintBits splitUint readUint IntegerConfig.split
  simp only
  by_cases hlt : v < 2 ^ se
  · simp [hlt, toBits]
  · simp only [hlt, if_false]
    have hv0 : v ≠ 0 := fun h => hlt (h ▸ Nat.two_pow_pos se)
    have hlo2 : 2 ^ Nat.log2 v ≤ v := Nat.log2_self_le hv0
    have hhi2 : v < 2 ^ (Nat.log2 v + 1) := Nat.lt_log2_self
    have hn_se : se ≤ Nat.log2 v := (Nat.le_log2 hv0).2 (Nat.le_of_not_lt hlt)
    have hn31 : Nat.log2 v < 32 := (Nat.log2_lt hv0).2 hv
    generalize Nat.log2 v = n at *
    obtain ⟨s, rfl⟩ : ∃ s, se = s + lsb + msb := ⟨se - (msb + lsb), by omega⟩
    obtain ⟨nb, rfl⟩ : ∃ nb, n = nb + lsb + msb := ⟨n - (msb + lsb), by omega⟩
    have drop_ml : ∀ a, a + lsb + msb - (msb + lsb) = a := fun a => by omega
    have n_sub_se : nb + lsb + msb - (s + lsb + msb) = nb - s := by omega
    have nbits_mod : (s + (nb - s)) % 32 = nb := by omega
    obtain ⟨m, rfl⟩ : ∃ m, v = m + 2 ^ (nb + lsb + msb) := ⟨v - 2 ^ (nb + lsb + msb), by omega⟩
    have hm : m < 2 ^ nb * 2 ^ lsb * 2 ^ msb := by
      rw [← Nat.pow_add, ← Nat.pow_add]; rw [Nat.pow_succ] at hhi2; omega
    obtain ⟨c1, c2, c3, c4, c5⟩ := uint_arith (2 ^ lsb) (2 ^ nb) (2 ^ msb) (2 ^ s) (nb - s) m _
      (Nat.two_pow_pos _) hm rfl
    simp only [drop_ml, n_sub_se, Nat.add_sub_cancel, Nat.shiftRight_eq_div_pow, Nat.pow_add]
    rw [if_neg (Nat.not_lt.2 c1), c2, nbits_mod, dropChk_append _ _ _ (toBits_length _ _),
      peekPad_append _ _ _ (toBits_length _ _), ofBits_toBits _ _ (Nat.mod_lt _ (Nat.two_pow_pos _))]
    simp only [c3, c4, c5]
    rw [← Nat.pow_add, ← Nat.pow_add, Nat.mod_eq_of_lt hv]

theorem uintBits_length (c : IntegerConfig) (v : Nat) :
    (uintBits c v).length = (splitUint c v).2.1 := by
  unfold uintBits
  simp [toBits_length]

theorem clog2_go_spec (f k n : Nat) (hf : n ≤ 2 ^ (k + f)) : n ≤ 2 ^ (clog2.go f k n) := by
  induction f generalizing k with
  | zero => simpa [clog2.go] using hf
  | succ f ih =>
    unfold clog2.go
    split
    · assumption
    · apply ih; rw [show k + 1 + f = k + (f + 1) by omega]; exact hf

theorem le_pow_clog2 (n : Nat) (h : n ≤ 2 ^ 32) : n ≤ 2 ^ clog2 n :=
  clog2_go_spec 33 0 n (by simp; omega)

theorem lt_pow_addLog2Ceil (x : Nat) (hx : x < 2 ^ 32) : x < 2 ^ addLog2Ceil x :=
  le_pow_clog2 (x + 1) hx

theorem le_lt_pow_addLog2Ceil (x y : Nat) (hy : y < 2 ^ 32) (h : x ≤ y) : x < 2 ^ addLog2Ceil y :=
  Nat.lt_of_le_of_lt h (lt_pow_addLog2Ceil y hy)

end Jxl.Entropy
