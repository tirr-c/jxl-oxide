import JxlModel.Proofs.Entropy.PrefixRuns
import JxlModel.Proofs.Entropy.Header
import JxlModel.Proofs.Entropy.HuffLen
/-! First loop of `parse_complex` (`readClc`) over what `writeClc` writes; the used entries of a
length vector (`usedL`); the Kraft sum of a code-length code in units of 1/32 and of 1/2^15. -/
namespace Jxl.Entropy
open Jxl.Enc

/-- Kraft mass, in units of 1/32, of the entries `r` of `clc` -/
def clcMass (clc r : List Nat) : Nat := kraftN 5 (r.map fun i => clc.getD i 0)

def clcNz (clc r : List Nat) : List Nat := r.filter fun i => clc.getD i 0 ≠ 0

/-- the weight of a used entry is what `readClc` adds to the space -/
theorem kw5_pos {l : Nat} (h0 : l ≠ 0) (h5 : l ≤ 5) :
    32 / 2 ^ l = kw 5 l ∧ 0 < kw 5 l ∧ kw 5 l ≤ 16 := by
  unfold kw
  rw [if_neg h0]
  have : l = 1 ∨ l = 2 ∨ l = 3 ∨ l = 4 ∨ l = 5 := by omega
  rcases this with rfl | rfl | rfl | rfl | rfl <;> decide

theorem clcMass_eq_zero (clc r : List Nat) : clcMass clc r = 0 ↔ ∀ i ∈ r, clc.getD i 0 = 0 := by
  have hw : ∀ l, kw 5 l = 0 ↔ l = 0 := fun l => by unfold kw; split <;> simp [*]
  simp only [clcMass, kraftN, List.sum_eq_zero_iff_forall_eq_nat, List.forall_mem_map, hw]

theorem clcNz_cons (clc : List Nat) (i : Nat) (r : List Nat) :
    clcNz clc (i :: r) = if clc.getD i 0 = 0 then clcNz clc r else i :: clcNz clc r := by
  unfold clcNz
  rw [List.filter_cons]
  by_cases h : clc.getD i 0 = 0 <;> simp

theorem clcMass_append (clc a b : List Nat) :
    clcMass clc (a ++ b) = clcMass clc a + clcMass clc b := by
  simp [clcMass, kraftN]

theorem clcMass_le (clc r : List Nat) (h5 : ∀ i ∈ r, clc.getD i 0 ≤ 5) :
    clcMass clc r ≤ 16 * (clcNz clc r).length := by
  induction r with
  | nil => exact Nat.le_refl 0
  | cons a r ih =>
    have := ih (fun j hj => h5 j (by simp [hj]))
    rw [clcNz_cons, show clcMass clc (a :: r) = kw 5 (clc.getD a 0) + clcMass clc r from rfl]
    by_cases h0 : clc.getD a 0 = 0
    · rw [if_pos h0, h0]; exact Nat.le_trans (Nat.le_of_eq (Nat.zero_add _)) this
    · have := (kw5_pos h0 (h5 a (by simp))).2.2
      rw [if_neg h0, List.length_cons]; omega

/-- The state holds `clc` outside `r` and zeros on `r`: when the space of 32 is used up both sides
stop, and the entries not visited are zero in `clc` as they are in the state. -/
theorem readClc_write (clc : List Nat) (rest : Bits) : ∀ (r : List Nat) (st : ClcState), r.Nodup →
    (∀ i ∈ r, clc.getD i 0 ≤ 5) → st.bitacc + clcMass clc r ≤ 32 → st.bitacc < 32 →
    st.lens.length = clc.length → (∀ i ∈ r, i < clc.length) →
    (∀ i, st.lens.getD i 0 = if i ∈ r then 0 else clc.getD i 0) →
    readClc r st (writeClc r clc st.bitacc ++ rest)
      = .ok (⟨clc, st.bitacc + clcMass clc r, st.nonzeroCount + (clcNz clc r).length,
              (clcNz clc r).getLast?.getD st.nonzeroSym⟩, rest) := by
  intro r
  induction r with
  | nil =>
    intro st _ _ _ _ hl _ hA
    obtain ⟨lens, b, c, s⟩ := st
    obtain rfl : lens = clc := ext_getD 0 hl (by simpa using hA)
    rfl
  | cons idx r ih =>
    intro st hnd h5 hb hlt32 hl hlt hA
    obtain ⟨hir, hnd'⟩ := List.nodup_cons.1 hnd
    have hl5 : clc.getD idx 0 ≤ 5 := h5 idx (by simp)
    have h5' : ∀ j ∈ r, clc.getD j 0 ≤ 5 := fun j hj => h5 j (by simp [hj])
    have hlt' : ∀ j ∈ r, j < clc.length := fun j hj => hlt j (by simp [hj])
    have hmc : clcMass clc (idx :: r) = kw 5 (clc.getD idx 0) + clcMass clc r := rfl
    rw [hmc] at hb
    have hA' : ∀ i, (st.lens.set idx (clc.getD idx 0)).getD i 0
        = if i ∈ r then 0 else clc.getD i 0 := by
      intro i
      rw [getD_set, hA i]
      by_cases hi : idx = i
      · subst hi; simp [hir, hl, hlt idx (by simp)]
      · simp [hi, Ne.symm hi]
    have hl' : (st.lens.set idx (clc.getD idx 0)).length = clc.length := by rw [List.length_set, hl]
    simp only [readClc, writeClc, List.append_assoc, readClcLen_write _ hl5, hmc, clcNz_cons]
    by_cases h0 : clc.getD idx 0 = 0
    · have hk : kw 5 (clc.getD idx 0) = 0 := by rw [h0]; rfl
      rw [if_neg (by simpa using h0), if_pos h0, if_neg (by omega : ¬ st.bitacc ≥ 32), if_pos h0,
        ih { st with lens := st.lens.set idx (clc.getD idx 0) } hnd' h5' (by simp only; omega)
          hlt32 hl' hlt' hA', hk, Nat.zero_add]
    · obtain ⟨hke, hkpos, hk16⟩ := kw5_pos h0 hl5
      rw [if_pos (by simpa using h0), if_neg h0, hke, if_neg h0, List.length_cons,
        List.getLast?_cons, Option.getD_some]
      by_cases hfull : st.bitacc + kw 5 (clc.getD idx 0) = 32
      · have hm0 : clcMass clc r = 0 := by omega
        have hrz := (clcMass_eq_zero clc r).1 hm0
        have hn0 : clcNz clc r = [] := List.filter_eq_nil_iff.2 fun i hi => by rw [hrz i hi]; decide
        have hE : st.lens.set idx (clc.getD idx 0) = clc := ext_getD 0 hl' fun i => by
          rw [hA' i]; split
          · rename_i hi; exact (hrz i hi).symm
          · rfl
        rw [if_neg (by omega), if_pos hfull, if_pos (by omega), hm0, hn0, hE]
        rfl
      · rw [if_pos (by omega), if_neg (by omega),
          ih ⟨st.lens.set idx (clc.getD idx 0), st.bitacc + kw 5 (clc.getD idx 0),
            st.nonzeroCount + 1, idx⟩ hnd' h5' (by simp only; omega) (by simp only; omega)
            hl' hlt' hA']
        simp only [Nat.add_assoc, Nat.add_comm 1]

/-- used entries `(length, symbol)` of a length vector, ascending symbol -/
def usedL (lens : List Nat) : List (Nat × Nat) :=
  lens.zipIdx.filter (fun p : Nat × Nat => decide (p.1 ≠ 0))

theorem mem_usedL (lens : List Nat) (l s : Nat) :
    (l, s) ∈ usedL lens ↔ lens[s]? = some l ∧ l ≠ 0 := by
  unfold usedL
  rw [List.mem_filter, List.mem_zipIdx_iff_getElem?]
  simp

theorem usedL_getD (lens : List Nat) (l s : Nat) (h : (l, s) ∈ usedL lens) :
    lens.getD s 0 = l ∧ l ≠ 0 ∧ s < lens.length := by
  obtain ⟨h1, h2⟩ := (mem_usedL lens l s).1 h
  refine ⟨by rw [List.getD_eq_getElem?_getD, h1]; rfl, h2, ?_⟩
  by_contra hcon
  rw [List.getElem?_eq_none (by omega)] at h1
  cases h1

theorem usedL_of_getD (lens : List Nat) (i : Nat) (h : lens.getD i 0 ≠ 0) :
    (lens.getD i 0, i) ∈ usedL lens := by
  rw [mem_usedL]
  have hlt : i < lens.length := by
    by_contra hcon
    rw [List.getD_eq_getElem?_getD, List.getElem?_eq_none (by omega)] at h
    exact h rfl
  refine ⟨?_, h⟩
  rw [List.getD_eq_getElem?_getD, List.getElem?_eq_getElem hlt]
  rfl

theorem usedL_nodup (lens : List Nat) : ((usedL lens).map (·.2)).Nodup :=
  nodup_snd_filter_zipIdx _ lens 0

theorem codeOfLens_eq (lens : List Nat) :
    codeOfLens lens = match usedL lens with
      | [(_, s)] => .single s
      | _ => .table (sortedSyms lens) := by rfl

theorem codeOfLens_single (clc : List Nat) (s : Nat) (h1 : clc.getD s 0 = 1)
    (hz : ∀ i, clc.getD i 0 ≠ 0 → i = s) : codeOfLens clc = .single s := by
  have hmem : (1, s) ∈ usedL clc := by
    have := usedL_of_getD clc s (by omega)
    rwa [h1] at this
  have hu : usedL clc = [(1, s)] := by
    refine eq_singleton_of_nodup
      (List.Pairwise.of_map (·.2) (fun _ _ h e => h (congrArg _ e)) (usedL_nodup clc)) hmem ?_
    rintro ⟨l, i⟩ hp
    obtain ⟨e, hl, _⟩ := usedL_getD clc l i hp
    obtain rfl : i = s := hz i (by rw [e]; exact hl)
    rw [← e, h1]
  rw [codeOfLens_eq, hu]

theorem clcMass_order (clc : List Nat) (hlen : clc.length = 18) :
    clcMass clc codeLengthOrder = kraftN 5 clc := by
  have hperm : codeLengthOrder.Perm (List.range 18) := by decide
  rw [clcMass, kraftN, ((hperm.map _).map _).sum_nat, map_getD_range clc 0 hlen]
  rfl

theorem kraft_of_kraftN5 (l : List Nat) (h : ∀ c ∈ l, c ≤ 5) : kraft l = 2 ^ 10 * kraftN 5 l := by
  induction l with
  | nil => rfl
  | cons a t ih =>
    obtain ⟨ha, ht⟩ := List.forall_mem_cons.1 h
    rw [kraft, ih ht, show kraftN 5 (a :: t) = kw 5 a + kraftN 5 t from rfl, Nat.mul_add, kw]
    split
    · rfl
    · rw [← Nat.pow_add, show 10 + (5 - a) = 15 - a by omega]

end Jxl.Entropy
