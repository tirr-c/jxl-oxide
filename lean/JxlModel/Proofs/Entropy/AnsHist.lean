import JxlModel.Proofs.Entropy.AnsHistDist
/-! General ANS histogram header: the decoder reads back what the encoder wrote
(`parseAnsDist_layout` over variables, `parseAnsDist_general` for the encoder's choices). -/
namespace Jxl.Entropy
open Jxl Jxl.Enc

/-- every entry except the omitted one is exactly representable with the mantissa bits that
`shift` transmits -/
def ReprOK (shift : Nat) (d : List Nat) : Prop :=
  ∀ i, i ≠ omitPos d → d.getD i 0 ≤ 1 ∨
    d.getD i 0 / 2 ^ ((logCount (d.getD i 0) - 1) - mantissaBits shift (logCount (d.getD i 0)))
      * 2 ^ ((logCount (d.getD i 0) - 1) - mantissaBits shift (logCount (d.getD i 0))) = d.getD i 0

theorem reprOK_13 (d : List Nat) (hsum : d.sum = 4096) : ReprOK 13 d := by
  intro i _
  have hv := getD_add_le_sum d i (i + 1) (by omega)
  generalize d.getD i 0 = v at hv ⊢
  by_cases h1 : v ≤ 1
  · exact Or.inl h1
  · right
    have hlog : logCount v ≤ 13 := logCount_le.2 (by omega)
    -- all bits below the leading one are transmitted
    have hz : (logCount v - 1) - mantissaBits 13 (logCount v) = 0 := by
      rw [mantissaBits]
      omega
    rw [hz, Nat.pow_zero, Nat.div_one, Nat.mul_one]

theorem reprOK_of_quantize (shift : Nat) (d : List Nat) (h : quantizeForShift shift d = d) :
    ReprOK shift d := by
  intro i hi
  by_cases h1 : d.getD i 0 ≤ 1
  · exact Or.inl h1
  · right
    have hlen : i < d.length := lt_length_of_getD_ne (d := 0) (by omega)
    have hg : (quantizeForShift shift d).getD i 0 = d.getD i 0 := by rw [h]
    rw [getD_eq_getElem _ _ hlen] at h1 hg ⊢
    unfold quantizeForShift at hg
    rw [List.getD_eq_getElem?_getD, List.getElem?_set_ne (Ne.symm hi), List.getElem?_map,
      List.getElem?_zipIdx, List.getElem?_eq_getElem hlen] at hg
    simp only [Option.map_some, Option.getD_some, Nat.zero_add] at hg
    rwa [if_neg (not_or.2 ⟨hi, h1⟩)] at hg

def genRuns (d : List Nat) (rle : Bool) : List (Nat × Nat) :=
  if rle then
    findRuns (omitPos d) (d ++ List.replicate (generalAlphabet d - d.length) 0).toArray
      (generalAlphabet d) (generalAlphabet d + 1) 0 []
  else []

theorem padded_toArray_get (d : List Nat) (n i : Nat) :
    (d ++ List.replicate n 0).toArray[i]! = d.getD i 0 := by
  rw [List.getElem!_toArray, List.getElem!_eq_getElem?_getD, ← List.getD_eq_getElem?_getD]
  exact getD_append_replicate d n i 0

theorem genRuns_ok (d : List Nat) (rle : Bool) (ha : generalAlphabet d ≤ 256) :
    RunsOK (fun i => d.getD i 0) (omitPos d) (generalAlphabet d) 0 (genRuns d rle) := by
  unfold genRuns
  cases rle with
  | false => exact trivial
  | true =>
    rw [if_pos rfl]
    obtain ⟨rs, h1, h2⟩ := findRuns_spec (omitPos d) _ (generalAlphabet d) ha (generalAlphabet d + 1) 0 []
    rw [h1]
    exact funext (padded_toArray_get d _) ▸ h2

theorem readShift_inv {s r : Bits} {v : Nat} (h : readShift s = .ok (v, r)) :
    ∃ len s3 sb, readShiftLen 3 0 s = .ok (len, s3) ∧ rbits len s3 = .ok (sb, r) ∧
      sb + 2 ^ len - 1 = v := by
  unfold readShift at h
  split at h
  · cases h
  next len s3 h1 =>
    split at h
    · cases h
    next sb s4 h2 =>
      cases h
      exact ⟨len, s3, sb, h1, h2, rfl⟩

theorem map_pad {α : Type} (f : Nat → α) (v : α) (a T : Nat) (haT : a ≤ T)
    (h : ∀ j, a ≤ j → f j = v) :
    (List.range' 0 T).map f = (List.range' 0 a).map f ++ List.replicate (T - a) v := by
  rw [range'_split 0 T a haT, Nat.zero_add, List.map_append,
    List.map_eq_replicate_iff.2 fun j hj => h j (List.mem_range'_1.1 hj).1, List.length_range']

theorem codeAt_succ_omit {x : Nat → Nat} {op a : Nat} {rs : List (Nat × Nat)}
    (hlc : ∀ j, logCount (x j) ≤ 12) (hrs : RunsOK x op a 0 rs) : codeAt x rs (op + 1) ≠ 13 := by
  unfold codeAt
  cases hs : startAt rs (op + 1) with
  | some r => exact absurd (startAt_mem hs).2 (hrs.all_ok r (startAt_mem hs).1).notAfter
  | none =>
    have := hlc (op + 1)
    simp only [if_true]
    split <;> omega

theorem parseAnsDist_layout (la : Nat) (x : Nat → Nat) (op a shift : Nat) (rs : List (Nat × Nat))
    (ha3 : 3 ≤ a) (haT : a ≤ 2 ^ la) (ha8 : a - 3 < 256) (hop : op < a) (hshift : shift ≤ 13)
    (hlc : ∀ j, logCount (x j) ≤ 12) (hmax : ∀ j, logCount (x j) ≤ logCount (x op))
    (hfirst : ∀ j, j < op → logCount (x j) < logCount (x op))
    (hruns : RunsOK x op a 0 rs) (hx0 : ∀ j, a ≤ j → x j = 0) (hrepr : ReprFn shift x op)
    (htot : sumEx x op 0 (2 ^ la) + x op = 4096) (rest : Bits) :
    parseAnsDist la ([false, false] ++ writeShift shift ++ writeU8 (a - 3)
        ++ (List.range a).flatMap (logBitsAt x rs)
        ++ (List.range a).flatMap (mantissaAt x shift op rs) ++ rest)
      = .ok (⟨(List.range' 0 (2 ^ la)).map x, a⟩, rest) := by
  -- from `a` on nothing is written: the decoder pads the codes with `0`, and no mantissa follows
  have hcodes := map_pad (codeAt x rs) 0 a (2 ^ la) haT fun j hj => by
    rw [codeAt_normal (hruns.kind_out (Or.inr hj)).2, hx0 j hj]; rfl
  have hmant := congrArg List.flatten (map_pad (mantissaAt x shift op rs) [] a (2 ^ la) haT
    fun j hj => by simp [mantissaAt, hx0 j hj, logCount])
  rw [List.flatten_append, List.flatten_replicate_nil, List.append_nil, ← List.flatMap_def,
    ← List.flatMap_def] at hmant
  rw [List.range_eq_range', ← hmant]
  simp only [parseAnsDist, List.cons_append, List.nil_append, rbool_cons, List.append_assoc]
  obtain ⟨len, s3, sb, hsl, hrb, hsh⟩ := readShift_inv (readShift_write shift hshift _)
  rw [hsl]
  simp only
  rw [hrb]
  simp only
  rw [hsh, if_neg (Nat.not_lt.2 hshift), readU8_writeU8 (a - 3) ha8]
  simp only
  rw [Nat.sub_add_cancel ha3, if_neg (Nat.not_lt.2 haT),
    readLogCounts_main hop hlc hmax hfirst a 0 rs [] [] none (a + 1) _
      (Nat.zero_add a) (Nat.le_succ a) hruns ⟨fun _ _ _ e => (nomatch e), fun h => absurd h (Nat.not_lt_zero op)⟩]
  simp only [List.append_nil, List.reverse_reverse]
  rw [← hcodes]
  have hno13 : ¬ (((List.range' 0 (2 ^ la)).map (codeAt x rs)).getD (op + 1) 0 = 13 ∧ op + 1 < 2 ^ la) := by
    rintro ⟨h13, hlt⟩
    rw [getD_eq_getElem _ _ (by simpa using hlt)] at h13
    simp only [List.getElem_map, List.getElem_range', Nat.zero_add, Nat.one_mul] at h13
    exact codeAt_succ_omit hlc hruns h13
  have h3 := readCounts_main hrepr hruns rest (2 ^ la) 0 [] 0 (by omega)
  rw [hruns.pending_of_le (Nat.le_refl 0), show prevOf (ex x op) 0 = 0 from rfl] at h3
  rw [if_neg hno13, h3]
  simp only [List.append_nil, List.reverse_reverse, Nat.zero_add]
  rw [← htot, Nat.add_sub_cancel_left, map_set _ x op (2 ^ la) fun j hj => Function.update_of_ne hj _ _]

theorem parseAnsDist_general (la : Nat) (hla : 5 ≤ la ∧ la ≤ 8) (d : List Nat) (shift : Nat) (rle : Bool)
    (hlen : d.length ≤ 2 ^ la) (hsum : d.sum = 4096) (hused : 2 ≤ (usedSyms d).length)
    (hshift : shift ≤ 13) (hq : ReprOK shift d) (rest : Bits) :
    parseAnsDist la (writeGeneral d shift rle ++ rest)
      = .ok (⟨d ++ List.replicate (2 ^ la - d.length) 0, generalAlphabet d⟩, rest) := by
  have hT32 : 2 ^ 5 ≤ 2 ^ la := Nat.pow_le_pow_right (by decide) hla.1
  have hT256 : 2 ^ la ≤ 2 ^ 8 := Nat.pow_le_pow_right (by decide) hla.2
  obtain ⟨ha3, hamax, hx0⟩ := generalAlphabet_spec d
  have haT : generalAlphabet d ≤ 2 ^ la := by omega
  have hd : d ≠ [] := by intro h; subst h; simp at hsum
  -- some entry is not `0`, so the one with the largest log count is not, and lies in the alphabet
  have hop : omitPos d < generalAlphabet d := Nat.lt_of_not_le fun h => by
    obtain ⟨j, hj⟩ := exists_nonzero d (by omega)
    have h1 := (omitPos_spec d hd j).1
    rw [hx0 _ h] at h1
    have := (@logCount_le _ 0).1 h1
    omega
  rw [← range'_map_getD d _ hlen]
  -- once the padded array is read through `getD`, `writeGeneral` is the layout with `logBitsAt`,
  -- `mantissaAt` and `genRuns` written out
  unfold writeGeneral
  simp only [padded_toArray_get]
  exact parseAnsDist_layout la _ _ _ shift _ ha3 haT (by omega) hop hshift
    (logCount_le_12 d hsum hused) (fun j => (omitPos_spec d hd j).1) (fun j => (omitPos_spec d hd j).2)
    (genRuns_ok d rle (Nat.le_trans haT hT256)) hx0 (fun j hj => (hq j hj).imp_right (Dvd.intro_left _))
    (by rw [sumEx_add_omit _ _ _ (Nat.lt_of_lt_of_le hop haT), range'_map_getD d _ hlen]; simp [hsum])
    rest

end Jxl.Entropy
