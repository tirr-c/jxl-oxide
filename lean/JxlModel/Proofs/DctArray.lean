import Mathlib.Data.Nat.Notation
import JxlModel.Model.Dct
namespace Jxl.Dct

variable {α : Type} [Scalar α]

omit [Scalar α] in
@[simp] theorem size_tab (n : ℕ) (f : ℕ → α) : (tab n f).size = n := by simp [tab]

theorem rd_tab (n : ℕ) (f : ℕ → α) (i : ℕ) (h : i < n) : rd (tab n f) i = f i := by
  simp [rd, tab, Array.getD, h]

theorem rd_tab_ge (n : ℕ) (f : ℕ → α) (i : ℕ) (h : n ≤ i) : rd (tab n f) i = Scalar.zero := by
  simp [rd, tab, Array.getD, Nat.not_lt.mpr h]

omit [Scalar α] in
theorem tab_congr {n : ℕ} {f f' : ℕ → α} (h : ∀ i < n, f i = f' i) : tab n f = tab n f' := by
  apply Array.ext (by simp)
  intro i h1 _
  have hi : i < n := by simpa using h1
  simp [tab, h i hi]

theorem getD_ofFn {β : Type} {n : ℕ} {f : Fin n → β} {d : β} {i : ℕ} (h : i < n) :
    (Array.ofFn f).getD i d = f ⟨i, h⟩ := by
  simp [Array.getD, h]

theorem rd_lit2 (a b : α) : rd #[a, b] 0 = a ∧ rd #[a, b] 1 = b := ⟨rfl, rfl⟩

theorem rd_lit4 (a b c d : α) :
    rd #[a, b, c, d] 0 = a ∧ rd #[a, b, c, d] 1 = b ∧ rd #[a, b, c, d] 2 = c ∧
      rd #[a, b, c, d] 3 = d := ⟨rfl, rfl, rfl, rfl⟩

end Jxl.Dct
