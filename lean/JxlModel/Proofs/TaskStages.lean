import JxlModel.Model.TaskStages
import JxlModel.Proofs.Tasks
import JxlModel.Proofs.Subgrid
namespace Jxl.Tasks
open Jxl.Subgrid

theorem pairwise_zip {α β : Type} {R : α → α → Prop} {S : β → β → Prop} {as : List α}
    {bs : List β} (ha : as.Pairwise R) (hb : bs.Pairwise S) :
    (as.zip bs).Pairwise fun i j => R i.1 j.1 ∧ S i.2 j.2 := by
  induction ha generalizing bs with
  | nil => simp
  | cons hx _ ih =>
    cases hb with
    | nil => simp
    | cons hy hb =>
      rw [List.zip_cons_cons, List.pairwise_cons]
      exact ⟨fun j hj => ⟨hx _ (List.of_mem_zip hj).1, hy _ (List.of_mem_zip hj).2⟩, ih hb⟩

section
variable {V : Type}

theorem indep_of_regions {ι : Type} (region : ι → List Cell) (ro : List Cell) (mk : ι → Task V)
    (l : List ι)
    (hdis : l.Pairwise fun i j => ∀ c, c ∈ region i → c ∈ region j → False)
    (hro : ∀ i ∈ l, ∀ c ∈ region i, c ∉ ro)
    (hw : ∀ i ∈ l, ∀ c ∈ (mk i).writes, c ∈ region i)
    (hr : ∀ i ∈ l, ∀ c ∈ (mk i).reads, c ∈ region i ∨ c ∈ ro) :
    (l.map mk).Pairwise Task.Indep := by
  have half : ∀ {i j}, i ∈ l → j ∈ l → (∀ c, c ∈ region i → c ∈ region j → False) →
      ∀ c ∈ (mk i).writes, c ∉ (mk j).reads ∧ c ∉ (mk j).writes := by
    intro i j hi hj hij c hc
    refine ⟨fun hrd => ?_, fun hwr => hij c (hw i hi c hc) (hw j hj c hwr)⟩
    rcases hr j hj c hrd with h | h
    · exact hij c (hw i hi c hc) h
    · exact hro i hi c (hw i hi c hc) h
  rw [List.pairwise_map]
  exact hdis.imp_of_mem fun hi hj hij => ⟨half hi hj hij, half hj hi fun c h1 h2 => hij c h2 h1⟩

theorem inPlaceRowTask_footprint (rowf : Store V → Cell → V) (g : SubGrid) :
    (inPlaceRowTask rowf g).reads = cells g ∧ (inPlaceRowTask rowf g).writes = cells g :=
  ⟨List.flatMap_map .., List.flatMap_map ..⟩

end

theorem ceilDiv_self {w : Nat} (h : w ≠ 0) : ceilDiv w w = 1 := by
  simp [ceilDiv, Nat.div_self (Nat.pos_of_ne_zero h)]

theorem intoGroups_bands16 {g : SubGrid} {gs : List SubGrid} (hw : g.w ≠ 0)
    (h : intoGroups .checked g g.w 16 = .ok gs) :
    gs = (List.range (ceilDiv g.h 16)).map (band16 g (splitBase g)) := by
  obtain ⟨_, _, hgl⟩ := intoGroups_ok h
  -- one column of groups: every row of them is a single band
  rw [hgl, ceilDiv_self hw, groupsList, List.range_one]
  simp only [List.map_cons, List.map_nil, ← List.map_eq_flatMap]
  refine List.map_congr_left fun k _ => ?_
  simp [groupOf, band16, axisCut, mulW]

/-- the borrowed grid is `g` without its split base, so the bands carry `g.off` -/
theorem rctBands_eq {p : Pool} {g : SubGrid} {gs : List SubGrid} (h : rctBands p g = .ok gs)
    (hw : g.w ≠ 0) (hh : g.h ≠ 0) :
    gs = ((List.range (ceilDiv g.h 16)).map (band16 g g.off)).reverse := by
  unfold rctBands at h
  rw [if_neg (by omega)] at h
  cases hb : borrowMut g with
  | panic s => rw [hb] at h; cases h
  | ok b =>
    obtain ⟨_, rfl⟩ := new_eq_ok.1 hb
    rw [hb] at h
    dsimp only at h
    cases hgs : intoGroups .checked ⟨g.off, g.w, g.h, g.stride, none⟩ g.w 16 with
    | panic s => rw [hgs] at h; cases h
    | ok gs' =>
      rw [hgs] at h
      cases h
      rw [intoGroups_bands16 (g := ⟨g.off, g.w, g.h, g.stride, none⟩) hw hgs]
      rfl

end Jxl.Tasks
