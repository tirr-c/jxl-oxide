import JxlModel.Proofs.Container
import JxlModel.Model.AuxBox
/-!
`AuxBoxList` over the container parser, the lemmas behind `C10_aux_*`.  The list only sees the
flattened event stream (`runEvents_eq_runToks`) and a session is the list run over `feedChunks`'
events (`pushAll_eq`), so the parser's theorems carry over.  Complete files: `run_expected`.  Early
answers: `boxes` only grows (`*_boxes_prefix`), and `Tail` bounds what follows the last box's
announcement (`notFound_final`).
-/
namespace Jxl.AuxBox
open Jxl.Container Jxl.Container.Spec

def handleTok (c : Codec) (s : St) : Tok → Except AErr St
  | .kind _ => .ok s
  | .cs _ => .ok s
  | .noMoreAux => handleEvent c s .noMoreAux
  | .auxStart ty b l => handleEvent c s (.auxStart ty b l)
  | .aux ty b => handleEvent c s (.auxData ty [b])
  | .auxEnd ty => handleEvent c s (.auxEnd ty)

def runToks (c : Codec) : St → List Tok → Except AErr St
  | s, [] => .ok s
  | s, t :: r =>
    match handleTok c s t with
    | .error x => .error x
    | .ok s' => runToks c s' r

def andThen {α : Type} (x : Except AErr α) (f : α → Except AErr St) : Except AErr St :=
  match x with
  | .error e => .error e
  | .ok a => f a

@[simp] theorem andThen_ok {α : Type} (a : α) (f : α → Except AErr St) : andThen (.ok a) f = f a := rfl
@[simp] theorem andThen_error {α : Type} (e : AErr) (f : α → Except AErr St) :
    andThen (.error e : Except AErr α) f = .error e := rfl

theorem runToks_append (c : Codec) (x y : List Tok) : ∀ s,
    runToks c s (x ++ y) = andThen (runToks c s x) (fun s' => runToks c s' y) := by
  induction x with
  | nil => intro s; simp [runToks]
  | cons t r ih =>
    intro s
    simp only [List.cons_append, runToks]
    cases handleTok c s t with
    | error e => simp
    | ok s' => simpa using ih s'

theorem runEvents_append (c : Codec) (x y : List Event) : ∀ s,
    runEvents c s (x ++ y) = andThen (runEvents c s x) (fun s' => runEvents c s' y) := by
  induction x with
  | nil => intro s; simp [runEvents]
  | cons t r ih =>
    intro s
    simp only [List.cons_append, runEvents]
    cases handleEvent c s t with
    | error e => simp
    | ok s' => simpa using ih s'

def dataSt (s : St) (ty d : Bytes) : St :=
  if ty = tyJbrd then { s with curTy := some ty, jbrd := s.jbrd ++ d }
  else { s with curTy := some ty, cur := feedData s.cur d }

theorem handleEvent_auxData (c : Codec) (s : St) (ty d : Bytes) :
    handleEvent c s (.auxData ty d) = .ok (dataSt s ty d) := by
  simp only [handleEvent, dataSt]; split <;> rfl

theorem dataSt_fields (s : St) (ty d : Bytes) :
    (dataSt s ty d).boxes = s.boxes ∧ (dataSt s ty d).curTy = some ty ∧
      (dataSt s ty d).lastBox = s.lastBox := by
  unfold dataSt; split <;> exact ⟨rfl, rfl, rfl⟩

theorem feedData_feedData (r : Reader) (a b : Bytes) :
    feedData (feedData r a) b = feedData r (a ++ b) := by
  cases r <;> simp [feedData]

theorem dataSt_dataSt (s : St) (ty a b : Bytes) :
    dataSt (dataSt s ty a) ty b = dataSt s ty (a ++ b) := by
  unfold dataSt
  split <;> simp [feedData_feedData]

theorem runToks_cs (c : Codec) (d : Bytes) (T : List Tok) (s : St) :
    runToks c s (d.map .cs ++ T) = runToks c s T := by
  induction d with
  | nil => rfl
  | cons b r ih => simpa [runToks, handleTok] using ih

theorem runToks_aux (c : Codec) (ty : Bytes) (T : List Tok) : ∀ (d : Bytes) (s : St), d ≠ [] →
    runToks c s (d.map (.aux ty) ++ T) = runToks c (dataSt s ty d) T := by
  intro d
  induction d with
  | nil => intro s h; exact absurd rfl h
  | cons b r ih =>
    intro s _
    simp only [List.map_cons, List.cons_append, runToks, handleTok, handleEvent_auxData]
    cases r with
    | nil => rfl
    | cons b' r' =>
      rw [ih (dataSt s ty [b]) (by simp), dataSt_dataSt]
      rfl

/-- no `AuxBoxData` event with an empty payload (such an event would still set `current_box_ty` and
turn an untouched reader into `Raw []`, which no token of the flattening does) -/
def NoEmpty (evs : List Event) : Prop := ∀ ty, Event.auxData ty [] ∉ evs

theorem NoEmpty.append {x y : List Event} (hx : NoEmpty x) (hy : NoEmpty y) : NoEmpty (x ++ y) := by
  intro ty h
  rcases List.mem_append.mp h with h | h
  · exact hx ty h
  · exact hy ty h

theorem runEvents_eq_runToks (c : Codec) (evs : List Event) : ∀ s, NoEmpty evs →
    runEvents c s evs = runToks c s (toks evs) := by
  induction evs with
  | nil => intro s _; rfl
  | cons e r ih =>
    intro s hne
    have hr : NoEmpty r := fun ty h => hne ty (List.mem_cons_of_mem _ h)
    rw [toks_cons]
    cases e with
    | kind k => simp only [Event.toks, List.cons_append, List.nil_append, runEvents, runToks, handleEvent, handleTok]; exact ih s hr
    | codestream d =>
      simp only [Event.toks, runEvents, handleEvent]
      rw [runToks_cs]; exact ih s hr
    | auxData ty d =>
      have hd : d ≠ [] := by
        intro h; subst h; exact hne ty (List.mem_cons_self ..)
      simp only [Event.toks, runEvents, handleEvent_auxData]
      rw [runToks_aux c ty _ d s hd]; exact ih _ hr
    | _ =>
      -- `NoMoreAuxBox`, `AuxBoxStart`, `AuxBoxEnd`: one token, handled as the event is
      simp only [Event.toks, List.cons_append, List.nil_append, runEvents, runToks, handleTok]
      generalize handleEvent c s _ = x
      cases x with
      | error e => rfl
      | ok s' => exact ih s' hr

theorem feed_noEmpty : ∀ (s : PState) (buf : Bytes), NoEmpty (feed s buf).events := by
  apply feed_induct
  intro s buf ih
  cases hs : step s buf with
  | stop => rw [feed_of_stop hs]; intro ty h; cases h
  | err e rest => rw [feed_of_err hs]; intro ty h; cases h
  | cont ev s' rest =>
    rw [feed_of_cont hs]
    simp only
    apply NoEmpty.append _ (ih ev s' rest hs)
    intro ty hm
    cases ev with
    | none => cases hm
    | some e =>
      simp only [Option.toList, List.mem_singleton] at hm
      subst hm
      obtain ⟨k, -, -, -, -, hd⟩ := step_shape_of hs
      exact hd ty rfl

theorem feedChunks_noEmpty (cs : List Bytes) (s : PState) (pending : Bytes) :
    NoEmpty (feedChunks s pending cs).events := by
  fun_induction feedChunks s pending cs with
  | case1 => exact fun _ h => nomatch h
  | case2 => exact feed_noEmpty _ _
  | case3 => rename_i ih; exact NoEmpty.append (feed_noEmpty _ _) ih

def sessOf (c : Codec) (a : St) (r : FeedResult) : Except SErr Sess :=
  match runEvents c a r.events with
  | .error e => .error (.aux e)
  | .ok a' =>
    match r.error with
    | some e => .error (.container e)
    | none => .ok ⟨r.state, r.rest, a'⟩

theorem pushAll_eq (c : Codec) (cs : List Bytes) : ∀ (s : Sess),
    Sess.pushAll c s cs = sessOf c s.a (feedChunks s.p s.pending cs) := by
  induction cs with
  | nil => intro s; simp [Sess.pushAll, sessOf, feedChunks, runEvents]
  | cons ch r ih =>
    intro s
    simp only [Sess.pushAll, Sess.push, feedChunks]
    cases hev : runEvents c s.a (feed s.p (s.pending ++ ch)).events with
    | error e =>
      cases her : (feed s.p (s.pending ++ ch)).error with
      | some e' => simp [sessOf, hev]
      | none => simp [sessOf, hev, runEvents_append]
    | ok a =>
      cases her : (feed s.p (s.pending ++ ch)).error with
      | some e => simp [sessOf, hev, her]
      | none =>
        simp only [ih, sessOf, runEvents_append, hev, andThen_ok]

theorem sessOf_ok (c : Codec) (a : St) (r : FeedResult) (s : Sess) (h : sessOf c a r = .ok s) :
    r.error = none ∧ runEvents c a r.events = .ok s.a ∧ s.p = r.state ∧ s.pending = r.rest := by
  revert h
  fun_cases sessOf c a r <;> intro h <;> cases h
  exact ⟨‹_›, ‹_›, rfl, rfl⟩

theorem push_eq_sessOf (c : Codec) (s : Sess) (x : Bytes) :
    s.push c x = sessOf c s.a (feed s.p (s.pending ++ x)) := rfl

theorem pushAll_singleton (c : Codec) (s : Sess) (x : Bytes) : Sess.pushAll c s [x] = s.push c x := by
  simp only [Sess.pushAll]; cases s.push c x <;> rfl

theorem pushAll_append (c : Codec) (x y : List Bytes) : ∀ (s : Sess),
    Sess.pushAll c s (x ++ y) =
      match Sess.pushAll c s x with
      | .error e => .error e
      | .ok m => Sess.pushAll c m y := by
  induction x with
  | nil => intro s; rfl
  | cons ch r ih =>
    intro s
    simp only [List.cons_append, Sess.pushAll]
    cases s.push c ch with
    | error e => rfl
    | ok s1 => exact ih s1

/-- nothing is open: `current_box_ty == None`, `current_box` untouched -/
def Closed (s : St) : Prop := s.curTy = none ∧ s.cur = .init

/-- the list after `AuxBoxStart{ty, brotli, last}` and the data events of a box with (raw or
compressed) payload `d`, from a closed state -/
def openSt (s : St) (ty : Bytes) (br last : Bool) (d : Bytes) : St :=
  if ty = tyJbrd then { s with curTy := some ty, lastBox := last, jbrd := s.jbrd ++ d }
  else { s with curTy := some ty, lastBox := last, cur := if br then .brotli d else .raw d }

/-- `last_box := x`, as a step that cannot fail, to chain with `andThen` -/
def setLast (x : Bool) (s : St) : Except AErr St := .ok { s with lastBox := x }

/-- `AuxBoxStart` drops whatever reader was there, so this holds from any state -/
theorem handleEvent_auxStart (c : Codec) (s : St) (ty : Bytes) (br last : Bool) :
    handleEvent c s (.auxStart ty br last) = .ok (openSt s ty br last []) := by
  simp only [handleEvent, openSt]
  by_cases hj : ty = tyJbrd
  · simp [hj]
  · cases br <;> simp [hj, ensureBrotli, ensureRaw]

theorem dataSt_openSt (s : St) (ty : Bytes) (br last : Bool) (d : Bytes) :
    dataSt (openSt s ty br last []) ty d = openSt s ty br last d := by
  unfold dataSt openSt
  by_cases hj : ty = tyJbrd
  · simp [hj]
  · cases br <;> simp [hj, feedData]

theorem run_start_data (c : Codec) (s : St) (ty : Bytes) (br last : Bool) (d : Bytes) (T : List Tok) :
    runToks c s (Tok.auxStart ty br last :: (d.map (.aux ty) ++ T)) =
      runToks c (openSt s ty br last d) T := by
  simp only [runToks, handleTok, handleEvent_auxStart]
  by_cases hd : d = []
  · subst hd; rfl
  · rw [runToks_aux c _ T d _ hd, dataSt_openSt]

theorem finalize_open (c : Codec) (s : St) (hs : Closed s) (ty : Bytes) (br last : Bool) (d : Bytes) :
    finalize c (openSt s ty br last d) = andThen (deliverBox c s ⟨ty, br, d⟩) (setLast last) := by
  obtain ⟨h1, h2⟩ := hs
  cases s with
  | mk boxes jb jd ct cu lb =>
  simp only at h1 h2
  subst h1 h2
  by_cases hj : ty = tyJbrd
  · simp only [openSt, hj, if_true, finalize, deliverBox]
    split <;> simp [setLast]
  · simp only [openSt, hj, if_false, finalize, deliverBox, decodedPayload]
    cases br
    · simp [finalizeReader, setLast]
    · simp only [if_true, finalizeReader]
      cases c.decompress d <;> simp [setLast]

theorem handleTok_auxEnd_open (c : Codec) (s : St) (ty : Bytes) (br last : Bool) (d : Bytes) :
    handleTok c (openSt s ty br last d) (.auxEnd ty) = finalize c (openSt s ty br last d) := by
  simp only [handleTok, handleEvent]
  congr 1
  unfold openSt
  split <;> rfl

theorem deliverBox_closed (c : Codec) (s s' : St) (b : AuxBox) (hs : Closed s)
    (h : deliverBox c s b = .ok s') : Closed s' := by
  revert h
  fun_cases deliverBox c s b <;> intro h <;> cases h <;> exact hs

theorem eof_eq (c : Codec) (s : St) : eof c s = andThen (finalize c s) (setLast true) := by
  unfold eof; cases finalize c s <;> rfl

theorem openSt_lastBox (s : St) (x : Bool) (ty : Bytes) (br last : Bool) (d : Bytes) :
    openSt { s with lastBox := x } ty br last d = openSt s ty br last d := by
  unfold openSt; split <;> rfl

/-- The list does not look at the `last_box` it starts with (every `AuxBoxStart`, `NoMoreAuxBox` and `eof`
overwrites it), and the specification never touches it: so the statement is about any start value `x`, and
the induction goes through without carrying the flag along. -/
theorem run_expected (c : Codec) (bs : List Box) : ∀ (s : St) (x : Bool), Closed s → shapeOk bs = true →
    andThen (runToks c { s with lastBox := x } (expectedM false bs)) (eof c) =
      andThen (deliverAll c s (aux bs)) (setLast true) := by
  induction bs with
  | nil =>
    intro s x hs _
    obtain ⟨h1, -⟩ := hs
    cases s; simp only at h1; subst h1
    rfl
  | cons b r ih =>
    intro s x hs hsh
    simp only [shapeOk, Bool.and_eq_true, Bool.or_eq_true, bne_iff_ne, ne_eq] at hsh
    obtain ⟨⟨-, hlast⟩, hr⟩ := hsh
    rw [expectedM, Bool.false_or]
    rcases boxToks_cases b (!r.isEmpty) with ⟨d, h, -, ha⟩ | ⟨y, h, -, ha⟩ <;> rw [h, ha]
    · -- codestream payload: at most `NoMoreAuxBox` reaches the list, and nothing is open
      have hnm : ∀ T, runToks c { s with lastBox := x } (Tok.noMoreAux :: T) =
          runToks c { s with lastBox := true } T := by
        obtain ⟨h1, -⟩ := hs
        cases s; simp only at h1; subst h1; exact fun _ => rfl
      split
      · rw [List.append_assoc, List.singleton_append, hnm, runToks_cs]; exact ih s _ hs hr
      · rw [List.nil_append, runToks_cs]; exact ih s _ hs hr
    · rw [List.cons_append, List.append_assoc, run_start_data, openSt_lastBox, deliverAll]
      split
      · simp only [List.cons_append, List.nil_append, runToks, handleTok_auxEnd_open,
          finalize_open c s hs]
        cases hd : deliverBox c s y with
        | error e => rfl
        | ok s2 => exact ih s2 _ (deliverBox_closed c s s2 _ hs hd) hr
      · -- the last box of the file: `eof` closes it
        rename_i hcl
        obtain rfl : r = [] := by
          cases r with
          | nil => rfl
          | cons b2 r2 => exact absurd ⟨hlast.resolve_right (by simp), rfl⟩ hcl
        simp only [expectedM, List.nil_append, runToks, andThen_ok, eof_eq, finalize_open c s hs,
          aux, deliverAll]
        cases deliverBox c s y <;> rfl

theorem finalize_boxes_prefix (c : Codec) (s s' : St) (h : finalize c s = .ok s') :
    s.boxes <+: s'.boxes ∧ s'.lastBox = s.lastBox := by
  revert h
  fun_cases finalize c s <;> intro h <;> cases h
  · exact ⟨List.prefix_refl _, rfl⟩
  · exact ⟨List.prefix_refl _, rfl⟩
  · exact ⟨List.prefix_append _ _, rfl⟩

theorem handleEvent_boxes_prefix (c : Codec) (s s' : St) (e : Event) (h : handleEvent c s e = .ok s') :
    s.boxes <+: s'.boxes := by
  cases e with
  | kind k => cases h; exact List.prefix_refl _
  | codestream d => cases h; exact List.prefix_refl _
  | noMoreAux => cases h; exact List.prefix_refl _
  | auxStart ty b l =>
    rw [handleEvent_auxStart] at h; cases h; unfold openSt; split <;> exact List.prefix_refl _
  | auxData ty d => rw [handleEvent_auxData] at h; cases h; rw [(dataSt_fields s ty d).1]; exact List.prefix_refl _
  | auxEnd ty => exact (finalize_boxes_prefix c { s with curTy := some ty } s' h).1

theorem runEvents_boxes_prefix (c : Codec) (evs : List Event) (s s' : St)
    (h : runEvents c s evs = .ok s') : s.boxes <+: s'.boxes := by
  fun_induction runEvents c s evs with
  | case1 => cases h; exact List.prefix_refl _
  | case2 => cases h
  | case3 s e r s1 he ih => exact (handleEvent_boxes_prefix c s s1 e he).trans (ih h)

theorem pushAll_boxes_prefix (c : Codec) (cs : List Bytes) (s s' : Sess)
    (h : Sess.pushAll c s cs = .ok s') : s.a.boxes <+: s'.a.boxes := by
  rw [pushAll_eq] at h
  exact runEvents_boxes_prefix c _ _ _ (sessOf_ok c _ _ _ h).2.1

theorem finalize_sess_boxes_prefix (c : Codec) (s s' : Sess) (h : s.finalize c = .ok s') :
    s.a.boxes <+: s'.a.boxes := by
  simp only [Sess.finalize, eof] at h
  cases hf : finalize c s.a with
  | error x => rw [hf] at h; cases h
  | ok a => rw [hf] at h; cases h; exact (finalize_boxes_prefix c _ _ hf).1

theorem firstOfType_data_found (s : St) (ty d : Bytes) (h : firstOfType s ty = .data d) :
    ∃ p, s.boxes.find? (fun p => p.1 == ty) = some p ∧ p.2.data = .data d := by
  unfold firstOfType at h
  split at h
  · rename_i p hp; exact ⟨p, hp, h⟩
  · split at h <;> cases h

theorem firstOfType_of_prefix (s s' : St) (ty : Bytes) (hp : s.boxes <+: s'.boxes)
    (p : Bytes × Finished) (h : s.boxes.find? (fun p => p.1 == ty) = some p) :
    firstOfType s' ty = p.2.data := by
  obtain ⟨t, ht⟩ := hp
  unfold firstOfType
  rw [← ht, List.find?_append, h]
  rfl

/-- a token that may still come once `last_box` is set: codestream if no box is open, otherwise
data of the open box -/
def follows (cur : Option Bytes) : Tok → Prop
  | .cs _ => cur = none
  | .aux ty _ => cur = some ty
  | _ => False

/-- what is open once `t` has announced the last box; `none`: `t` does not announce it -/
def announces : Tok → Option (Option Bytes)
  | .noMoreAux => some none
  | .auxStart ty _ true => some (some ty)
  | _ => none

/-- `Tail a q`: in phase `a` the tokens `q` may come.  `none`: the last box is not announced, and
once a token announces it the phase changes; `some cur`: it is, and only data for `cur` follows. -/
def Tail : Option (Option Bytes) → List Tok → Prop
  | _, [] => True
  | none, t :: r => Tail (announces t) r
  | some cur, t :: r => follows cur t ∧ Tail (some cur) r

def phase (s : St) : Option (Option Bytes) := if s.lastBox then some s.curTy else none

theorem tail_data (cur : Option Bytes) (q : List Tok) (h : ∀ t ∈ q, follows cur t) : Tail (some cur) q := by
  induction q with
  | nil => trivial
  | cons t r ih =>
    obtain ⟨ht, hr⟩ := List.forall_mem_cons.mp h
    exact ⟨ht, ih hr⟩

theorem tail_plain (x y : List Tok) (h : ∀ t ∈ x, announces t = none) :
    Tail none (x ++ y) = Tail none y := by
  induction x with
  | nil => rfl
  | cons t r ih =>
    obtain ⟨ht, hr⟩ := List.forall_mem_cons.mp h
    rw [List.cons_append, Tail, ht, ih hr]

theorem tail_expected (bs : List Box) (hs : shapeOk bs = true) : Tail none (expectedM false bs) := by
  induction bs with
  | nil => trivial
  | cons b r ih =>
    simp only [shapeOk, Bool.and_eq_true, Bool.or_eq_true, bne_iff_ne, ne_eq] at hs
    obtain ⟨⟨_, hlast⟩, hr⟩ := hs
    have hnil : b.enc = .toEof → r = [] := fun he => by simpa using hlast.resolve_left (fun h => h he)
    rw [expectedM]
    rcases boxToks_cases b (false || !r.isEmpty) with ⟨d, h, -, -⟩ | ⟨x, h, -, -⟩ <;> rw [h]
    · split
      · rename_i he
        rw [hnil he.1, expectedM, List.append_nil]
        exact tail_data _ _ (List.forall_mem_map.2 fun _ _ => rfl)
      · rw [List.nil_append, tail_plain _ _ (List.forall_mem_map.2 fun _ _ => rfl)]
        exact ih hr
    · by_cases he : b.enc = .toEof
      · rw [hnil he, expectedM, List.append_nil, he, if_neg (fun h => h.1 rfl), List.append_nil]
        exact tail_data _ _ (List.forall_mem_map.2 fun _ _ => rfl)
      · rw [decide_eq_false he, List.cons_append, List.append_assoc]
        show Tail none (x.payload.map (.aux x.ty) ++ _)
        rw [tail_plain _ _ (List.forall_mem_map.2 fun _ _ => rfl)]
        split <;> exact ih hr

theorem tail_step (c : Codec) (s s' : St) (t : Tok) (q : List Tok) (ht : Tail (phase s) (t :: q))
    (h : handleTok c s t = .ok s') : Tail (phase s') q := by
  unfold phase at ht
  cases hl : s.lastBox with
  | false =>
    rw [hl] at ht
    cases t with
    | kind k => cases h; rw [phase, hl]; exact ht
    | cs b => cases h; rw [phase, hl]; exact ht
    | noMoreAux => cases h; exact ht
    | auxStart ty b l =>
      rw [handleTok, handleEvent_auxStart] at h
      cases h
      cases l with
      | true => unfold phase openSt; split <;> exact ht
      | false => unfold phase openSt; split <;> exact ht
    | aux ty b =>
      simp only [handleTok, handleEvent_auxData] at h
      cases h
      rw [phase, (dataSt_fields s ty [b]).2.2, hl]; exact ht
    | auxEnd ty =>
      simp only [handleTok, handleEvent] at h
      rw [phase, (finalize_boxes_prefix c _ s' h).2.trans hl]
      exact ht
  | true =>
    rw [hl] at ht
    cases t with
    | cs b => cases h; rw [phase, hl]; exact ht.2
    | aux ty b =>
      simp only [handleTok, handleEvent_auxData] at h
      cases h
      obtain ⟨-, hcur, hlast⟩ := dataSt_fields s ty [b]
      rw [phase, hcur, hlast, hl]
      exact (show s.curTy = some ty from ht.1) ▸ ht.2
    | _ => exact ht.1.elim

theorem tail_run (c : Codec) (p : List Tok) (s s' : St) (q : List Tok) (hs : Tail (phase s) (p ++ q))
    (h : runToks c s p = .ok s') : Tail (phase s') q := by
  fun_induction runToks c s p with
  | case1 => cases h; exact hs
  | case2 => cases h
  | case3 s t r s1 ht ih => exact ih (tail_step c s s1 t (r ++ q) hs ht) h

/-- Data for what is open finishes no box, and `eof` at most one of the open type: a type that is
neither open nor among the finished boxes is `NotFound` at the end. -/
theorem notFound_final (c : Codec) (q : List Tok) (m f : St) (ty : Bytes) (hq : Tail (some m.curTy) q)
    (hfind : m.boxes.find? (fun p => p.1 == ty) = none) (hct : m.curTy ≠ some ty)
    (he : andThen (runToks c m q) (eof c) = .ok f) : firstOfType f ty = .notFound := by
  fun_induction runToks c m q with
  | case1 s =>
    rw [andThen_ok, eof] at he
    revert he
    fun_cases finalize c s <;> intro he <;> cases he
    · simp [firstOfType, hfind, ‹s.curTy = none›]
    · simp [firstOfType, hfind]
    · rename_i t hcur _ _ _
      have hne : t ≠ ty := fun h => hct (by rw [hcur, h])
      simp [firstOfType, hfind, List.find?_append, hne]
  | case2 => cases he
  | case3 s t r s1 ht ih =>
    cases t with
    | cs b => cases ht; exact ih hq.2 hfind hct he
    | aux ty' b =>
      rw [handleTok, handleEvent_auxData] at ht
      cases ht
      obtain ⟨h1, h2, -⟩ := dataSt_fields s ty' [b]
      rw [← show s.curTy = some ty' from hq.1] at h2
      exact ih (h2 ▸ hq.2) (h1 ▸ hfind) (h2 ▸ hct) he
    | _ => exact hq.1.elim

theorem push_pending_short (c : Codec) (s s' : Sess) (ch : Bytes) (h : s.push c ch = .ok s') :
    s'.pending.length < 16 := by
  obtain ⟨he, -, -, hp⟩ := sessOf_ok c s.a _ s' ((push_eq_sessOf c s ch).symm.trans h)
  rw [hp]
  exact step_stop_short _ _ (feed_final_stop s.p (s.pending ++ ch) he)

theorem readLoop_chunks (c : Codec) (f : Nat) (s : Sess) (file : Bytes) (hf : file.length < f)
    (hp : s.pending.length < 4096) :
    ∃ chunks, chunks.flatten = file ∧ readLoop c f s file = Sess.pushAll c s chunks := by
  fun_induction readLoop c f s file with
  | case1 => omega
  | case2 f s file h0 =>
    exact ⟨[], (List.length_eq_zero_iff.mp (by omega)).symm, rfl⟩
  | case3 f s file h0 e hpush =>
    exact ⟨[file.take (min (4096 - s.pending.length) file.length),
      file.drop (min (4096 - s.pending.length) file.length)], by simp, by simp [Sess.pushAll, hpush]⟩
  | case4 f s file h0 s1 hpush ih =>
    have h16 := push_pending_short c s s1 _ hpush
    obtain ⟨chunks, e1, e2⟩ := ih (by rw [List.length_drop]; omega) (by omega)
    exact ⟨file.take (min (4096 - s.pending.length) file.length) :: chunks, by simp [e1],
      by simp [Sess.pushAll, hpush, e2]⟩

theorem deliverBox_not_panic (c : Codec) (s : St) (b : AuxBox) (e : AErr)
    (h : deliverBox c s b = .error e) : e ≠ .panic := by
  revert h
  fun_cases deliverBox c s b <;> intro h <;> cases h <;> nofun

theorem deliverAll_not_panic (c : Codec) (l : List AuxBox) (s : St) (e : AErr)
    (h : deliverAll c s l = .error e) : e ≠ .panic := by
  fun_induction deliverAll c s l with
  | case1 => cases h
  | case2 s b r x hb => cases h; exact deliverBox_not_panic c s b _ hb
  | case3 s b r s1 hb ih => exact ih h

theorem sessOf_same (c : Codec) (a : St) (r w : FeedResult) (h : r.same w)
    (hn : NoEmpty r.events) (hn' : NoEmpty w.events) : sessOf c a r = sessOf c a w := by
  obtain ⟨a1, a2, a3, a4⟩ := h
  unfold sessOf
  rw [runEvents_eq_runToks c _ _ hn, runEvents_eq_runToks c _ _ hn', a1, a2, a3]
  cases runToks c a (toks w.events) with
  | error e => rfl
  | ok x =>
    simp only
    cases he : w.error with
    | some e => rfl
    | none => simp only; rw [a4 (by rw [a2]; exact he)]

theorem pushAll_flatten (c : Codec) (s : Sess) (c0 : Bytes) (cs : List Bytes) :
    Sess.pushAll c s (c0 :: cs) = s.push c (c0 :: cs).flatten := by
  rw [pushAll_eq, push_eq_sessOf]
  exact sessOf_same c _ _ _ (feedChunks_same s.p s.pending (c0 :: cs) nofun)
    (feedChunks_noEmpty _ _ _) (feed_noEmpty _ _)

def deliveredList (c : Codec) (l : List AuxBox) : List (Bytes × Finished) :=
  (l.filter (fun b => b.ty != tyJbrd)).map (fun b => (b.ty, Finished.raw ((decodedPayload c b).getD [])))

theorem deliverAll_boxes (c : Codec) (l : List AuxBox) (s a : St) (h : deliverAll c s l = .ok a) :
    a.boxes = s.boxes ++ deliveredList c l ∧ a.curTy = s.curTy ∧ a.cur = s.cur ∧
      (∀ b ∈ l, b.ty ≠ tyJbrd → (decodedPayload c b).isSome = true) := by
  fun_induction deliverAll c s l with
  | case1 => cases h; simp [deliveredList]
  | case2 => cases h
  | case3 s b r s1 hb ih =>
    obtain ⟨i1, i2, i3, i4⟩ := ih h
    rw [i1, i2, i3]
    revert hb
    fun_cases deliverBox c s b <;> intro hb <;> cases hb
    · rename_i hj _
      exact ⟨by simp [deliveredList, hj], rfl, rfl, List.forall_mem_cons.2 ⟨fun hne => absurd hj hne, i4⟩⟩
    · rename_i hj d hd
      exact ⟨by simp [deliveredList, hj, hd], rfl, rfl, List.forall_mem_cons.2 ⟨fun _ => by simp [hd], i4⟩⟩

theorem find_deliveredList (c : Codec) (ty : Bytes) (hty : ty ≠ tyJbrd) (l : List AuxBox) :
    (deliveredList c l).find? (fun p => p.1 == ty) =
      (l.find? (fun b => b.ty == ty)).map
        (fun b => (b.ty, Finished.raw ((decodedPayload c b).getD []))) := by
  rw [deliveredList, List.find?_map, List.find?_filter]
  congr 2
  funext b
  by_cases h : b.ty = ty <;> simp [h, hty]

/-- the shape `UInt8.toNat_ofNat'` leaves the three bytes of `storedHeader` in -/
theorem bytes3 (v : Nat) (h : v < 2 ^ 24) :
    v % 256 % 2 ^ 8 + 256 * (v / 256 % 256 % 2 ^ 8) + 65536 * (v / 65536 % 2 ^ 8) = v := by omega

theorem storedLen_storedHeader (first : Bool) (n : Nat) (h1 : 1 ≤ n) (h2 : n ≤ 65536) :
    ∃ b0 b1 b2, storedHeader first n = [b0, b1, b2] ∧ storedLen first b0 b1 b2 = some n := by
  refine ⟨_, _, _, rfl, ?_⟩
  cases first
  all_goals
    simp only [storedLen, UInt8.toNat_ofNat', Bool.false_eq_true, if_false, if_true]
    rw [bytes3 _ (by omega), if_pos (by omega)]
    congr 1; omega

theorem storedBlocks_encode (parts : List Bytes) : ∀ (first : Bool) (f : Nat),
    (∀ p ∈ parts, 1 ≤ p.length ∧ p.length ≤ 65536) → (first = true → parts ≠ []) →
    (storedEncodeFrom first parts).length < f →
    storedBlocks f first (storedEncodeFrom first parts) = some parts.flatten := by
  induction parts with
  | nil =>
    intro first f _ hne hf
    cases first
    · cases f with
      | zero => omega
      | succ f => simp [storedEncodeFrom, storedBlocks]
    · exact absurd rfl (hne rfl)
  | cons p r ih =>
    intro first f hp _ hf
    obtain ⟨h1, h2⟩ := hp p (List.mem_cons_self ..)
    obtain ⟨b0, b1, b2, hh, hl⟩ := storedLen_storedHeader first p.length h1 h2
    cases f with
    | zero => omega
    | succ f =>
      simp only [storedEncodeFrom, hh, List.cons_append, List.nil_append, List.length_cons,
        List.length_append] at hf ⊢
      have hz : ((b0 :: b1 :: b2 :: (p ++ storedEncodeFrom false r)) == [0x03]) = false := by
        cases p with
        | nil => simp at h1
        | cons x p' => simp
      simp only [storedBlocks, hz, Bool.and_false, Bool.false_eq_true, if_false, hl]
      rw [if_neg (by simp)]
      simp only [List.drop_left, List.take_left]
      rw [ih false f (fun q hq => hp q (List.mem_cons_of_mem _ hq)) (by simp) (by omega)]
      simp

/-! The `panic!()` of `ensure_raw` / `ensure_brotli` is never raised.
`handle_event` puts a fresh reader in place at every `AuxBoxStart` before it calls `ensure_raw` /
`ensure_brotli`, so these only ever see an untouched reader: no event raises the panic, from any
state of the list. -/

theorem finalize_no_panic (c : Codec) (a : St) : finalize c a ≠ .error .panic := by
  -- the arms of `finalize` succeed or fail with `.jbrd`, but for the one that hands on the reader's error
  fun_cases finalize c a <;> intro h <;> cases h
  rename_i he; revert he
  fun_cases finalizeReader c a.cur <;> nofun

theorem handleEvent_no_panic (c : Codec) (s : St) (e : Event) : handleEvent c s e ≠ .error .panic := by
  cases e with
  | auxStart ty b l => rw [handleEvent_auxStart]; nofun
  | auxData ty d => rw [handleEvent_auxData]; nofun
  | auxEnd ty => exact finalize_no_panic c { s with curTy := some ty }
  | _ => nofun

theorem runEvents_no_panic (c : Codec) (evs : List Event) (s : St) : runEvents c s evs ≠ .error .panic := by
  fun_induction runEvents c s evs with
  | case1 => nofun
  | case2 s e r x he => exact fun hc => handleEvent_no_panic c s e (he.trans hc)
  | case3 s e r s1 he ih => exact ih

theorem pushAll_no_panic (c : Codec) (cs : List Bytes) (s : Sess) :
    Sess.pushAll c s cs ≠ .error (.aux .panic) := by
  rw [pushAll_eq]
  unfold sessOf
  cases hr : runEvents c s.a (feedChunks s.p s.pending cs).events with
  | error x => exact fun hc => runEvents_no_panic c _ _ (hr.trans (by cases hc; rfl))
  | ok a' => simp only; split <;> nofun

end Jxl.AuxBox
