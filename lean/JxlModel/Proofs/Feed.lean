import JxlModel.Model.Feed
import JxlModel.Proofs.Container
/-!
Chunking invariance (C09) is built bottom-up from two-piece lemmas, each saying that offering `a`
and then `b` is offering `a ++ b`: a section (`fill_append`), the frame being loaded
(`settle_append`), the codestream layer (`feedInner_append`), the API (`Sess.push_append`, over C10's
`Container.feed_append`), hence any chunking (`Sess.pushAll_flatten`).  Render attempts (`Prog`, for
C11) and the concrete parsers come last.
-/
namespace Jxl.Feed
open Jxl.Container (Bytes)

variable {α : Type} {p : Bytes → Res α}

theorem PrefixStable.append_eq (h : PrefixStable p) (a b : Bytes) :
    p a = .needMore ∨ p a = p (a ++ b) := by
  cases ha : p a with
  | ok v n => exact .inr (h.ok_ext a b v n ha).symm
  | needMore => exact .inl rfl
  | err => exact .inr (h.err_ext a b ha).symm

theorem PrefixStable.of_append_eq (hext : ∀ a b, p a ≠ .needMore → p a = p (a ++ b))
    (hle : ∀ a v n, p a = .ok v n → n ≤ a.length) : PrefixStable p :=
  ⟨fun a b _ _ h => h ▸ (hext a b (h ▸ nofun)).symm, hle,
   fun a b h => h ▸ (hext a b (h ▸ nofun)).symm⟩

theorem PrefixStable.needMore_of_append {α : Type} {p : Bytes → Res α} (h : PrefixStable p)
    (a b : Bytes) (hn : p (a ++ b) = .needMore) : p a = .needMore :=
  (h.append_eq a b).elim id fun e => e.trans hn

theorem PrefixStable.take (h : PrefixStable p) (cs : Bytes) (k : Nat) :
    p (cs.take k) = .needMore ∨ p (cs.take k) = p cs := by
  have := h.append_eq (cs.take k) (cs.drop k)
  rwa [List.take_append_drop] at this

theorem needs_eq_ok {len n : Nat} {v w : α} {bs : Bytes} (h : needs len v bs = .ok w n) :
    n = len ∧ n ≤ bs.length := by
  unfold needs at h
  split at h
  · cases h
  · cases h; exact ⟨rfl, by omega⟩

theorem needs_stable (len : Nat) (v : α) : PrefixStable (needs len v) := by
  refine .of_append_eq (fun a b hne => ?_) (fun a w n h => (needs_eq_ok h).2)
  unfold needs at hne ⊢
  by_cases hl : a.length < len
  · exact absurd (if_pos hl) hne
  · rw [if_neg hl, if_neg (by rw [List.length_append]; omega)]

theorem fill_done (filled : List Bytes) (cur buf : Bytes) :
    fill filled cur [] buf = ⟨filled, cur, [], buf⟩ := by rw [fill]

theorem fill_cur_append (filled : List Bytes) (cur a b : Bytes) (sz : Nat) (more : List Nat)
    (h : a.length ≤ sz - cur.length) :
    fill filled (cur ++ a) (sz :: more) b = fill filled cur (sz :: more) (a ++ b) := by
  -- one step on either side: the same test, the same section, the same rest
  rw [fill, fill, List.length_append, List.length_append, Nat.sub_add_eq, List.take_append,
    List.drop_append, List.take_of_length_le h, List.drop_of_length_le h, List.append_assoc,
    List.append_assoc, List.nil_append]
  exact ite_cond_congr (propext (by omega))

theorem fill_append (b : Bytes) (pending : List Nat) (filled : List Bytes) (cur a : Bytes) :
    fill filled cur pending (a ++ b) =
      fill (fill filled cur pending a).filled (fill filled cur pending a).cur
        (fill filled cur pending a).pending ((fill filled cur pending a).rest ++ b) := by
  fun_induction fill filled cur pending a with
  | case1 => rfl
  | case2 filled cur sz more a h => exact (fill_cur_append filled cur a b sz more (Nat.le_of_lt h)).symm
  | case3 filled cur sz more a h ih =>
    have h := Nat.not_lt.mp h
    rw [fill, if_neg (by rw [List.length_append]; omega),
      List.take_append_of_le_length h, List.drop_append_of_le_length h]
    exact ih

theorem fill_rest (pending : List Nat) (filled : List Bytes) (cur buf : Bytes) :
    (fill filled cur pending buf).rest.length ≤ buf.length ∧
    ((fill filled cur pending buf).pending ≠ [] → (fill filled cur pending buf).rest = []) := by
  fun_induction fill filled cur pending buf with
  | case1 => exact ⟨Nat.le_refl _, fun h => absurd rfl h⟩
  | case2 => exact ⟨Nat.zero_le _, fun _ => rfl⟩
  | case3 filled cur sz more buf h ih =>
    exact ⟨Nat.le_trans ih.1 (by rw [List.length_drop]; exact Nat.sub_le _ _), ih.2⟩

/-- the sections a TOC cuts out of the bytes following the frame header -/
def splitSizes : List Nat → Bytes → List Bytes
  | [], _ => []
  | sz :: more, buf => buf.take sz :: splitSizes more (buf.drop sz)

theorem fill_exact (sizes : List Nat) (filled : List Bytes) (buf : Bytes) (h : sizes.sum ≤ buf.length) :
    fill filled [] sizes buf = ⟨filled ++ splitSizes sizes buf, [], [], buf.drop sizes.sum⟩ := by
  fun_induction splitSizes sizes buf generalizing filled with
  | case1 => simp [fill_done]
  | case2 sz more buf ih =>
    simp only [List.sum_cons] at h
    rw [fill, if_neg (by rw [List.length_nil]; omega)]
    simp only [List.length_nil, Nat.sub_zero, List.nil_append]
    rw [ih _ (by simp only [List.length_drop]; omega)]
    simp [List.drop_drop]

theorem splitSizes_lengths (sizes : List Nat) (buf : Bytes) (h : sizes.sum ≤ buf.length) :
    (splitSizes sizes buf).map List.length = sizes ∧ (splitSizes sizes buf).flatten = buf.take sizes.sum := by
  fun_induction splitSizes sizes buf with
  | case1 => simp
  | case2 sz more buf ih =>
    simp only [List.sum_cons] at h
    have := ih (by simp only [List.length_drop]; omega)
    simp only [List.map_cons, List.flatten_cons, List.sum_cons, this.1, this.2]
    refine ⟨by simp; omega, ?_⟩
    rw [List.take_add]

theorem fill_conserves (pending : List Nat) (filled : List Bytes) (cur buf : Bytes) :
    (fill filled cur pending buf).filled.flatten ++ (fill filled cur pending buf).cur ++
      (fill filled cur pending buf).rest = filled.flatten ++ cur ++ buf := by
  fun_induction fill filled cur pending buf with
  | case1 => rfl
  | case2 => rw [List.append_nil, List.append_assoc]
  | case3 filled cur sz more buf h ih =>
    rw [ih]
    simp only [List.flatten_append, List.flatten_cons, List.flatten_nil, List.append_nil,
      List.append_assoc, List.take_append_drop]

theorem fill_short (pending : List Nat) (filled : List Bytes) (cur buf : Bytes)
    (hs : cur.length + buf.length < pending.sum) : (fill filled cur pending buf).pending ≠ [] := by
  fun_induction fill filled cur pending buf with
  | case1 => simp at hs
  | case2 => simp
  | case3 filled cur sz more buf h ih =>
    apply ih
    simp only [List.sum_cons, List.length_nil, List.length_drop] at hs ⊢
    omega

theorem FrameSt.feed_append (f : FrameSt) (a b : Bytes) :
    f.feed (a ++ b) = (f.feed a).1.feed ((f.feed a).2 ++ b) := by
  simp only [FrameSt.feed]
  rw [fill_append b f.pending f.filled f.cur a]

theorem FrameSt.feed_rest_le (f : FrameSt) (buf : Bytes) : (f.feed buf).2.length ≤ buf.length :=
  (fill_rest f.pending f.filled f.cur buf).1

/-- hence the "another frame is still loading" branches of `loopN` and `feedInner` are never taken -/
theorem FrameSt.feed_not_done (f : FrameSt) (buf : Bytes) (h : (f.feed buf).1.done = false) :
    (f.feed buf).2 = [] :=
  (fill_rest f.pending f.filled f.cur buf).2 fun hp => by
    simp only [FrameSt.feed, FrameSt.done, hp, List.isEmpty_nil] at h
    cases h

theorem FrameSt.feed_of_done (f : FrameSt) (buf : Bytes) (h : f.done = true) :
    f.feed buf = (f, buf) := by
  have hp : f.pending = [] := List.isEmpty_iff.mp h
  rw [FrameSt.feed, hp, fill_done, ← hp]

theorem FrameSt.feed_info (f : FrameSt) (buf : Bytes) : (f.feed buf).1.info = f.info := rfl

variable {Hdr : Type}

/-- What `feed_bytes_inner` and every iteration of its loop do with a frame `lf` that is loading and
the input `y` (`o` = the `buffer_offset` where `y` starts): the frame takes its share; if that finishes
it, it is finalized and `k` goes on with what it left over; otherwise it stays the loading frame.
The model spells this out twice (`loopN`, `feedInner`) to follow the Rust text: `loopN_succ`,
`feedInner_loading`. -/
def settle (k : Inner Hdr → Bytes → Option (Inner Hdr)) (st : Inner Hdr) (lf : FrameSt) (y : Bytes)
    (o : Nat) : Option (Inner Hdr) :=
  let r := lf.feed y
  let off := o + (y.length - r.2.length)
  if r.1.done then
    let st' : Inner Hdr :=
      { st with frames := st.frames ++ [r.1], loading := none, bufferOffset := off }
    if r.1.info.isLast then some { st' with endOfImage := true, buffer := r.2 }
    else k st' r.2
  else if r.2.isEmpty then some { st with loading := some r.1, bufferOffset := off }
  else none

theorem settle_congr {k k' : Inner Hdr → Bytes → Option (Inner Hdr)} (st : Inner Hdr) (lf : FrameSt)
    (y : Bytes) (o : Nat) (h : ∀ st', st'.loading = none → st'.endOfImage = st.endOfImage →
      st'.buffer = st.buffer → k st' (lf.feed y).2 = k' st' (lf.feed y).2) :
    settle k st lf y o = settle k' st lf y o := by
  simp only [settle]
  split
  · split
    · rfl
    · exact h _ rfl rfl rfl
  · rfl

/-- The code clears the carry-over only at an exit, so the remaining iterations still see the old one
(which they never read: `loopN_fuel`). -/
theorem loopN_succ (P : Parsers Hdr) (f : Nat) (st : Inner Hdr) (x : Bytes) :
    loopN P (f + 1) st x =
      if x.isEmpty then some { st with buffer := [] }
      else match P.frame st.hdr st.infos x with
        | .needMore => some { st with buffer := x }
        | .err => none
        | .ok fi n =>
          settle (fun s y => loopN P f { s with buffer := st.buffer } y)
            { st with frameOffsets := st.frameOffsets ++ [st.bufferOffset], buffer := [] }
            (FrameSt.new fi) (x.drop n) (st.bufferOffset + n) := by
  rw [loopN]
  simp only [settle, Nat.add_assoc]
  rfl

theorem drop_length_lt (x : Bytes) (n : Nat) (hx : x.isEmpty = false) (hn : 0 < n) :
    (x.drop n).length < x.length := by
  cases x with
  | nil => cases hx
  | cons a t => rw [List.length_drop, List.length_cons]; omega

/-- The loop never reads `st.buffer` (every exit overwrites it), and the fuel `buf.length + 1` is
never exhausted: every iteration but the last consumes a frame header, which is not empty. -/
theorem loopN_fuel (P : Parsers Hdr) (hP : P.Stable) : ∀ (f f' : Nat) (b : Bytes) (st : Inner Hdr)
    (x : Bytes), x.length < f → x.length < f' →
    loopN P f { st with buffer := b } x = loopN P f' st x := by
  intro f
  induction f with
  | zero => intro _ _ _ _ hf; cases hf
  | succ f ih =>
    intro f' b st x hf hf'
    cases f' with
    | zero => cases hf'
    | succ f' =>
      rw [loopN_succ, loopN_succ, show ({ st with buffer := b } : Inner Hdr).infos = st.infos from rfl]
      cases hx : x.isEmpty with
      | true => rfl
      | false =>
        simp only [Bool.false_eq_true, if_false]
        cases hp : P.frame st.hdr st.infos x with
        | needMore => rfl
        | err => rfl
        | ok fi n =>
          have hn := drop_length_lt x n hx (hP.frame_pos _ _ _ _ _ hp)
          have hr := FrameSt.feed_rest_le (FrameSt.new fi) (x.drop n)
          exact settle_congr _ _ _ _ fun st' _ _ _ =>
            ih f' b { st' with buffer := st.buffer } _ (by omega) (by omega)

theorem loop_buffer (P : Parsers Hdr) (hP : P.Stable) (st : Inner Hdr) (b x : Bytes) :
    loop P { st with buffer := b } x = loop P st x :=
  loopN_fuel P hP _ _ b st x (Nat.lt_succ_self _) (Nat.lt_succ_self _)

theorem feedInner_nil (P : Parsers Hdr) (st : Inner Hdr) : feedInner P st [] = some st := by
  rw [feedInner]; rfl

theorem feedInner_end (P : Parsers Hdr) (st : Inner Hdr) (b : Bytes) (hb : b.isEmpty = false)
    (he : st.endOfImage = true) :
    feedInner P st b = some { st with buffer := st.buffer ++ b } := by
  rw [feedInner, if_neg (ne_true_of_eq_false hb), if_pos he]

theorem feedInner_idle (P : Parsers Hdr) (st : Inner Hdr) (b : Bytes) (hb : b.isEmpty = false)
    (hl : st.loading = none) (he : st.endOfImage = false) :
    feedInner P st b = loop P st (st.buffer ++ b) := by
  rw [feedInner, if_neg (ne_true_of_eq_false hb), if_neg (ne_true_of_eq_false he), hl]

/-- After a frame header the loop does with the new frame what `feed_bytes_inner` does with a frame
that is loading (`feedInner_loading`); what a finished frame leaves over goes through
`feed_bytes_inner`'s own entry, which is the loop again. -/
theorem loop_eq (P : Parsers Hdr) (hP : P.Stable) (st : Inner Hdr) (x : Bytes) (he : st.endOfImage = false) :
    loop P st x =
      if x.isEmpty then some { st with buffer := [] }
      else match P.frame st.hdr st.infos x with
        | .needMore => some { st with buffer := x }
        | .err => none
        | .ok fi n =>
          settle (feedInner P) { st with frameOffsets := st.frameOffsets ++ [st.bufferOffset], buffer := [] }
            (FrameSt.new fi) (x.drop n) (st.bufferOffset + n) := by
  rw [loop, loopN_succ]
  cases hx : x.isEmpty with
  | true => rfl
  | false =>
    simp only [Bool.false_eq_true, if_false]
    cases hp : P.frame st.hdr st.infos x with
    | needMore => rfl
    | err => rfl
    | ok fi n =>
      have hn := drop_length_lt x n hx (hP.frame_pos _ _ _ _ _ hp)
      have hr := FrameSt.feed_rest_le (FrameSt.new fi) (x.drop n)
      refine settle_congr _ _ _ _ fun st' hl he' hb' => ?_
      generalize ((FrameSt.new fi).feed (x.drop n)).2 = y at hr ⊢
      have hb' : st'.buffer = [] := hb'
      cases hy : y.isEmpty with
      | true =>
        rw [List.isEmpty_iff.mp hy, feedInner_nil,
          loopN_fuel P hP _ 1 st.buffer st' [] (Nat.zero_lt_of_lt hn) Nat.one_pos,
          show loopN P 1 st' [] = some { st' with buffer := [] } from rfl, ← hb']
      | false =>
        rw [feedInner_idle P st' y hy hl (he'.trans he), hb']
        exact loopN_fuel P hP _ _ st.buffer st' y (by omega) (Nat.lt_succ_self _)

theorem feedInner_loading (P : Parsers Hdr) (st : Inner Hdr) (lf : FrameSt) (b : Bytes)
    (hb : b.isEmpty = false) (hl : st.loading = some lf) (he : st.endOfImage = false) :
    feedInner P st b = settle (feedInner P) st lf b st.bufferOffset := by
  rw [feedInner, if_neg (ne_true_of_eq_false hb), if_neg (ne_true_of_eq_false he), hl]
  refine Eq.trans ?_ (settle_congr (k := fun st' y => if y.isEmpty then some st' else
    loop P st' (st'.buffer ++ y)) st _ _ _ fun st' hl' he' _ => ?_)
  · rfl
  · cases hy : (lf.feed b).2.isEmpty with
    | true => rw [List.isEmpty_iff.mp hy, feedInner_nil]; rfl
    | false => rw [feedInner_idle P st' _ hy hl' (he'.trans he), if_neg Bool.false_ne_true]

theorem settle_append (P : Parsers Hdr) (st : Inner Hdr) (he : st.endOfImage = false) (lf : FrameSt)
    (y b : Bytes) (hb : b.isEmpty = false) (o : Nat)
    (hcont : ∀ st' : Inner Hdr, st'.loading = none → st'.endOfImage = false →
      st'.buffer = st.buffer → (feedInner P st' (lf.feed y).2).bind (fun s => feedInner P s b) =
        feedInner P st' ((lf.feed y).2 ++ b)) :
    (settle (feedInner P) st lf y o).bind (fun s => feedInner P s b) =
      settle (feedInner P) st lf (y ++ b) o := by
  simp only [settle]
  rw [FrameSt.feed_append lf y b]
  have hr := FrameSt.feed_rest_le lf y
  have hnd := FrameSt.feed_not_done lf y
  generalize lf.feed y = r at hr hnd hcont ⊢
  obtain ⟨f, z⟩ := r
  cases hd : f.done with
  | true =>
    have hlen : (y ++ b).length - (z ++ b).length = y.length - z.length := by
      simp only [List.length_append]; omega
    simp only [FrameSt.feed_of_done f _ hd, hd, hlen, if_true]
    cases hlast : f.info.isLast with
    | true => exact feedInner_end P _ b hb rfl
    | false => exact hcont _ rfl he rfl
  | false =>
    cases hnd hd
    have hr' := FrameSt.feed_rest_le f b
    have hoff : o + ((y ++ b).length - (f.feed b).2.length) =
        o + (y.length - ([] : Bytes).length) + (b.length - (f.feed b).2.length) := by
      simp only [List.length_append, List.length_nil]; omega
    simp only [Bool.false_eq_true, if_false, List.isEmpty_nil, if_true, List.nil_append, hoff]
    exact feedInner_loading P { st with loading := some f, bufferOffset := _ } f b hb rfl he

theorem isEmpty_append_right (x b : Bytes) (hb : b.isEmpty = false) : (x ++ b).isEmpty = false := by
  cases x with
  | nil => exact hb
  | cons a t => rfl

/-- by induction on what is not yet attributed to a frame, the carry-over included -/
theorem feedInner_append_idle (P : Parsers Hdr) (hP : P.Stable) (b : Bytes) (hb : b.isEmpty = false) :
    ∀ (m : Nat) (st : Inner Hdr) (a : Bytes), (st.buffer ++ a).length < m → st.loading = none →
      st.endOfImage = false →
      (feedInner P st a).bind (fun s => feedInner P s b) = feedInner P st (a ++ b) := by
  intro m
  induction m with
  | zero => intro st a hm; cases hm
  | succ m ih =>
    intro st a hm hl he
    cases ha : a.isEmpty with
    | true => rw [List.isEmpty_iff.mp ha, feedInner_nil]; rfl
    | false =>
      rw [feedInner_idle P st a ha hl he, feedInner_idle P st _ (isEmpty_append_right a b hb) hl he,
        ← List.append_assoc]
      generalize st.buffer ++ a = x at hm
      have carry : ∀ y : Bytes, feedInner P { st with buffer := y } b = loop P st (y ++ b) := fun y =>
        (feedInner_idle P { st with buffer := y } b hb hl he).trans (loop_buffer P hP st y _)
      have hxb : loop P st (x ++ b) = _ :=
        (loop_eq P hP st (x ++ b) he).trans (if_neg (by rw [isEmpty_append_right x b hb]; nofun))
      rw [loop_eq P hP st x he]
      cases hx : x.isEmpty with
      | true => rw [List.isEmpty_iff.mp hx]; exact carry []
      | false =>
        simp only [Bool.false_eq_true, if_false]
        cases hp : P.frame st.hdr st.infos x with
        | needMore => exact carry x
        | err => rw [hxb, (hP.frame _ _).err_ext x b hp]; rfl
        | ok fi n =>
          have hdl := drop_length_lt x n hx (hP.frame_pos _ _ _ _ _ hp)
          have hr := FrameSt.feed_rest_le (FrameSt.new fi) (x.drop n)
          rw [hxb, (hP.frame _ _).ok_ext x b fi n hp]
          simp only [List.drop_append_of_le_length ((hP.frame _ _).ok_le _ _ _ hp)]
          refine settle_append P { st with frameOffsets := _, buffer := [] } he _ _ b hb _
            fun st' hl' he' hb' => ih st' _ ?_ hl' he'
          rw [show st'.buffer = [] from hb']
          simp only [List.nil_append]; omega

theorem feedInner_append (P : Parsers Hdr) (hP : P.Stable) (st : Inner Hdr) (a b : Bytes) :
    (feedInner P st a).bind (fun s => feedInner P s b) = feedInner P st (a ++ b) := by
  cases hb : b.isEmpty with
  | true =>
    rw [List.isEmpty_iff.mp hb, List.append_nil]
    cases feedInner P st a with
    | none => rfl
    | some s => exact feedInner_nil P s
  | false =>
  cases ha : a.isEmpty with
  | true => rw [List.isEmpty_iff.mp ha, feedInner_nil]; rfl
  | false =>
  have hab := isEmpty_append_right a b hb
  cases he : st.endOfImage with
  | true =>
    rw [feedInner_end P st a ha he, feedInner_end P st (a ++ b) hab he, ← List.append_assoc]
    exact feedInner_end P _ b hb he
  | false =>
  cases hl : st.loading with
  | none => exact feedInner_append_idle P hP b hb _ st a (Nat.lt_succ_self _) hl he
  | some lf =>
    rw [feedInner_loading P st lf a ha hl he, feedInner_loading P st lf (a ++ b) hab hl he]
    exact settle_append P st he lf a b hb _ fun st' hl' he' _ =>
      feedInner_append_idle P hP b hb _ st' _ (Nat.lt_succ_self _) hl' he'

theorem initParse_stable (P : Parsers Hdr) (hP : P.Stable) : PrefixStable (initParse P) := by
  refine .of_append_eq (fun a b => ?_) (fun a v n h => ?_)
  · -- an answer other than `needMore` rests on answers of `head` and `preview` that are final
    unfold initParse
    cases hh : P.head a with
    | needMore => exact fun h => absurd rfl h
    | err => rw [hP.head.err_ext a b hh]; exact fun _ => rfl
    | ok hd k =>
      rw [hP.head.ok_ext a b hd k hh]
      cases hp : P.hasPreview hd with
      | false => simp only [hp, Bool.false_eq_true, if_false, implies_true]
      | true =>
        simp only [hp, if_true]
        rw [List.drop_append_of_le_length (hP.head.ok_le _ _ _ hh)]
        cases hq : P.preview hd (a.drop k) with
        | needMore => exact fun h => absurd rfl h
        | err => rw [(hP.preview hd).err_ext _ b hq]; exact fun _ => rfl
        | ok fi m =>
          rw [(hP.preview hd).ok_ext _ b fi m hq]
          -- what is left is `needs (k + m + fi.sizes.sum) hd`
          exact ((needs_stable _ hd).append_eq a b).resolve_left
  · revert h
    fun_cases initParse P a <;> intro h <;> cases h
    · omega
    · exact hP.head.ok_le _ _ _ ‹_›

theorem addCs_nil (P : Parsers Hdr) (d : Dec Hdr) : addCs P d [] = d := by
  cases d with
  | uninit u => simp only [addCs, List.append_nil]
  | ready i => simp only [addCs, feedInner_nil]
  | dead => rfl

theorem addCs_append (P : Parsers Hdr) (hP : P.Stable) (d : Dec Hdr) (a b : Bytes) :
    addCs P (addCs P d a) b = addCs P d (a ++ b) := by
  cases d with
  | uninit u => simp only [addCs, List.append_assoc]
  | dead => rfl
  | ready i =>
    simp only [addCs]
    rw [← feedInner_append P hP i a b]
    cases feedInner P i a <;> rfl

theorem tryInit_addCs (P : Parsers Hdr) (hP : P.Stable) (d : Dec Hdr) (x : Bytes) :
    tryInit P (addCs P (tryInit P d) x) = tryInit P (addCs P d x) := by
  cases d with
  | ready i => rfl
  | dead => rfl
  | uninit u =>
    have hS := initParse_stable P hP
    cases h : initParse P u with
    | needMore => simp only [tryInit, h]
    | err => simp only [tryInit, h, addCs, hS.err_ext u x h]
    | ok hd off =>
      simp only [tryInit, h, addCs, hS.ok_ext u x hd off h]
      rw [List.drop_append_of_le_length (hS.ok_le _ _ _ h),
        ← feedInner_append P hP (Inner.init hd off) (u.drop off) x]
      cases feedInner P (Inner.init hd off) (u.drop off) with
      | none => rfl
      | some s => simp only [Option.bind]; cases feedInner P s x <;> rfl

theorem applyEvents_eq_addCs (P : Parsers Hdr) (hP : P.Stable) :
    ∀ (evs : List Container.Event) (d : Dec Hdr),
    applyEvents P d evs = addCs P d (Container.codestreamOf (Container.toks evs)) := by
  intro evs
  induction evs with
  | nil => intro d; exact (addCs_nil P d).symm
  | cons e evs ih =>
    intro d
    rw [Container.toks_cons, Container.codestreamOf_append]
    cases e with
    | codestream b =>
      rw [applyEvents, ih, addCs_append P hP, Container.Event.toks, Container.codestreamOf_cs]
    | auxData ty b => rw [Container.Event.toks, Container.codestreamOf_aux]; exact ih d
    | _ => exact ih d

theorem applyToks_codestreamOf (P : Parsers Hdr) (hP : P.Stable) :
    ∀ (ts : List Container.Tok) (d : Dec Hdr),
    applyToks P d ts = addCs P d (Container.codestreamOf ts) := by
  intro ts
  induction ts with
  | nil => intro d; exact (addCs_nil P d).symm
  | cons t ts ih =>
    intro d
    cases t with
    | cs b => exact (ih _).trans (addCs_append P hP d [b] _)
    | _ => exact ih d

/-- two sessions a caller cannot tell apart -/
def Sess.equiv (A B : Sess Hdr) : Prop := (A.dec = .dead ∧ B.dec = .dead) ∨ A = B

theorem Sess.equiv_refl (A : Sess Hdr) : A.equiv A := Or.inr rfl

theorem Sess.equiv_trans {A B C : Sess Hdr} (h1 : A.equiv B) (h2 : B.equiv C) : A.equiv C := by
  rcases h1 with ⟨a, b⟩ | rfl
  · rcases h2 with ⟨_, c⟩ | rfl
    · exact Or.inl ⟨a, c⟩
    · exact Or.inl ⟨a, b⟩
  · exact h2

theorem Sess.obs_of_equiv {A B : Sess Hdr} (h : A.equiv B) : A.obs = B.obs := by
  rcases h with ⟨a, b⟩ | rfl
  · simp only [Sess.obs, a, b]
  · rfl

theorem Sess.equiv_dead_iff {A B : Sess Hdr} (h : A.equiv B) : A.dec = .dead ↔ B.dec = .dead := by
  rcases h with ⟨a, b⟩ | rfl
  · exact ⟨fun _ => b, fun _ => a⟩
  · rfl

theorem Sess.push_dead (P : Parsers Hdr) (S : Sess Hdr) (c : Bytes) (h : S.dec = .dead) :
    S.push P c = S := by
  rw [Sess.push, h]

theorem Sess.push_live (P : Parsers Hdr) (hP : P.Stable) (S : Sess Hdr) (c : Bytes) (h : S.dec ≠ .dead) :
    S.push P c =
      ⟨(Container.feed S.cp (S.pending ++ c)).state,
       if (Container.feed S.cp (S.pending ++ c)).error.isSome then [] else (Container.feed S.cp (S.pending ++ c)).rest,
       if (Container.feed S.cp (S.pending ++ c)).error.isSome then .dead
       else tryInit P (addCs P S.dec
         (Container.codestreamOf (Container.toks (Container.feed S.cp (S.pending ++ c)).events))),
       S.aux ++ Container.toks (Container.feed S.cp (S.pending ++ c)).events⟩ := by
  rw [← applyEvents_eq_addCs P hP]
  unfold Sess.push
  cases hd : S.dec with
  | dead => exact absurd hd h
  | uninit u => rfl
  | ready i => rfl

theorem Sess.push_equiv (P : Parsers Hdr) {A B : Sess Hdr} (c : Bytes) (h : A.equiv B) :
    (A.push P c).equiv (B.push P c) := by
  rcases h with ⟨a, b⟩ | rfl
  · rw [Sess.push_dead P A c a, Sess.push_dead P B c b]; exact Or.inl ⟨a, b⟩
  · exact Or.inr rfl

theorem Sess.push_append (P : Parsers Hdr) (hP : P.Stable) (S : Sess Hdr) (a b : Bytes) :
    ((S.push P a).push P b).equiv (S.push P (a ++ b)) := by
  by_cases hdead : S.dec = .dead
  · rw [Sess.push_dead P S a hdead, Sess.push_dead P S b hdead, Sess.push_dead P S _ hdead]
    exact Or.inr rfl
  obtain ⟨ht, hs, hr, he⟩ := Container.feed_append b S.cp (S.pending ++ a)
  rw [List.append_assoc] at ht hs hr he
  rw [Sess.push_live P hP S (a ++ b) hdead, Sess.push_live P hP S a hdead, ht, hs, hr, he]
  generalize Container.feed S.cp (S.pending ++ a) = r
  cases hre : r.error with
  | some e =>
    rw [Sess.push_dead P _ b rfl]
    exact Or.inl ⟨rfl, by simp only [Container.thenFeed, hre]; rfl⟩
  | none =>
    simp only [Container.thenFeed, hre, Container.toks_append, Container.codestreamOf_append,
      Option.isSome_none, Bool.false_eq_true, if_false]
    rw [← addCs_append P hP, ← tryInit_addCs P hP (addCs P S.dec _)]
    by_cases hd1 : tryInit P (addCs P S.dec (Container.codestreamOf (Container.toks r.events))) = .dead
    · rw [Sess.push_dead P _ b hd1, hd1]
      exact Or.inl ⟨rfl, by split <;> rfl⟩
    · rw [Sess.push_live P hP _ b hd1, List.append_assoc]
      exact Or.inr rfl

theorem Sess.pushAll_cons (P : Parsers Hdr) (S : Sess Hdr) (c : Bytes) (cs : List Bytes) :
    S.pushAll P (c :: cs) = (S.push P c).pushAll P cs := rfl

theorem Sess.pushAll_append (P : Parsers Hdr) (S : Sess Hdr) (xs ys : List Bytes) :
    S.pushAll P (xs ++ ys) = (S.pushAll P xs).pushAll P ys :=
  List.foldl_append

theorem Sess.pushAll_equiv (P : Parsers Hdr) : ∀ (cs : List Bytes) {A B : Sess Hdr}, A.equiv B →
    (A.pushAll P cs).equiv (B.pushAll P cs) := by
  intro cs
  induction cs with
  | nil => intro A B h; exact h
  | cons c cs ih => intro A B h; exact ih (Sess.push_equiv P c h)

theorem Sess.pushAll_dead (P : Parsers Hdr) : ∀ (cs : List Bytes) (S : Sess Hdr), S.dec = .dead →
    (S.pushAll P cs).dec = .dead := by
  intro cs
  induction cs with
  | nil => intro S h; exact h
  | cons c cs ih => intro S h; rw [Sess.pushAll_cons, Sess.push_dead P S c h]; exact ih S h

theorem Sess.pushAll_flatten (P : Parsers Hdr) (hP : P.Stable) : ∀ (cs : List Bytes) (S : Sess Hdr) (c : Bytes),
    (S.pushAll P (c :: cs)).equiv (S.push P (c :: cs).flatten) := by
  intro cs
  induction cs with
  | nil => intro S c; rw [List.flatten_cons, List.flatten_nil, List.append_nil]; exact Or.inr rfl
  | cons c' cs ih =>
    intro S c
    rw [Sess.pushAll_cons, List.flatten_cons]
    exact Sess.equiv_trans (ih (S.push P c) c') (Sess.push_append P hP S c _)

theorem readN_trace (P : Parsers Hdr) (cap : Nat) (fuel : Nat) (S0 S : Sess Hdr) (acc : List Bytes)
    (stream : Bytes) (h : S = S0.pushAll P acc) :
    (readN P cap fuel S acc stream).sess = S0.pushAll P (readN P cap fuel S acc stream).chunks ∧
    (readN P cap fuel S acc stream).chunks.flatten ++ (readN P cap fuel S acc stream).rest =
      acc.flatten ++ stream := by
  -- every arm of `readN` that stops returns `S`, `acc` and `stream` as they are
  fun_induction readN P cap fuel S acc stream <;> try exact ⟨h, rfl⟩
  all_goals
    rename_i ih
    have := ih (by rw [Sess.pushAll_append, ← h]; rfl)
    rwa [List.flatten_append, List.flatten_singleton, List.append_assoc, List.take_append_drop] at this

theorem attemptOn_clean (Q : SecParsers) (f : FrameSt) (got : Bytes)
    (h : Q.lfGlobal f.info got ≠ .hard ∧ Q.keepsCache f.info got = false) :
    attemptOn Q f got Residue.clean = Residue.clean := by
  unfold attemptOn
  rw [h.2]
  cases ho : Q.lfGlobal f.info got with
  | hard => exact absurd ho h.1
  | complete => cases f.info.sizes.length == 1 <;> rfl
  | eof =>
    cases f.info.sizes.length == 1 with
    | true => rfl
    | false =>
      simp only [lfGlobalMulti, modularDecode]
      cases allowPartialMulti got.length (f.info.sizes.headD 0) <;> rfl

/-- the obligation pushed to the concrete section parsers, for one stream: at every cut position
the truncated first section of the frame being loaded does not produce a non-EOF error, and no
attempt keeps a render cache holding an `LfGlobal` parsed from truncated data -/
def CutClean (P : Parsers Hdr) (Q : SecParsers) (stream : Bytes) : Prop :=
  ∀ k, k ≤ stream.length → ∀ f got, loadingFirst (Sess.init.push P (stream.take k)) = some (f, got) →
    Q.lfGlobal f.info got ≠ .hard ∧ Q.keepsCache f.info got = false

theorem loadingFirst_equiv {A B : Sess Hdr} (h : A.equiv B) : loadingFirst A = loadingFirst B := by
  rcases h with ⟨a, b⟩ | rfl
  · simp only [loadingFirst, a, b]
  · rfl

theorem Prog.step_render_clean (P : Parsers Hdr) (hP : P.Stable) (Q : SecParsers)
    (done rest : List Bytes) (hc : CutClean P Q (done ++ rest).flatten) :
    Prog.step P Q ⟨Sess.init.pushAll P done, .clean, false⟩ .render =
      ⟨Sess.init.pushAll P done, .clean, false⟩ := by
  rw [Prog.step]
  cases hlf : loadingFirst (Sess.init.pushAll P done) with
  | none => rfl
  | some fg =>
    obtain ⟨f, got⟩ := fg
    cases done with
    | nil => cases hlf
    | cons c cs =>
      -- the session at the attempt is that of the bytes pushed so far fed in one call, a prefix of
      -- the stream
      rw [loadingFirst_equiv (Sess.pushAll_flatten P hP cs Sess.init c)] at hlf
      have hcc := hc (c :: cs).flatten.length
        (by rw [List.flatten_append, List.length_append]; omega) f got
        (by rw [List.flatten_append, List.take_left]; exact hlf)
      simp only []
      rw [attemptOn_clean Q f got hcc]

/-- a frame the call completes goes to its final render with nothing left behind by attempts:
both branches of `step` are this -/
theorem Prog.step_push_clean (P : Parsers Hdr) (Q : SecParsers) (S : Sess Hdr) (c : Bytes) :
    Prog.step P Q ⟨S, .clean, false⟩ (.push c) = ⟨S.push P c, .clean, false⟩ :=
  ite_self _

theorem Prog.run_inv (P : Parsers Hdr) (hP : P.Stable) (Q : SecParsers) (ops : List Op)
    (done : List Bytes) (hc : CutClean P Q (done ++ Op.chunks ops).flatten) :
    Prog.run P Q ⟨Sess.init.pushAll P done, .clean, false⟩ ops =
      ⟨Sess.init.pushAll P (done ++ Op.chunks ops), .clean, false⟩ := by
  induction ops generalizing done with
  | nil => rw [Op.chunks, List.append_nil]; rfl
  | cons op ops ih =>
    rw [Prog.run, List.foldl_cons]
    cases op with
    | push c =>
      rw [Op.chunks, List.append_cons] at hc ⊢
      rw [Prog.step_push_clean]
      have := ih (done ++ [c]) hc
      rwa [Sess.pushAll_append] at this
    | render =>
      rw [Prog.step_render_clean P hP Q done _ hc]
      exact ih done hc

theorem ofRErr_ne_fail {e : RErr} (h : e ≠ .other) : ofRErr e ≠ .fail := by
  cases e with
  | needMore => exact nofun
  | other => exact absurd rfl h

theorem renderLoadingFrame_ne_other (v : LoadingView) (h1 : v.render ≠ .error .other)
    (h2 : v.compose ≠ .error .other) : renderLoadingFrame v ≠ .error .other := by
  unfold renderLoadingFrame
  split
  · exact nofun
  · cases hr : v.render with
    | ok u => exact h2
    | error e =>
      cases e with
      | other => exact absurd hr h1
      | needMore => cases v.frameLoaded <;> exact nofun

theorem renderLoading_ne_fail (v : LoadingView) (h1 : v.render ≠ .error .other)
    (h2 : v.compose ≠ .error .other) (h3 : v.inProgress ≠ some (.error .other))
    (h4 : v.postprocess ≠ .error .other) : renderLoading v ≠ .fail := by
  -- both ways to an image end in `postprocess_keyframe`
  have hpost : (match v.postprocess with
      | .ok () => LoadingAns.image
      | .error e => ofRErr e) ≠ .fail := by
    cases hp : v.postprocess with
    | ok u => exact nofun
    | error e => exact ofRErr_ne_fail fun h => h4 (by rw [hp, h])
  have hfall : (match v.inProgress with
      | none => LoadingAns.needMore
      | some (.error e) => ofRErr e
      | some (.ok ()) => (match v.postprocess with | .ok () => .image | .error e => ofRErr e)) ≠
        .fail := by
    cases hi : v.inProgress with
    | none => exact nofun
    | some r =>
      cases r with
      | ok u => exact hpost
      | error e => exact ofRErr_ne_fail fun h => h3 (by rw [hi, h])
  unfold renderLoading
  cases v.hasProgressive with
  | false => exact hfall
  | true =>
    cases hr : renderLoadingFrame v with
    | ok u => exact hpost
    | error e =>
      cases e with
      | needMore => exact hfall
      | other => exact absurd hr (renderLoadingFrame_ne_other v h1 h2)

theorem err_stable : PrefixStable (fun (_ : Bytes) => (Res.err : Res α)) :=
  .of_append_eq (fun _ _ _ => rfl) nofun

theorem Layout.stable (L : Layout) : L.parsers.Stable where
  head := needs_stable _ _
  preview _ := by
    simp only [Layout.parsers]
    cases L.preview with
    | none => exact err_stable
    | some p => exact needs_stable _ _
  frame _ fs := by
    simp only [Layout.parsers]
    cases L.frames[fs.length]? with
    | none => exact err_stable
    | some f =>
      by_cases h0 : f.hdrLen = 0
      · simp only [h0, if_true]; exact err_stable
      · simp only [h0, if_false]; exact needs_stable _ _
  frame_pos _ fs a v n hp := by
    simp only [Layout.parsers] at hp
    split at hp
    · split at hp
      · cases hp
      · exact (needs_eq_ok hp).1 ▸ Nat.pos_of_ne_zero ‹_›
    · cases hp

namespace Toy

theorem head_stable : PrefixStable head := by
  refine .of_append_eq (fun a b hne => ?_) (fun a v n => ?_)
  · match a, hne with
    | x :: y :: z :: r, _ => rfl
  · fun_cases head a with
    | case1 x y z r => intro h; cases h; simp only [List.length_cons]; omega
    | case2 => nofun
    | case3 => nofun

theorem frame_eq_ok {a : Bytes} {v : FrameInfo} {n : Nat} :
    frame a = .ok v n → 0 < n ∧ n ≤ a.length := by
  fun_cases frame a with
  | case1 => nofun
  | case2 => nofun
  | case3 f k r hf hl => intro h; cases h; simp only [List.length_cons]; omega
  | case4 => nofun

theorem frame_stable : PrefixStable frame := by
  refine .of_append_eq (fun a b => ?_) (fun a v n h => (frame_eq_ok h).2)
  fun_cases frame a with
  | case1 k r => exact fun _ => rfl
  | case2 => exact fun h => absurd rfl h
  | case3 f k r hf hl =>
    intro _
    rw [List.cons_append, List.cons_append, frame, if_neg hf,
      if_neg (by rw [List.length_append]; omega), List.take_append_of_le_length (by omega)]
  | case4 => exact fun h => absurd rfl h

theorem stable : parsers.Stable :=
  ⟨head_stable, fun _ => frame_stable, fun _ _ => frame_stable,
   fun _ _ _ _ _ h => (frame_eq_ok h).1⟩

end Toy

end Jxl.Feed
