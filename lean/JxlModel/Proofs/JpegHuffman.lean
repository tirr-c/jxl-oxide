import JxlModel.Model.JpegBits
import JxlModel.Proofs.Util
/-! Lemmas for C17: `HuffmanCode::build` produces the canonical JPEG code. -/
namespace Jxl.JpegBits

/-- `Σ_{x ∈ pre} 2^(L - x)`: the number of `L`-bit code words used up by the entries of `pre` -/
def W (pre : List Nat) (L : Nat) : Nat := (pre.map (fun x => 2 ^ (L - x))).sum

theorem W_nil (L : Nat) : W [] L = 0 := rfl

theorem W_append (a b : List Nat) (L : Nat) : W (a ++ b) L = W a L + W b L := by
  simp [W]

theorem W_singleton (x L : Nat) : W [x] L = 2 ^ (L - x) := by simp [W]

theorem W_scale (pre : List Nat) (L M : Nat) (h : ∀ x ∈ pre, x ≤ L) (hLM : L ≤ M) :
    W pre M = W pre L * 2 ^ (M - L) := by
  induction pre with
  | nil => simp [W]
  | cons x xs ih =>
    obtain ⟨hx, h⟩ := List.forall_mem_cons.1 h
    simp only [W, List.map_cons, List.sum_cons] at ih ⊢
    rw [ih h, Nat.add_mul, ← Nat.pow_add, show L - x + (M - L) = M - x by omega]

theorem canonCode_eq_W (ls : List Nat) (k : Nat) : canonCode ls k = W (ls.take k) (ls.getD k 0) := rfl

/-- the codes `assignCodes` produces for `suf` when `pre` has been processed: entry `k` is the
canonical code of position `k` of `pre ++ suf` counted after `pre` -/
def codes (pre suf : List Nat) : List (BitVec 64) :=
  (List.range suf.length).map fun k =>
    BitVec.ofNat 64 (W (pre ++ suf.take k) (suf.getD k 0)) <<< (64 - suf.getD k 0)

/-- The code loop keeps `next_code = W pre prev_len`, `pre` being the lengths done: `W_scale` is the
step `next_code <<= len - prev_len`, and `+= 1` appends `len` to `pre`. -/
theorem assignCodes_eq (suf : List Nat) : ∀ (pre : List Nat) (p : Nat),
    (∀ x ∈ pre, x ≤ p) → (p :: suf).Pairwise (· ≤ ·) → (∀ x ∈ suf, 1 ≤ x ∧ x ≤ 64) →
    assignCodes suf (W pre p) p = some (codes pre suf) := by
  induction suf with
  | nil => intros; rfl
  | cons len rest ih =>
    intro pre p hpre hs hr
    obtain ⟨hlen, hr⟩ := List.forall_mem_cons.1 hr
    obtain ⟨hp, hs⟩ := List.pairwise_cons.1 hs
    have hple : p ≤ len := hp len (.head _)
    have hW : (if len ≠ p then W pre p <<< (len - p) else W pre p) = W pre len := by
      rw [W_scale pre p len hpre hple]
      by_cases e : len = p
      · simp [e]
      · simp [e, Nat.shiftLeft_eq]
    have hnext : W pre len + 1 = W (pre ++ [len]) len := by
      rw [W_append, W_singleton, Nat.sub_self]
    simp only [assignCodes, show ¬ (len = 0 ∨ len > 64) by omega, show ¬ len < p by omega, if_false, hW]
    rw [hnext, ih (pre ++ [len]) len ?_ hs hr]
    · -- `codes pre (len :: rest)` is its entry 0 followed by `codes (pre ++ [len]) rest`
      simp [codes, List.range_succ_eq_map, Function.comp_def]
    · simpa [or_imp, forall_and] using fun x hx => Nat.le_trans (hpre x hx) hple

/-- one column of `scatter` -/
def scat {α : Type} : List Nat → List α → List α → List α
  | v :: vs, x :: xs, acc => scat vs xs (acc.set v x)
  | _, _, acc => acc

theorem scatter_eq_scat (vs ls : List Nat) : ∀ (bs : List (BitVec 64)) (t : Table), bs.length = ls.length →
    scatter vs ls bs t = ⟨scat vs ls t.lengths, scat vs bs t.bits⟩ := by
  induction vs generalizing ls with
  | nil => intros; simp [scatter, scat]
  | cons v vs ih =>
    rintro (_ | ⟨b, bs⟩) t hl
    · obtain rfl := List.length_eq_zero_iff.1 hl.symm
      simp [scatter, scat]
    · obtain ⟨l, ls, rfl⟩ := List.exists_cons_of_length_eq_add_one hl.symm
      exact ih ls bs _ (Nat.succ.inj hl)

theorem scat_length {α : Type} (vs : List Nat) : ∀ (xs acc : List α), (scat vs xs acc).length = acc.length := by
  intro xs acc
  fun_induction scat vs xs acc with
  | case1 v vs x xs acc ih => rw [ih, List.length_set]
  | case2 => rfl

/-- `ks` is the part of `vs` that `scat` gets to. The bound is asked of all of `vs`: that is what
the caller has. -/
theorem scat_getElem? {α : Type} (s : Nat) (vs : List Nat) : ∀ (xs acc : List α) (ks : List Nat),
    ks = vs.take xs.length → ks.Nodup → (∀ v ∈ vs, v < acc.length) →
    (scat vs xs acc)[s]? = if s ∈ ks then xs[ks.idxOf s]? else acc[s]? := by
  induction vs with
  | nil => rintro xs acc _ rfl _ _; simp [scat]
  | cons v vs ih =>
    rintro (_ | ⟨x, xs⟩) acc _ rfl
    · simp [scat]
    rw [List.length_cons, List.take_succ_cons, List.nodup_cons, List.forall_mem_cons]
    rintro ⟨hv, hnd⟩ ⟨hva, hlt⟩
    rw [scat, ih _ _ _ rfl hnd (by rwa [List.length_set])]
    by_cases h : v = s
    · subst h
      simp [hv, hva]
    · simp [List.idxOf_cons, beq_false_of_ne h, Ne.symm h, List.getElem?_set_ne h]

theorem W_flatMap_replicate (c : Nat → Nat) (idx : List Nat) (L : Nat) :
    W (idx.flatMap fun len => List.replicate (c len) len) L
      = (idx.map fun len => c len * 2 ^ (L - len)).sum := by
  induction idx with
  | nil => rfl
  | cons i rest ih =>
    rw [List.flatMap_cons, W_append, ih]
    simp [W]

theorem codeLengths_valid (counts values : List Nat) (hv : ValidTable counts values) :
    (codeLengths counts).length + 1 = values.length ∧ (codeLengths counts).Pairwise (· ≤ ·) ∧
    (∀ x ∈ codeLengths counts, 1 ≤ x ∧ x ≤ 16) ∧ W (codeLengths counts) 16 + 1 ≤ 2 ^ 16 ∧
    ∃ w, fillLengths counts values.length = some (codeLengths counts ++ [w]) := by
  unfold codeLengths fillLengths
  generalize hF : ((List.range counts.length).flatMap fun len => List.replicate (counts.getD len 0) len) = F
  have hlen : F.length = values.length := by
    rw [← hF, List.length_flatMap, hv.len17]
    simpa using hv.total
  have hs : F.Pairwise (· ≤ ·) := by
    -- each block is constant, and the blocks come in the order of `List.range`
    refine hF ▸ List.pairwise_flatMap.2 ⟨fun a _ => List.pairwise_replicate.2 (.inr (Nat.le_refl a)),
      List.pairwise_le_range.imp ?_⟩
    intro a b hab x hx y hy
    rwa [List.eq_of_mem_replicate hx, List.eq_of_mem_replicate hy]
  have hk : W F 16 ≤ 2 ^ 16 := by
    rw [← hF, W_flatMap_replicate]; exact hv.kraft
  have hr : ∀ x ∈ F, 1 ≤ x ∧ x ≤ 16 := by
    simp only [← hF, List.mem_flatMap, List.mem_replicate, hv.len17, List.mem_range]
    rintro x ⟨a, ha, hc, rfl⟩
    exact ⟨Nat.pos_of_ne_zero fun e => hc (e ▸ hv.zero0), by omega⟩
  -- the list ends in the sentinel, whose share of the Kraft sum is at least one 16-bit word
  obtain ⟨l, w, rfl⟩ : ∃ l w, F = l ++ [w] :=
    ⟨_, _, (List.dropLast_concat_getLast (List.ne_nil_of_length_pos (by have := hv.two; omega))).symm⟩
  rw [W_append, W_singleton] at hk
  have := Nat.two_pow_pos (16 - w)
  simp only [List.dropLast_concat]
  exact ⟨by simpa using hlen, (List.pairwise_append.1 hs).1,
    fun x hx => hr x (List.mem_append_left _ hx), by omega, w, by simp [hlen]⟩

/-! `build` on a valid table: the fill loop leaves the sorted lengths `codeLengths counts` (the
sentinel popped), the code loop gives them the words `codes []`, and the scatter loop stores length
and word `k` at index `values[k]` (the symbols are distinct bytes) and touches nothing else. -/

def builtTable (counts values : List Nat) : Table :=
  ⟨scat values (codeLengths counts) (List.replicate 256 0),
    scat values (codes [] (codeLengths counts)) (List.replicate 256 0#64)⟩

theorem build_valid (counts values : List Nat) (hv : ValidTable counts values) :
    build counts values = some (builtTable counts values) := by
  obtain ⟨_, hs, hr, _, w, hfill⟩ := codeLengths_valid counts values hv
  unfold builtTable
  generalize codeLengths counts = ls at *
  cases ls with
  | nil => simp [build, hfill, scat, codes, -List.reduceReplicate]
  | cons l0 rest =>
    have hassign := assignCodes_eq (l0 :: rest) [] l0 (by simp) (by simpa using hs)
      (fun x hx => by have := hr x hx; omega)
    rw [W_nil] at hassign
    simp only [build, hfill, List.dropLast_concat, hassign]
    exact congrArg some (scatter_eq_scat _ _ _ _ (by simp [codes]))

theorem lookup_built (counts values : List Nat) (hv : ValidTable counts values) (s : Nat) :
    lookup (builtTable counts values) s
      = if s ∈ values.dropLast then
          some ((codeLengths counts).getD (values.dropLast.idxOf s) 0,
            BitVec.ofNat 64 (canonCode (codeLengths counts) (values.dropLast.idxOf s))
              <<< (64 - (codeLengths counts).getD (values.dropLast.idxOf s) 0))
        else none := by
  obtain ⟨hlen, _, hr, _⟩ := codeLengths_valid counts values hv
  unfold builtTable
  generalize codeLengths counts = ls at *
  have hd : values.dropLast = values.take ls.length := by rw [List.dropLast_eq_take, ← hlen]; rfl
  have h1 := scat_getElem? s values ls (List.replicate 256 0) _ hd hv.nodup
    (by rw [List.length_replicate]; exact hv.bytes)
  have h2 := scat_getElem? s values (codes [] ls) (List.replicate 256 0#64) _
    (by simpa [codes] using hd) hv.nodup (by rw [List.length_replicate]; exact hv.bytes)
  simp only [lookup, List.getD_eq_getElem?_getD, h1, h2]
  by_cases hs : s ∈ values.dropLast
  · have hk : values.dropLast.idxOf s < ls.length := by
      have := List.idxOf_lt_length_of_mem hs
      rw [List.length_dropLast] at this; omega
    have := (hr _ (List.getElem_mem hk)).1
    simp [hs, codes, hk, canonCode_eq_W]
    omega
  · simp only [hs, if_false, ← List.getD_eq_getElem?_getD, getD_replicate, if_true]

theorem lookup_position (counts values : List Nat) (hv : ValidTable counts values) (t : Table)
    (hb : build counts values = some t) (s l : Nat) (b : BitVec 64) (h : lookup t s = some (l, b)) :
    ∃ k, k < (codeLengths counts).length ∧ values.dropLast.getD k 0 = s ∧
      l = (codeLengths counts).getD k 0 ∧
      b = BitVec.ofNat 64 (canonCode (codeLengths counts) k) <<< (64 - (codeLengths counts).getD k 0) := by
  have hlen := (codeLengths_valid counts values hv).1
  rw [build_valid counts values hv] at hb
  cases hb
  rw [lookup_built counts values hv] at h
  split at h
  · next hs =>
    cases h
    have hk := List.idxOf_lt_length_of_mem hs
    rw [List.length_dropLast] at hk
    exact ⟨_, by omega, getD_idxOf hs, rfl, rfl⟩
  · cases h

theorem W_take_le (ls : List Nat) (k L : Nat) : W (ls.take k) L ≤ W ls L := by
  have h := W_append (ls.take k) (ls.drop k) L
  rw [List.take_append_drop] at h
  omega

theorem W_take_succ (ls : List Nat) (hs : ls.Pairwise (· ≤ ·)) (k : Nat) (hk : k < ls.length)
    (M : Nat) (hle : ls[k] ≤ M) :
    W (ls.take (k + 1)) M = (W (ls.take k) ls[k] + 1) * 2 ^ (M - ls[k]) := by
  have hpre : ∀ x ∈ ls.take k, x ≤ ls[k] := by
    intro x hx
    obtain ⟨i, hi, rfl⟩ := List.mem_take_iff_getElem.1 hx
    exact (List.pairwise_iff_getElem.1 hs) i k (by omega) hk (by omega)
  rw [List.take_succ_eq_append_getElem hk, W_append, W_singleton,
    W_scale (ls.take k) ls[k] M hpre hle, Nat.add_mul, Nat.one_mul]

/-- The `+ 1`s: with one word of the longest length `M` to spare, every code is below the all-ones
word of its length. -/
theorem code_fits (ls : List Nat) (hs : ls.Pairwise (· ≤ ·)) (M : Nat) (hr : ∀ x ∈ ls, x ≤ M)
    (hkraft : W ls M + 1 ≤ 2 ^ M) (k : Nat) (hk : k < ls.length) :
    canonCode ls k + 1 < 2 ^ ls.getD k 0 := by
  rw [canonCode_eq_W, getD_eq_getElem ls k hk]
  have hle : ls[k] ≤ M := hr _ (List.getElem_mem hk)
  have h1 := W_take_succ ls hs k hk M hle
  have h2 := W_take_le ls (k + 1) M
  have h3 : (W (ls.take k) ls[k] + 1) * 2 ^ (M - ls[k]) < 2 ^ ls[k] * 2 ^ (M - ls[k]) := by
    rw [← h1, ← Nat.pow_add, show ls[k] + (M - ls[k]) = M by omega]
    omega
  exact Nat.lt_of_mul_lt_mul_right h3

/-- prefix-freedom: the earlier word is not the later one cut to its length -/
theorem code_lt_truncated (ls : List Nat) (hs : ls.Pairwise (· ≤ ·)) (j k : Nat) (hjk : j < k)
    (hk : k < ls.length) :
    ls.getD j 0 ≤ ls.getD k 0 ∧
      canonCode ls j < canonCode ls k / 2 ^ (ls.getD k 0 - ls.getD j 0) := by
  have hj : j < ls.length := by omega
  rw [canonCode_eq_W, canonCode_eq_W, getD_eq_getElem ls k hk, getD_eq_getElem ls j hj]
  have hle : ls[j] ≤ ls[k] := (List.pairwise_iff_getElem.1 hs) j k hj hk hjk
  have h3 := W_take_le (ls.take k) (j + 1) ls[k]
  rw [List.take_take, Nat.min_eq_left (by omega), W_take_succ ls hs j hj ls[k] hle] at h3
  exact ⟨hle, (Nat.le_div_iff_mul_le (Nat.pow_pos (by omega))).2 h3⟩

theorem word_toNat (c l : Nat) (hl : l ≤ 64) (hc : c < 2 ^ l) :
    (BitVec.ofNat 64 c <<< (64 - l)).toNat = c * 2 ^ (64 - l) := by
  have h64 : 2 ^ l * 2 ^ (64 - l) = 2 ^ 64 := by
    rw [← Nat.pow_add]; congr 1; omega
  have hlt : c * 2 ^ (64 - l) < 2 ^ 64 := by
    rw [← h64]; exact Nat.mul_lt_mul_of_pos_right hc (Nat.pow_pos (by omega))
  have hc64 : c < 2 ^ 64 := Nat.lt_of_lt_of_le hc (Nat.pow_le_pow_right (by omega) hl)
  rw [BitVec.toNat_shiftLeft, BitVec.toNat_ofNat, Nat.shiftLeft_eq, Nat.mod_eq_of_lt hc64,
    Nat.mod_eq_of_lt hlt]

theorem word_prefix_toNat (c2 l1 l2 : Nat) (h12 : l1 ≤ l2) (hl : l2 ≤ 64) (hc : c2 < 2 ^ l2) :
    ((BitVec.ofNat 64 c2 <<< (64 - l2)) >>> (64 - l1)).toNat = c2 / 2 ^ (l2 - l1) := by
  rw [BitVec.toNat_ushiftRight, word_toNat c2 l2 hl hc, Nat.shiftRight_eq_div_pow]
  have : 2 ^ (64 - l1) = 2 ^ (l2 - l1) * 2 ^ (64 - l2) := by
    rw [← Nat.pow_add]; congr 1; omega
  rw [this, Nat.mul_div_mul_right _ _ (Nat.pow_pos (by omega))]

end Jxl.JpegBits
