import JxlModel.Model.Modular.Narrow
import JxlModel.Proofs.Chan
/-! What the transform-chain theorems of `Props/C03.lean` rest on. Every transform rewrites a window
`[b, b + n)` of the channel list; the list is brought into the form `L ++ (M ++ R)` with
`b = L.length`, `n = M.length` (`exists_window`), on which `simp` computes what the model reads by
position. `Fits`: the channels are those the channel list describes, with full buffers; under it
`transformInfo` accepting a transform gives the structural half of `stepOk` (`step_of_info`). -/
namespace Jxl.Modular

theorem rct_sample_inv_wrap (sb : SBits) (ty : Nat) (t : Int × Int × Int)
    (h : rctTripleOk sb ty t = true) :
    rctInvT (wrap sb) ty (rctFwdT ty t) = t := by
  obtain ⟨d, e, f⟩ := t
  simp only [rctTripleOk, Bool.and_eq_true, Bool.or_eq_true, bne_iff_ne, ne_eq] at h
  obtain ⟨⟨⟨hd, he⟩, hf⟩, hdf⟩ := h
  exact rct_sample_inv_of (wrap sb) ty d e f (wrap_of_inRange hd) (wrap_of_inRange he) (wrap_of_inRange hf)
    (fun h2 => wrap_of_inRange (hdf.resolve_left (not_not_intro h2)))
    (fun _ => wrap_of_inRange (inRange_between hd hf (by omega) (by omega)))

def rctFwdAt (rctType : Nat) (x y z : Chan) (i : Nat) : Int × Int × Int :=
  rctFwdT (rctType % 7) (rctFwdPermute (rctType / 7) (x.data.getD i 0, y.data.getD i 0, z.data.getD i 0))

theorem rctForward_eq (rctType : Nat) (x y z : Chan) :
    rctForward rctType x y z =
      ({ x with data := ((List.range x.data.size).map fun i => (rctFwdAt rctType x y z i).1).toArray },
       { y with data := ((List.range x.data.size).map fun i => (rctFwdAt rctType x y z i).2.1).toArray },
       { z with data := ((List.range x.data.size).map fun i => (rctFwdAt rctType x y z i).2.2).toArray }) := by
  unfold rctForward
  simp only [List.map_map]
  rfl

theorem sqFix_of_sqLineOk (sb : SBits) (line : List Int) (h : sqLineOk sb line = true) :
    SqFix (wrap sb) line := by
  induction line using squeezeAvgs.induct with
  | case1 a b rest ih =>
    simp only [sqLineOk, Bool.and_eq_true] at h
    exact ⟨wrap_of_inRange h.1.1.1, wrap_of_inRange h.1.1.2, wrap_of_inRange h.1.2, ih h.2⟩
  | case2 a => trivial
  | case3 => trivial

theorem unsqueezeLine_squeezeLine (sb : SBits) (line : List Int) (h : sqLineOk sb line = true) :
    unsqueezeLine sb (squeezeLine sb line).1 (squeezeLine sb line).2 = line := by
  unfold unsqueezeLine unsqueezeLineG squeezeLine squeezeLineG
  exact unsqueeze_squeeze_go_of (wrap sb) _ line _ (sqFix_of_sqLineOk sb line h)

theorem squeezeAvgs_length (line : List Int) : (squeezeAvgs line).length = (line.length + 1) / 2 := by
  induction line using squeezeAvgs.induct with
  | case1 a b rest ih => simp only [squeezeAvgs, List.length_cons, ih]; omega
  | case2 a => simp [squeezeAvgs]
  | case3 => simp [squeezeAvgs]

theorem squeezeRes_length (T : Int → Int → Int → Int) (line : List Int) (left : Int) :
    (squeezeRes T line (squeezeAvgs line) left).length = line.length / 2 := by
  induction line using squeezeAvgs.induct generalizing left with
  | case1 a b rest ih => simp only [squeezeAvgs, squeezeRes, List.length_cons, ih]; omega
  | case2 a => simp [squeezeRes]
  | case3 => simp [squeezeRes]

theorem squeezeLine_lengths (sb : SBits) (src : Nat → List Int) (m n : Nat)
    (hlen : ∀ i, (src i).length = n) :
    (∀ r ∈ ((List.range m).map fun i => squeezeLine sb (src i)).map (·.1), r.length = (n + 1) / 2) ∧
    (∀ r ∈ ((List.range m).map fun i => squeezeLine sb (src i)).map (·.2), r.length = n / 2) := by
  constructor
  · intro r hr
    simp only [List.map_map, List.mem_map, List.mem_range, Function.comp] at hr
    obtain ⟨i, _, rfl⟩ := hr
    exact (squeezeAvgs_length _).trans (by rw [hlen])
  · intro r hr
    simp only [List.map_map, List.mem_map, List.mem_range, Function.comp] at hr
    obtain ⟨i, _, rfl⟩ := hr
    exact (squeezeRes_length _ _ _).trans (by rw [hlen])

/-- `mk` / `line` abstract `Chan.ofRows` / `Chan.row` and `Chan.ofCols` / `Chan.col`: one proof for
both squeeze directions -/
theorem unsqueeze_squeeze_lines (sb : SBits) (mk : Nat → List (List Int) → Chan)
    (line : Chan → Nat → List Int)
    (hmk : ∀ k ls i, (∀ l ∈ ls, l.length = k) → i < ls.length → line (mk k ls) i = ls.getD i [])
    (src : Nat → List Int) (m n : Nat) (hlen : ∀ i, (src i).length = n)
    (hok : ∀ i, i < m → sqLineOk sb (src i) = true) :
    ((List.range m).map fun i => unsqueezeLine sb
        (line (mk ((n + 1) / 2) (((List.range m).map fun i => squeezeLine sb (src i)).map (·.1))) i)
        (line (mk (n / 2) (((List.range m).map fun i => squeezeLine sb (src i)).map (·.2))) i))
      = (List.range m).map src := by
  obtain ⟨h1, h2⟩ := squeezeLine_lengths sb src m n hlen
  apply List.map_congr_left
  intro i hi
  have hi' := List.mem_range.mp hi
  rw [hmk _ _ i h1 (by simpa using hi'), hmk _ _ i h2 (by simpa using hi'), List.map_map, List.map_map,
    getD_map_range _ _ _ _ hi', getD_map_range _ _ _ _ hi']
  exact unsqueezeLine_squeezeLine sb (src i) (hok i hi')

theorem squeezeFwdStep_eq (sb : SBits) (chans : List Chan) (sp : SqueezeParam)
    (h : sp.beginC + sp.numC ≤ chans.length) :
    squeezeFwdStep sb chans sp =
      if sp.inPlace then
        chans.take sp.beginC ++ ((chans.drop sp.beginC).take sp.numC).map (fun c => (squeezeChan sb sp.horizontal c).1)
          ++ ((chans.drop sp.beginC).take sp.numC).map (fun c => (squeezeChan sb sp.horizontal c).2)
          ++ chans.drop (sp.beginC + sp.numC)
      else
        chans.take sp.beginC ++ ((chans.drop sp.beginC).take sp.numC).map (fun c => (squeezeChan sb sp.horizontal c).1)
          ++ chans.drop (sp.beginC + sp.numC)
          ++ ((chans.drop sp.beginC).take sp.numC).map (fun c => (squeezeChan sb sp.horizontal c).2) := by
  unfold squeezeFwdStep
  simp only [List.map_map]
  have e1 := map_getD_range_eq_take_drop chans default (fun c => (squeezeChan sb sp.horizontal c).1) _ _ h
  have e2 := map_getD_range_eq_take_drop chans default (fun c => (squeezeChan sb sp.horizontal c).2) _ _ h
  simp only [Function.comp_def]
  rw [e1, e2]

/-- the argument is the layout a forward step leaves (`squeezeFwdStep_eq`): `K` the averages, `Rs`
the residuals -/
theorem squeezeInvStep_splice (sb : SBits) (sp : SqueezeParam) (L K Rs R : List Chan)
    (hL : L.length = sp.beginC) (hK : K.length = sp.numC) (hRs : Rs.length = sp.numC) :
    squeezeInvStep sb (if sp.inPlace then L ++ K ++ Rs ++ R else L ++ K ++ R ++ Rs) sp =
      L ++ (List.range sp.numC).map (fun i => unsqueezeChan sb sp.horizontal
        (K.getD i default) (Rs.getD i default)) ++ R := by
  have hLK : (L ++ K).length = sp.beginC + sp.numC := by rw [List.length_append, hL, hK]
  -- both layouts come down to the averages in place and the residuals apart
  have common : (L ++ K ++ R).take sp.beginC ++ (List.range sp.numC).map (fun i =>
      unsqueezeChan sb sp.horizontal ((L ++ K ++ R).getD (sp.beginC + i) default) (Rs.getD i default)) ++
        (L ++ K ++ R).drop (sp.beginC + sp.numC) =
      L ++ (List.range sp.numC).map (fun i => unsqueezeChan sb sp.horizontal
        (K.getD i default) (Rs.getD i default)) ++ R := by
    rw [List.drop_left' hLK, List.append_assoc L K, List.take_left' hL]
    refine congrArg (L ++ · ++ R) (List.map_congr_left fun i hi => ?_)
    rw [← hL, getD_append_add, getD_append_left _ _ _ _ (hK ▸ List.mem_range.mp hi)]
  refine .trans ?_ common
  unfold squeezeInvStep
  cases sp.inPlace with
  | true =>
    simp only [if_true]
    rw [List.append_assoc (L ++ K) Rs R, List.drop_left' hLK, List.take_left' hLK,
      List.take_left' hRs, ← List.append_assoc (L ++ K) Rs R,
      List.drop_left' (by rw [List.length_append, hLK, hRs])]
  | false =>
    simp only [Bool.false_eq_true, if_false]
    rw [show (L ++ K ++ R ++ Rs).length - sp.numC = (L ++ K ++ R).length by
      rw [List.length_append, hRs, Nat.add_sub_cancel], List.drop_left, List.take_left]

theorem forwardOne_squeeze_eq_fold (sb : SBits) (chans : List Chan) (pal : Option Chan)
    (ps : List SqueezeParam) :
    forwardOne sb chans pal (.squeeze ps) = some (ps.foldl (squeezeFwdStep sb) chans) := rfl

/-- the encoder's search for one pixel (the `find` of `forwardOne`) -/
def palFind (pal : Chan) (srcs : List Chan) (n nbc nbd x y : Nat) : Option Nat :=
  (List.range nbc).find? fun k =>
    decide (nbd ≤ k) && (List.range n).all fun c => (srcs.getD c default).get x y == pal.get k c

theorem palFind_some {pal : Chan} {srcs : List Chan} {n nbc nbd x y k : Nat}
    (h : palFind pal srcs n nbc nbd x y = some k) :
    nbd ≤ k ∧ k < nbc ∧ ∀ c, c < n → (srcs.getD c default).get x y = pal.get k c := by
  unfold palFind at h
  have h1 := List.find?_some h
  have h2 := List.mem_of_find?_eq_some h
  simp only [Bool.and_eq_true, decide_eq_true_eq, List.all_eq_true, List.mem_range, beq_iff_eq] at h1
  exact ⟨h1.1, List.mem_range.mp h2, h1.2⟩

theorem paletteValue_explicit (sb : SBits) (pal : Chan) (nbc bitDepth k c : Nat) (hk : k < nbc) :
    paletteValue sb pal nbc bitDepth (k : Int) c = pal.get k c := by
  unfold paletteValue
  have h1 : (0 : Int) ≤ (k : Int) ∧ (k : Int) < (nbc : Int) := ⟨by omega, by omega⟩
  simp only [h1, and_self, if_true, Int.toNat_natCast]

theorem toArray_map_range {α} (n : Nat) (F : Nat → α) :
    ((List.range n).map F).toArray = Array.ofFn (n := n) fun i => F i := by
  apply Array.ext
  · simp
  · intro i h1 h2
    simp

theorem forwardOne_palette_eq (sb : SBits) (chans : List Chan) (pal c0 : Chan) (b n nbc nbd dp : Nat)
    (hc0 : chans[b]? = some c0) :
    forwardOne sb chans (some pal) (.palette b n nbc nbd dp) =
      if ∀ i, i < c0.w * c0.h →
          (palFind pal ((chans.drop b).take n) n nbc nbd (i % c0.w) (i / c0.w)).isSome then
        some (pal :: (chans.take b ++
          [Chan.ofFn c0.w c0.h fun x y =>
            (((palFind pal ((chans.drop b).take n) n nbc nbd x y).getD 0 : Nat) : Int)] ++ chans.drop (b + n)))
      else none := by
  simp only [forwardOne, hc0, List.map_map, toArray_map_range, List.all_map, List.all_eq_true,
    List.mem_range]
  rfl

/-- Every index the encoder writes is an explicit non-delta entry, so the decoder runs no delta pass
and each expanded value is the table entry, which is the source sample. -/
theorem inverseOne_forwardOne_palette (sb : SBits) (bitDepth : Nat) (wp : Wp) (chans coded : List Chan)
    (pal : Option Chan) (b n nbc nbd dp : Nat) (hok : stepOk sb chans (.palette b n nbc nbd dp) = true)
    (h : forwardOne sb chans pal (.palette b n nbc nbd dp) = some coded) :
    inverseOne sb bitDepth wp coded (.palette b n nbc nbd dp) = chans := by
  simp only [stepOk, palChansOk, Bool.and_eq_true, decide_eq_true_eq] at hok
  obtain ⟨hlen, hok⟩ := hok
  cases hc0 : chans[b]? with
  | none => simp [hc0] at hok
  | some c0 =>
    cases pal with
    | none => simp [forwardOne] at h
    | some pal =>
      rw [forwardOne_palette_eq sb chans pal c0 b n nbc nbd dp hc0] at h
      obtain ⟨L, M, R, rfl, rfl, rfl⟩ := exists_window hlen
      simp only [List.drop_left, List.take_left] at h
      simp [hc0, Chan.sameDims] at hok
      split at h
      · rename_i hsome
        cases h
        generalize hidx : Chan.ofFn c0.w c0.h (fun x y =>
          (((palFind pal M M.length nbc nbd x y).getD 0 : Nat) : Int)) = idx
        have hw : idx.w = c0.w := hidx ▸ rfl
        have hh : idx.h = c0.h := hidx ▸ rfl
        have hpix : ∀ i, i < c0.w * c0.h → ¬ idx.get (i % c0.w) (i / c0.w) < (nbd : Int) ∧
            ∀ c, c < M.length → paletteValue sb pal nbc bitDepth (idx.get (i % c0.w) (i / c0.w)) c =
              (M.getD c default).get (i % c0.w) (i / c0.w) := fun i hi => by
          obtain ⟨k, hk⟩ := Option.isSome_iff_exists.mp (hsome i hi)
          obtain ⟨h1, h2, h3⟩ := palFind_some hk
          rw [← hidx, Chan.get_ofFn _ _ _ _ _ (Nat.mod_lt _ (Nat.pos_of_ne_zero fun h0 => by simp [h0] at hi))
            (Nat.div_lt_of_lt_mul hi), hk]
          exact ⟨by simp only [Option.getD_some]; omega,
            fun c hc => (paletteValue_explicit sb pal nbc bitDepth k c h2).trans (h3 c hc).symm⟩
        have hany : ((List.range (c0.w * c0.h)).any fun i =>
            decide (idx.get (i % c0.w) (i / c0.w) < (nbd : Int))) = false := by
          rw [List.any_eq_false]
          intro i hi
          simpa using (hpix i (List.mem_range.mp hi)).1
        -- the decoder finds `idx` behind `L` and puts the expanded channels in its place
        simp [inverseOne, hw, hh, hany]
        apply List.ext_getElem
        · simp
        · intro c h1 h2
          obtain ⟨hm, hmw, hmh⟩ := hok M[c] (List.getElem_mem h2)
          simp only [List.getElem_map, List.getElem_range]
          rw [← Chan.ofFn_get _ hm, hmw, hmh]
          apply Chan.ofFn_congr
          intro i hi
          rw [(hpix i hi).2 c h2]
          simp [List.getD_eq_getElem?_getD, h2]
      · cases h

theorem inverseAll_cons (sb : SBits) (bitDepth : Nat) (wp : Wp) (t : Transform) (ts : List Transform)
    (coded : List Chan) :
    inverseAll sb bitDepth wp (t :: ts) coded
      = inverseOne sb bitDepth wp (inverseAll sb bitDepth wp ts coded) t := by
  simp [inverseAll, List.foldl_append]

/-- the palette table handed to transform `t` and the tables left for the rest (the `match` of
`forwardAll`) -/
def palSplit : Transform → List Chan → Option Chan × List Chan
  | .palette .., p :: ps => (some p, ps)
  | _, ps => (none, ps)

theorem forwardAll_cons (sb : SBits) (t : Transform) (ts : List Transform) (pals chans : List Chan) :
    forwardAll sb (t :: ts) pals chans =
      match forwardOne sb chans (palSplit t pals).1 t with
      | none => none
      | some chans' => forwardAll sb ts (palSplit t pals).2 chans' := by
  cases t <;> cases pals <;> rfl

theorem chainOk_cons (sb : SBits) (t : Transform) (ts : List Transform) (pals chans : List Chan) :
    chainOk sb (t :: ts) pals chans =
      (stepOk sb chans t &&
        match forwardOne sb chans (palSplit t pals).1 t with
        | none => true
        | some chans' => chainOk sb ts (palSplit t pals).2 chans') := by
  cases t <;> cases pals <;> rfl

theorem squeezeChan_wf (sb : SBits) (hz : Bool) (c : Chan) :
    (squeezeChan sb hz c).1.wf = true ∧ (squeezeChan sb hz c).2.wf = true := by
  cases hz with
  | true =>
    obtain ⟨h1, h2⟩ := squeezeLine_lengths sb c.row c.h c.w (Chan.row_length c)
    exact ⟨Chan.ofRows_wf _ _ h1, Chan.ofRows_wf _ _ h2⟩
  | false => exact ⟨Chan.ofFn_wf _ _ _, Chan.ofFn_wf _ _ _⟩

/-- what the pipeline has to know of a channel, and what the channel list says of it: the
dimensions, and that the buffer is full -/
def Chan.tag (c : Chan) : (Nat × Nat) × Bool := (c.dims, c.wf)
def ChanInfo.tag (i : ChanInfo) : (Nat × Nat) × Bool := (i.dims, true)

/-- The channels are those the channel list describes, with full buffers: `dimsMatch` and `allWf`
as one list equation, which `List.map_append`, `map_take`, `map_drop` carry through whatever a
transform does to the two lists. -/
def Fits (chans : List Chan) (infos : List ChanInfo) : Prop :=
  chans.map Chan.tag = infos.map ChanInfo.tag

theorem fits_iff {chans : List Chan} {infos : List ChanInfo} :
    Fits chans infos ↔ dimsMatch chans infos = true ∧ allWf chans = true := by
  unfold Fits dimsMatch allWf
  induction chans generalizing infos with
  | nil => cases infos <;> simp
  | cons c cs ih =>
    cases infos with
    | nil => simp
    | cons i is =>
      have := @ih is
      simp only [beq_iff_eq] at this
      simp [Chan.tag, ChanInfo.tag, this, and_assoc, and_left_comm]

theorem Fits.length {chans : List Chan} {infos : List ChanInfo} (h : Fits chans infos) :
    chans.length = infos.length := by
  simpa using congrArg List.length h

theorem Fits.wf {chans : List Chan} {infos : List ChanInfo} (h : Fits chans infos) {c : Chan}
    (hc : c ∈ chans) : c.wf = true :=
  List.all_eq_true.mp (fits_iff.mp h).2 c hc

theorem Chan.of_tag {c : Chan} {i : ChanInfo} (h : c.tag = i.tag) :
    c.w = i.w ∧ c.h = i.h ∧ c.wf = true ∧ c.data.size = i.w * i.h := by
  simp [Chan.tag, ChanInfo.tag, Chan.dims, ChanInfo.dims] at h
  have := h.2
  simp only [Chan.wf, beq_iff_eq, h.1.1, h.1.2] at this
  exact ⟨h.1.1, h.1.2, h.2, this⟩

theorem rctForward_tag (t : Nat) (x y z : Chan) (hxy : x.data.size = y.data.size) (hxz : x.data.size = z.data.size) :
    (rctForward t x y z).1.tag = x.tag ∧ (rctForward t x y z).2.1.tag = y.tag ∧
      (rctForward t x y z).2.2.tag = z.tag := by
  rw [rctForward_eq]
  simp [Chan.tag, Chan.dims, Chan.wf, ← hxy, ← hxz]

/-- the test `transformInfo` applies to the channels after the first of an RCT or a palette, read
on the list of tags, where `Fits` rewrites it into a statement about the channels -/
theorem tag_window {infos : List ChanInfo} {b n : Nat} {c0 : ChanInfo} (hlen : b + n ≤ infos.length)
    (hc0 : infos[b]? = some c0)
    (h : (((infos.drop (b + 1)).take (n - 1)).all fun c => c.w == c0.w ∧ c.h == c0.h) = true) :
    ((infos.map ChanInfo.tag).drop b).take n = List.replicate n c0.tag := by
  obtain ⟨L, M, R, rfl, rfl, rfl⟩ := exists_window hlen
  cases M with
  | nil => simp
  | cons c M =>
    simp at hc0 h
    subst hc0
    simpa [List.eq_replicate_iff, ChanInfo.tag, ChanInfo.dims] using h

theorem ok_of_guard {ε α} {c : Prop} [Decidable c] {e : ε} {k : Except ε α} {v : α}
    (h : (if c then .error e else k) = .ok v) : ¬c ∧ k = .ok v := by
  by_cases hc : c
  · rw [if_pos hc] at h
    cases h
  · rw [if_neg hc] at h
    exact ⟨hc, h⟩

theorem transformInfo_rct_ok {cl cl' : ChanList} {b ty : Nat} {t' : Transform}
    (hti : transformInfo cl (.rct b ty) = .ok (cl', t')) :
    t' = .rct b ty ∧ cl' = cl ∧ b + 3 ≤ cl.info.length ∧
      ∃ c0 : ChanInfo, ((cl.info.map ChanInfo.tag).drop b).take 3 = List.replicate 3 c0.tag := by
  obtain ⟨h1, hti⟩ := ok_of_guard hti
  cases hc0 : cl.info[b]? with
  | none => rw [hc0] at hti; cases hti
  | some c0 =>
    rw [hc0] at hti
    simp only [] at hti
    split at hti
    · rename_i hall
      cases hti
      exact ⟨rfl, rfl, by omega, c0, tag_window (by omega) hc0 hall⟩
    · cases hti

/-- the structural half of `stepOk` for an RCT: the three channels exist and have equally many
samples -/
theorem rct_step_of_info (sb : SBits) {cl cl' : ChanList} {b ty : Nat} {t' : Transform} {chans : List Chan}
    (pal : Option Chan) (hti : transformInfo cl (.rct b ty) = .ok (cl', t')) (hf : Fits chans cl.info) :
    t' = .rct b ty ∧ cl' = cl ∧
      (stepRangeOk sb chans (.rct b ty) = true → stepOk sb chans (.rct b ty) = true) ∧
      ∀ coded, forwardOne sb chans pal (.rct b ty) = some coded →
        coded.map Chan.tag = chans.map Chan.tag := by
  obtain ⟨rfl, rfl, hlen, c0, hwin⟩ := transformInfo_rct_ok hti
  rw [← hf] at hwin
  obtain ⟨L, M, R, rfl, rfl, hM⟩ :=
    exists_window (show b + 3 ≤ chans.length by rw [hf.length]; exact hlen)
  match M, hM with
  | [x, y, z], _ =>
    simp [List.replicate] at hwin
    have hs : x.data.size = y.data.size ∧ x.data.size = z.data.size := by
      rw [(Chan.of_tag hwin.1).2.2.2, (Chan.of_tag hwin.2.1).2.2.2, (Chan.of_tag hwin.2.2).2.2.2]
      exact ⟨rfl, rfl⟩
    refine ⟨rfl, rfl, fun hr => ?_, fun coded hfw => ?_⟩
    · simp [stepOk, stepRangeOk, rctChanOk] at hr ⊢
      exact ⟨hs, hr⟩
    · simp [forwardOne] at hfw
      subst hfw
      simpa using rctForward_tag ty x y z hs.1 hs.2

theorem transformInfo_palette_ok {cl cl' : ChanList} {b n nbc nbd dp : Nat} {t' : Transform}
    (hti : transformInfo cl (.palette b n nbc nbd dp) = .ok (cl', t')) :
    t' = .palette b n nbc nbd dp ∧ b + n ≤ cl.info.length ∧
    ∃ c0, cl.info[b]? = some c0 ∧
      ((cl.info.map ChanInfo.tag).drop b).take n = List.replicate n c0.tag ∧
      cl'.info = { w := nbc, h := n, hshift := -1, vshift := -1 } ::
        (cl.info.take (b + 1) ++ cl.info.drop (b + n)) := by
  obtain ⟨h1, hti⟩ := ok_of_guard hti
  obtain ⟨_, hti⟩ := ok_of_guard hti
  cases hc0 : cl.info[b]? with
  | none => rw [hc0] at hti; cases hti
  | some c0 =>
    rw [hc0] at hti
    simp only [] at hti
    split at hti
    · rename_i hall
      cases hti
      exact ⟨rfl, by omega, c0, rfl, tag_window (by omega) hc0 hall, rfl⟩
    · cases hti

/-- `stepOk` holds outright: the palette round trip needs no condition on sample values -/
theorem palette_step_of_info (sb : SBits) {cl cl' : ChanList} {b n nbc nbd dp : Nat} {t' : Transform}
    {chans : List Chan} (pal : Option Chan)
    (hti : transformInfo cl (.palette b n nbc nbd dp) = .ok (cl', t')) (hf : Fits chans cl.info) :
    t' = .palette b n nbc nbd dp ∧ stepOk sb chans (.palette b n nbc nbd dp) = true ∧
      (palTableOk pal (.palette b n nbc nbd dp) = true →
        ∀ coded, forwardOne sb chans pal (.palette b n nbc nbd dp) = some coded → Fits coded cl'.info) := by
  obtain ⟨rfl, hlen, c0, hc0, hwin, hinfo⟩ := transformInfo_palette_ok hti
  -- `cb`: the channel at `b`, whose dimensions the index channel takes (also when `n = 0`)
  have hcb := congrArg (·[b]?) hf
  simp only [List.getElem?_map, hc0, Option.map_some, Option.map_eq_some_iff] at hcb
  obtain ⟨cb, hcb, hd0⟩ := hcb
  have hinfo' : cl'.info.map ChanInfo.tag =
      ((nbc, n), true) :: ((chans.take b).map Chan.tag ++ cb.tag :: (chans.drop (b + n)).map Chan.tag) := by
    simp [hinfo, List.take_add_one, hc0, hd0, ChanInfo.tag, ChanInfo.dims]
    rw [hf]
  rw [← hf] at hwin
  obtain ⟨L, M, R, rfl, rfl, rfl⟩ :=
    exists_window (show b + n ≤ chans.length by rw [hf.length]; exact hlen)
  simp [List.eq_replicate_iff] at hwin
  obtain ⟨hbw, hbh, hbwf, _⟩ := Chan.of_tag hd0
  refine ⟨rfl, ?_, fun hpal coded hfw => ?_⟩
  · simp [stepOk, palChansOk, hcb, Chan.sameDims]
    intro c hc
    obtain ⟨hcw, hch, hcwf, _⟩ := Chan.of_tag (hwin c hc)
    exact ⟨hcwf, by rw [hcw, hbw], by rw [hch, hbh]⟩
  · cases pal with
    | none => simp [palTableOk] at hpal
    | some p =>
      simp [palTableOk] at hpal
      rw [forwardOne_palette_eq sb _ p cb _ _ nbc nbd dp hcb] at hfw
      split at hfw
      · cases hfw
        unfold Fits
        rw [hinfo']
        simp [Chan.tag, Chan.dims, hpal, hbwf, Chan.ofFn_wf]
        exact ⟨rfl, rfl⟩
      · cases hfw

/-- tags of the averages / residuals of a squeeze step (`Squeeze::transform_channel_info`) -/
def sqKeptTag (hz : Bool) (t : (Nat × Nat) × Bool) : (Nat × Nat) × Bool :=
  (if hz then ((t.1.1 + 1) / 2, t.1.2) else (t.1.1, (t.1.2 + 1) / 2), true)
def sqResTag (hz : Bool) (t : (Nat × Nat) × Bool) : (Nat × Nat) × Bool :=
  (if hz then (t.1.1 / 2, t.1.2) else (t.1.1, t.1.2 / 2), true)

theorem squeezeChan_tag (sb : SBits) (hz : Bool) (c : Chan) :
    (squeezeChan sb hz c).1.tag = sqKeptTag hz c.tag ∧ (squeezeChan sb hz c).2.tag = sqResTag hz c.tag := by
  obtain ⟨w1, w2⟩ := squeezeChan_wf sb hz c
  refine ⟨Prod.ext ?_ w1, Prod.ext ?_ w2⟩ <;> cases hz <;>
    simp only [Chan.tag, squeezeChan, Chan.ofRows, Chan.ofCols, Chan.ofFn, Chan.dims, sqKeptTag, sqResTag,
      List.length_map, List.length_range, if_true, Bool.false_eq_true, if_false]

def sqKeptInfo (hz : Bool) (c : ChanInfo) : ChanInfo :=
  if hz then { c with w := (c.w + 1) / 2, hshift := if c.hshift ≥ 0 then c.hshift + 1 else c.hshift }
  else { c with h := (c.h + 1) / 2, vshift := if c.vshift ≥ 0 then c.vshift + 1 else c.vshift }
def sqResInfo (hz : Bool) (c : ChanInfo) : ChanInfo :=
  if hz then { c with w := c.w / 2, hshift := if c.hshift ≥ 0 then c.hshift + 1 else c.hshift }
  else { c with h := c.h / 2, vshift := if c.vshift ≥ 0 then c.vshift + 1 else c.vshift }

theorem sqKeptInfo_tag (hz : Bool) (c : ChanInfo) : (sqKeptInfo hz c).tag = sqKeptTag hz c.tag := by
  cases hz <;> simp [sqKeptInfo, sqKeptTag, ChanInfo.tag, ChanInfo.dims]
theorem sqResInfo_tag (hz : Bool) (c : ChanInfo) : (sqResInfo hz c).tag = sqResTag hz c.tag := by
  cases hz <;> simp [sqResInfo, sqResTag, ChanInfo.tag, ChanInfo.dims]

theorem squeezeStepInfo_ok {cl cl' : ChanList} {sp : SqueezeParam}
    (h : squeezeStepInfo cl sp = .ok cl') :
    sp.beginC + sp.numC ≤ cl.info.length ∧
    cl'.info =
      if sp.inPlace then
        cl.info.take sp.beginC ++ ((cl.info.drop sp.beginC).take sp.numC).map (sqKeptInfo sp.horizontal)
          ++ ((cl.info.drop sp.beginC).take sp.numC).map (sqResInfo sp.horizontal)
          ++ cl.info.drop (sp.beginC + sp.numC)
      else
        cl.info.take sp.beginC ++ ((cl.info.drop sp.beginC).take sp.numC).map (sqKeptInfo sp.horizontal)
          ++ cl.info.drop (sp.beginC + sp.numC)
          ++ ((cl.info.drop sp.beginC).take sp.numC).map (sqResInfo sp.horizontal) := by
  obtain ⟨h1, h⟩ := ok_of_guard h
  obtain ⟨_, h⟩ := ok_of_guard h
  obtain ⟨_, h⟩ := ok_of_guard h
  cases h
  exact ⟨by omega, rfl⟩

theorem squeezeInfo_cons_ok {cl cl' : ChanList} {sp : SqueezeParam} {ps : List SqueezeParam}
    (h : squeezeInfo cl (sp :: ps) = .ok cl') :
    ∃ cl1, squeezeStepInfo cl sp = .ok cl1 ∧ squeezeInfo cl1 ps = .ok cl' := by
  unfold squeezeInfo at h
  split at h
  · cases h
  · rename_i cl1 h1
    exact ⟨cl1, h1, h⟩

theorem transformInfo_squeeze_ok {cl cl' : ChanList} {ps : List SqueezeParam} {t' : Transform}
    (hti : transformInfo cl (.squeeze ps) = .ok (cl', t')) :
    ∃ ps', t' = .squeeze ps' ∧ squeezeInfo cl ps' = .ok cl' := by
  unfold transformInfo at hti
  simp only [] at hti
  split at hti
  · cases hti
  · rename_i h1
    cases hti
    exact ⟨_, rfl, h1⟩

theorem map_map_comm {α β γ δ} (f : α → β) (g : β → δ) (g' : α → γ) (f' : γ → δ)
    (h : ∀ a, g (f a) = f' (g' a)) (l : List α) : (l.map f).map g = (l.map g').map f' := by
  simp only [List.map_map]
  exact List.map_congr_left fun a _ => h a

theorem squeezeFwdStep_fits (sb : SBits) {cl cl' : ChanList} {sp : SqueezeParam} {chans : List Chan}
    (h : squeezeStepInfo cl sp = .ok cl') (hf : Fits chans cl.info) :
    sp.beginC + sp.numC ≤ chans.length ∧ Fits (squeezeFwdStep sb chans sp) cl'.info := by
  obtain ⟨hlen, hinfo⟩ := squeezeStepInfo_ok h
  have hlen' : sp.beginC + sp.numC ≤ chans.length := by rw [hf.length]; exact hlen
  refine ⟨hlen', ?_⟩
  unfold Fits at hf ⊢
  rw [squeezeFwdStep_eq sb chans sp hlen', hinfo]
  cases sp.inPlace <;>
    simp only [Bool.false_eq_true, if_false, if_true, List.map_append, List.map_take, List.map_drop,
      map_map_comm _ _ _ _ (fun c => (squeezeChan_tag sb sp.horizontal c).1),
      map_map_comm _ _ _ _ (fun c => (squeezeChan_tag sb sp.horizontal c).2),
      map_map_comm _ _ _ _ (sqKeptInfo_tag sp.horizontal),
      map_map_comm _ _ _ _ (sqResInfo_tag sp.horizontal), hf]

theorem squeeze_fold_of_info (sb : SBits) (ps : List SqueezeParam) {cl cl' : ChanList} {chans : List Chan}
    (h : squeezeInfo cl ps = .ok cl') (hf : Fits chans cl.info) :
    (sqStepsRangeOk sb ps chans = true → sqStepsOk sb ps chans = true) ∧
      Fits (ps.foldl (squeezeFwdStep sb) chans) cl'.info := by
  induction ps generalizing cl chans with
  | nil =>
    cases h
    exact ⟨fun _ => rfl, hf⟩
  | cons sp ps ih =>
    obtain ⟨cl1, h1, h2⟩ := squeezeInfo_cons_ok h
    obtain ⟨hlen, f1⟩ := squeezeFwdStep_fits sb h1 hf
    obtain ⟨ihr, ihf⟩ := ih h2 f1
    refine ⟨fun hr => ?_, ihf⟩
    simp only [sqStepsRangeOk, Bool.and_eq_true] at hr
    simp only [sqStepsOk, sqStepOk, Bool.and_eq_true, decide_eq_true_eq]
    refine ⟨⟨hlen, ?_⟩, ihr hr.2⟩
    apply List.all_eq_true.mpr
    intro c hc
    simp only [sqChanOk, Bool.and_eq_true]
    exact ⟨hf.wf (List.mem_of_mem_drop (List.mem_of_mem_take hc)), List.all_eq_true.mp hr.1 c hc⟩

theorem step_of_info (sb : SBits) {cl cl' : ChanList} {t t' : Transform} {chans : List Chan}
    (pal : Option Chan) (hti : transformInfo cl t = .ok (cl', t')) (hf : Fits chans cl.info) :
    (stepRangeOk sb chans t' = true → stepOk sb chans t' = true) ∧
    (palTableOk pal t' = true → ∀ coded, forwardOne sb chans pal t' = some coded → Fits coded cl'.info) := by
  cases t with
  | rct b ty =>
    obtain ⟨rfl, rfl, h1, h2⟩ := rct_step_of_info sb pal hti hf
    exact ⟨h1, fun _ coded hfw => (h2 coded hfw).trans hf⟩
  | palette b n nbc nbd dp =>
    obtain ⟨rfl, h1, h2⟩ := palette_step_of_info sb pal hti hf
    exact ⟨fun _ => h1, h2⟩
  | squeeze ps =>
    obtain ⟨ps', rfl, h1⟩ := transformInfo_squeeze_ok hti
    obtain ⟨h2, h3⟩ := squeeze_fold_of_info sb ps' h1 hf
    exact ⟨h2, fun _ coded hfw => by cases hfw; exact h3⟩

theorem transformInfoAll_cons_ok {cl cl' : ChanList} {t : Transform} {ts ts' : List Transform}
    (h : transformInfoAll cl (t :: ts) = .ok (cl', ts')) :
    ∃ cl1 t1 ts1, transformInfo cl t = .ok (cl1, t1) ∧ transformInfoAll cl1 ts = .ok (cl', ts1) ∧
      ts' = t1 :: ts1 := by
  unfold transformInfoAll at h
  split at h
  · cases h
  · rename_i cl1 t1 h1
    split at h
    · cases h
    · rename_i ts1 h2
      cases h
      exact ⟨cl1, t1, ts1, h1, h2, rfl⟩

theorem palTablesOk_cons (t : Transform) (ts : List Transform) (pals : List Chan)
    (h : palTablesOk (t :: ts) pals = true) :
    palTableOk (palSplit t pals).1 t = true ∧ palTablesOk ts (palSplit t pals).2 = true := by
  cases t <;> cases pals <;> simp_all [palTablesOk, palSplit, palTableOk]

theorem chainRangeOk_cons (sb : SBits) (t : Transform) (ts : List Transform) (pals chans : List Chan) :
    chainRangeOk sb (t :: ts) pals chans =
      (stepRangeOk sb chans t &&
        match forwardOne sb chans (palSplit t pals).1 t with
        | none => true
        | some chans' => chainRangeOk sb ts (palSplit t pals).2 chans') := by
  cases t <;> cases pals <;> rfl

theorem chain_of_info (sb : SBits) (ts : List Transform) (cl cl' : ChanList) (ts' : List Transform)
    (pals chans : List Chan)
    (hti : transformInfoAll cl ts = .ok (cl', ts')) (hf : Fits chans cl.info)
    (hpals : palTablesOk ts' pals = true) :
    (chainRangeOk sb ts' pals chans = true → chainOk sb ts' pals chans = true) ∧
    (∀ coded, forwardAll sb ts' pals chans = some coded → Fits coded cl'.info) := by
  induction ts generalizing cl ts' pals chans with
  | nil =>
    cases hti
    exact ⟨fun _ => rfl, fun coded hfw => by cases hfw; exact hf⟩
  | cons t ts ih =>
    obtain ⟨cl1, t1, ts1, h1, h2, rfl⟩ := transformInfoAll_cons_ok hti
    obtain ⟨hp1, hp2⟩ := palTablesOk_cons _ _ _ hpals
    rw [chainRangeOk_cons, chainOk_cons, forwardAll_cons]
    obtain ⟨hs1, hs2⟩ := step_of_info sb (palSplit t1 pals).1 h1 hf
    cases hf1 : forwardOne sb chans (palSplit t1 pals).1 t1 with
    | none =>
      refine ⟨fun hr => ?_, fun coded hfw => by cases hfw⟩
      rw [Bool.and_eq_true] at hr ⊢
      exact ⟨hs1 hr.1, rfl⟩
    | some chans1 =>
      obtain ⟨ihr, ihf⟩ := ih cl1 ts1 _ chans1 h2 (hs2 hp1 chans1 hf1) hp2
      refine ⟨fun hr => ?_, ihf⟩
      rw [Bool.and_eq_true] at hr ⊢
      exact ⟨hs1 hr.1, ihr hr.2⟩

theorem chainOk_of_range (sb : SBits) (ts : List Transform) (cl cl' : ChanList) (ts' : List Transform)
    (pals chans : List Chan)
    (hti : transformInfoAll cl ts = .ok (cl', ts'))
    (hd : dimsMatch chans cl.info = true) (hwf : allWf chans = true)
    (hpals : palTablesOk ts' pals = true)
    (hr : chainRangeOk sb ts' pals chans = true) :
    chainOk sb ts' pals chans = true :=
  (chain_of_info sb ts cl cl' ts' pals chans hti (fits_iff.mpr ⟨hd, hwf⟩) hpals).1 hr

/-- the range at `sb` bits is twice the headroom range, so it holds sums and differences -/
theorem inRange_add_of_headroom {sb : Nat} {a b : Int} (ha : inHeadroom sb a = true)
    (hb : inHeadroom sb b = true) :
    inRange sb a = true ∧ inRange sb (a + b) = true ∧ inRange sb (a - b) = true := by
  simp only [inHeadroom, inRange, Bool.and_eq_true, decide_eq_true_eq] at ha hb ⊢
  obtain ⟨⟨h2, h3⟩, h4⟩ := ha
  obtain ⟨⟨_, h5⟩, h6⟩ := hb
  have h2 : @LE.le Nat _ 2 sb := h2
  have hp : (2 : Int) ^ (sb - 1) = 2 * (2 : Int) ^ (sb - 2) := by
    have : sb - 1 = (sb - 2) + 1 := by omega
    rw [this, Int.pow_succ]; omega
  have hs : @LT.lt Nat _ 0 sb := by omega
  refine ⟨⟨⟨hs, ?_⟩, ?_⟩, ⟨⟨hs, ?_⟩, ?_⟩, ⟨⟨hs, ?_⟩, ?_⟩⟩ <;> omega

theorem inRange_of_headroom {sb : Nat} {v : Int} (h : inHeadroom sb v = true) : inRange sb v = true :=
  (inRange_add_of_headroom h h).1

theorem rctTripleOk_of_headroom (sb : SBits) (ty : Nat) (t : Int × Int × Int)
    (h1 : inHeadroom sb t.1 = true) (h2 : inHeadroom sb t.2.1 = true) (h3 : inHeadroom sb t.2.2 = true) :
    rctTripleOk sb ty t = true := by
  simp only [rctTripleOk, Bool.and_eq_true, Bool.or_eq_true]
  exact ⟨⟨⟨inRange_of_headroom h1, inRange_of_headroom h2⟩, inRange_of_headroom h3⟩,
    Or.inr (inRange_add_of_headroom h1 h3).2.1⟩

theorem sqLineOk_of_headroom (sb : SBits) (line : List Int) (h : line.all (inHeadroom sb) = true) :
    sqLineOk sb line = true := by
  induction line using squeezeAvgs.induct with
  | case1 a b rest ih =>
    simp only [List.all_cons, Bool.and_eq_true] at h
    simp only [sqLineOk, Bool.and_eq_true]
    exact ⟨⟨⟨inRange_of_headroom h.1, inRange_of_headroom h.2.1⟩, (inRange_add_of_headroom h.1 h.2.1).2.2⟩,
      ih h.2.2⟩
  | case2 a => rfl
  | case3 => rfl

/-- `forwardOne … (.palette b n nbc nbd dp)` before the repair (finding on the reference encoder,
`C03_palette_forward_needs_nondelta`): the search ignored `nbDeltas` and started at entry 0 -/
def forwardPaletteOld (chans : List Chan) (pal : Option Chan) (b n nbc : Nat) : Option (List Chan) :=
  match pal, chans[b]? with
  | some pal, some c0 =>
    let srcs := (chans.drop b).take n
    let find := fun (x y : Nat) =>
      (List.range nbc).find? fun k => (List.range n).all fun c => (srcs.getD c default).get x y == pal.get k c
    let idxs := (List.range (c0.w * c0.h)).map fun i => find (i % c0.w) (i / c0.w)
    if idxs.all Option.isSome then
      let idx : Chan := { w := c0.w, h := c0.h, data := (idxs.map fun o => ((o.getD 0 : Nat) : Int)).toArray }
      some (pal :: (chans.take b ++ [idx] ++ chans.drop (b + n)))
    else none
  | _, _ => none

end Jxl.Modular
