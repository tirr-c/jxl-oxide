import JxlModel.Model.Modular.Tree
import JxlModel.Proofs.Util
/-! Flattened MA tree, what `Proofs/TableCompile.lean` and `Proofs/Flatten.lean` share: static-property
substitution; `Tree.next` preserves `Tree.evalFor`, removes static decisions and does not grow the
tree; the fuel weight `wt`; the children `kids` the flattener enqueues for a fused node. -/
namespace Jxl.Modular

variable (c s pc : Nat)

/-- the property function the Spec evaluation uses: static properties substituted -/
def specProps (props : Nat → Int) (k : Nat) : Int :=
  if k == 0 then c else if k == 1 then s
  else if k ≥ 16 ∧ (k - 16) / 4 ≥ pc then 0 else props k

theorem evalFor_eq (props : Nat → Int) (t : Tree) :
    t.evalFor c s pc props = t.eval (specProps c s pc props) := rfl

def isStatic (p : Nat) : Bool := p == 0 || p == 1 || (decide (p ≥ 16) && decide ((p - 16) / 4 ≥ pc))

def staticVal (p : Nat) : Int := if p == 0 then c else if p == 1 then s else 0

theorem specProps_eq (props : Nat → Int) (p : Nat) :
    specProps c s pc props p = if isStatic pc p then staticVal c s p else props p := by
  unfold specProps isStatic staticVal
  by_cases h0 : p = 0
  · simp [h0]
  · by_cases h1 : p = 1
    · simp [h1]
    · by_cases h2 : p ≥ 16 ∧ (p - 16) / 4 ≥ pc <;> simp [h0, h1, h2]

theorem next_dec (p : Nat) (v : Int) (l r : Tree) :
    (Tree.dec p v l r).next c s pc =
      if isStatic pc p then
        if staticVal c s p > v then l.next c s pc else r.next c s pc
      else .dec p v l r := by
  rw [Tree.next]
  unfold isStatic staticVal
  by_cases h0 : p = 0
  · subst h0; rfl
  · by_cases h1 : p = 1
    · subst h1; rfl
    · by_cases h2 : p ≥ 16 ∧ (p - 16) / 4 ≥ pc <;> simp [h0, h1, h2]

theorem evalFor_next (props : Nat → Int) (t : Tree) :
    (t.next c s pc).evalFor c s pc props = t.evalFor c s pc props := by
  simp only [evalFor_eq]
  induction t with
  | leaf l => rfl
  | dec p v l r ihl ihr =>
    rw [next_dec, Tree.eval]
    split
    · rw [specProps_eq, if_pos (‹_› : isStatic pc p = true)]
      split
      · exact ihl
      · exact ihr
    · rfl

theorem next_nonstatic (t : Tree) (p : Nat) (v : Int) (l r : Tree)
    (h : t.next c s pc = .dec p v l r) : isStatic pc p = false := by
  induction t with
  | leaf l0 => simp [Tree.next] at h
  | dec p0 v0 l0 r0 ihl ihr =>
    rw [next_dec] at h
    split at h
    · split at h
      · exact ihl h
      · exact ihr h
    · injection h with hp
      rw [← hp]
      exact Bool.eq_false_iff.2 ‹_›

theorem evalFor_dec (props : Nat → Int) (p : Nat) (v : Int) (l r : Tree) (hp : isStatic pc p = false) :
    Tree.evalFor c s pc props (.dec p v l r) =
      if props p > v then Tree.evalFor c s pc props l else Tree.evalFor c s pc props r := by
  simp only [evalFor_eq, Tree.eval, specProps_eq, hp, Bool.false_eq_true, if_false]

theorem evalFor_of_next_dec (props : Nat → Int) {t l r : Tree} {p : Nat} {v : Int}
    (hn : t.next c s pc = .dec p v l r) :
    Tree.evalFor c s pc props t =
      if props p > v then Tree.evalFor c s pc props l else Tree.evalFor c s pc props r := by
  rw [← evalFor_next c s pc props t, hn,
    evalFor_dec c s pc props p v l r (next_nonstatic c s pc t p v l r hn)]

def AllSub (P : Tree → Prop) : Tree → Prop
  | .leaf l => P (.leaf l)
  | .dec p v l r => P (.dec p v l r) ∧ AllSub P l ∧ AllSub P r

theorem AllSub_self (P : Tree → Prop) (t : Tree) (h : AllSub P t) : P t := by
  cases t with
  | leaf l => exact h
  | dec p v l r => exact h.1

theorem AllSub_imp (P Q : Tree → Prop) (hPQ : ∀ t, P t → Q t) (t : Tree) (h : AllSub P t) :
    AllSub Q t := by
  induction t with
  | leaf l => exact hPQ _ h
  | dec p v l r ihl ihr => exact ⟨hPQ _ h.1, ihl h.2.1, ihr h.2.2⟩

theorem AllSub_next (P : Tree → Prop) (t : Tree) (h : AllSub P t) : AllSub P (t.next c s pc) := by
  induction t with
  | leaf l => exact h
  | dec p v l r ihl ihr =>
    rw [next_dec]
    split
    · split
      · exact ihl h.2.1
      · exact ihr h.2.2
    · exact h

theorem AllSub_of_next_dec {P : Tree → Prop} {t l r : Tree} {p : Nat} {v : Int}
    (hn : t.next c s pc = .dec p v l r) (h : AllSub P t) : AllSub P l ∧ AllSub P r :=
  (hn ▸ AllSub_next c s pc P t h).2

/-- fuel weight of a queued tree. Not `size`: `kids` enqueues a leaf child twice, so a decision on
two leaves (size 3) hands on four trees of size 1; with `2 * size - 1` the weight still drops
(`kids_next_wt`). -/
def wt (t : Tree) : Nat := 2 * t.size - 1
def wts (q : List Tree) : Nat := (q.map wt).sum

theorem size_pos (t : Tree) : 1 ≤ t.size := by cases t <;> simp [Tree.size] <;> omega

theorem next_size_le (t : Tree) : (t.next c s pc).size ≤ t.size := by
  induction t with
  | leaf l => exact Nat.le_refl _
  | dec p v l r ihl ihr =>
    rw [next_dec, Tree.size]
    split
    · split <;> omega
    · exact Nat.le_refl _

theorem wt_pos (t : Tree) : 1 ≤ wt t := by have := size_pos t; unfold wt; omega

theorem wt_next_le (t : Tree) : wt (t.next c s pc) ≤ wt t := by
  have := next_size_le c s pc t
  unfold wt; omega

theorem wt_dec (p : Nat) (v : Int) (l r : Tree) : wt (.dec p v l r) = wt l + wt r + 3 := by
  have := size_pos l; have := size_pos r
  simp only [wt, Tree.size]; omega

theorem wt_of_next_dec {t l r : Tree} {p : Nat} {v : Int} (hn : t.next c s pc = .dec p v l r) :
    wt l + wt r + 3 ≤ wt t := by
  have h := wt_next_le c s pc t
  rwa [hn, wt_dec] at h

theorem wts_cons (t : Tree) (q : List Tree) : wts (t :: q) = wt t + wts q := by simp [wts]
theorem wts_append (a b : List Tree) : wts (a ++ b) = wts a + wts b := by simp [wts]

/-- children of a (non-static) subtree root, as the flattener enqueues them -/
def kids (t : Tree) : Nat × Int × Tree × Tree :=
  match t with
  | .dec p v a b => (p, v, a, b)
  | n => (0, 0, n, n)

theorem kids_next_wt (t : Tree) :
    wt (kids (t.next c s pc)).2.2.1 + wt (kids (t.next c s pc)).2.2.2 ≤ wt t + 1 := by
  have h1 := next_size_le c s pc t
  unfold wt
  generalize t.next c s pc = u at h1 ⊢
  cases u with
  | leaf l => simp only [kids, Tree.size] at h1 ⊢; omega
  | dec p v a b => simp only [kids, Tree.size] at h1 ⊢; omega

theorem evalFor_kids (props : Nat → Int) (u : Tree) (hns : ∀ p v a b, u = .dec p v a b → isStatic pc p = false) :
    Tree.evalFor c s pc props u =
      (if props (kids u).1 ≤ (kids u).2.1 then Tree.evalFor c s pc props (kids u).2.2.2 else Tree.evalFor c s pc props (kids u).2.2.1) := by
  cases u with
  | leaf l => exact (ite_self _).symm
  | dec p v a b =>
    show _ = if props p ≤ v then Tree.evalFor c s pc props b else Tree.evalFor c s pc props a
    rw [evalFor_dec c s pc props p v a b (hns p v a b rfl)]
    by_cases h : props p > v
    · rw [if_pos h, if_neg (by omega)]
    · rw [if_neg h, if_pos (by omega)]

theorem AllSub_kids (P : Tree → Prop) (u : Tree) (h : AllSub P u) :
    AllSub P (kids u).2.2.1 ∧ AllSub P (kids u).2.2.2 := by
  cases u with
  | leaf l => exact ⟨h, h⟩
  | dec p v a b => exact ⟨h.2.1, h.2.2⟩

end Jxl.Modular
