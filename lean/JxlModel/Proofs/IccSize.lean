import JxlModel.Model.Icc
/-!
C18: whatever `decodeIcc` does on an arbitrary stream, a success has the declared size and a
failure is never the model's own `fuel` error.
-/
namespace Jxl.Icc

/-! `fuel` is raised only by the two loops when their counter reaches 0. Both start with one more
than the number of command bytes, every round consumes the command byte it dispatches on, and no
step gives back more command bytes than it was handed. -/

/-- `r` is a success satisfying `P`, or an error other than `fuel`. `P` is what a success of that
function guarantees: for the steps "at most as many command bytes left as handed in" (what the
loops need to outrun their fuel), for `tagStep` also that the entry lies inside the profile, for
`decodeMain` … `decodeIcc` "the result has the size asked for", which `decodeIcc` only accepts
up to 2^28. -/
def Outcome {α : Type} (P : α → Prop) : Except ErrKind α → Prop
  | .ok a => P a
  | .error e => e ≠ .fuel

theorem Outcome.of_ok {α : Type} {P : α → Prop} {a : α} (h : P a) : Outcome P (.ok a) := h

theorem Outcome.of_error {α : Type} {P : α → Prop} {e : ErrKind} (h : e ≠ .fuel) :
    Outcome P (.error e) := h

theorem Outcome.ite {α : Type} {P : α → Prop} {c : Prop} [Decidable c] {a b : Except ErrKind α}
    (ha : c → Outcome P a) (hb : ¬c → Outcome P b) : Outcome P (if c then a else b) := by
  split
  · exact ha ‹_›
  · exact hb ‹_›

theorem Outcome.of_eq_ok {α : Type} {P : α → Prop} {r : Except ErrKind α} {a : α} (h : Outcome P r)
    (hr : r = .ok a) : P a := by
  rw [hr] at h
  exact h

theorem Outcome.ne_fuel {α : Type} {P : α → Prop} {r : Except ErrKind α} (h : Outcome P r) :
    r ≠ .error .fuel := by
  intro hr
  rw [hr] at h
  exact h rfl

theorem Outcome.mono {α : Type} {P Q : α → Prop} {r : Except ErrKind α} (h : Outcome P r)
    (hPQ : ∀ a, P a → Q a) : Outcome Q r := by
  cases r with
  | error e => exact h
  | ok a => exact hPQ a h

theorem readVarintAux_outcome (it shift acc : Nat) (s : List Nat) :
    Outcome (fun p => p.2.length ≤ s.length) (readVarintAux it shift acc s) := by
  fun_induction readVarintAux it shift acc s with
  | case1 => exact .of_ok (Nat.le_refl _)
  | case2 => exact .of_error (by decide)
  | case3 => exact .of_ok (Nat.le_succ _)
  | case4 it shift acc b rest acc' hb ih => exact ih.mono fun _ hp => Nat.le_succ_of_le hp

theorem readVarint_outcome (s : List Nat) :
    Outcome (fun p => p.2.length ≤ s.length) (readVarint s) :=
  readVarintAux_outcome 9 0 0 s

theorem cmdCopy_outcome (command : Nat) (cmds data : List Nat) (out : Array Nat) :
    Outcome (fun s => s.1.length ≤ cmds.length) (cmdCopy command cmds data out) := by
  unfold cmdCopy
  match readVarint cmds, readVarint_outcome cmds with
  | .error _, hv => exact hv
  | .ok _, hv => exact .ite (fun _ => .of_error (by decide)) (fun _ => hv)

theorem readStride_outcome (flags width : Nat) (cmds : List Nat) :
    Outcome (fun p => p.2.length ≤ cmds.length) (readStride flags width cmds) := by
  unfold readStride
  refine .ite (fun _ => .of_ok (Nat.le_refl _)) (fun _ => ?_)
  match readVarint cmds, readVarint_outcome cmds with
  | .error _, hv => exact hv
  | .ok _, hv => exact .ite (fun _ => .of_error (by decide)) (fun _ => hv)

theorem cmdPredRun_outcome (width order stride : Nat) (cmds data : List Nat) (out : Array Nat) :
    Outcome (fun s => s.1.length ≤ cmds.length) (cmdPredRun width order stride cmds data out) := by
  unfold cmdPredRun
  refine .ite (fun _ => .of_error (by decide)) (fun _ => ?_)
  match readVarint cmds, readVarint_outcome cmds with
  | .error _, hv => exact hv
  | .ok _, hv => exact .ite (fun _ => .of_error (by decide)) (fun _ => hv)

theorem cmdPred_outcome (cmds data : List Nat) (out : Array Nat) :
    Outcome (fun s => s.1.length ≤ cmds.length) (cmdPred cmds data out) := by
  unfold cmdPred
  cases cmds with
  | nil => exact .of_error (by decide)
  | cons flags cmds =>
    refine .ite (fun _ => .of_error (by decide)) (fun _ => ?_)
    match readStride flags (flags % 4 + 1) cmds, readStride_outcome flags (flags % 4 + 1) cmds with
    | .error _, hs => exact hs
    | .ok p, hs =>
      exact (cmdPredRun_outcome _ _ p.1 p.2 data out).mono
        fun _ hr => Nat.le_trans hr (Nat.le_trans hs (Nat.le_succ _))

theorem mainStep_outcome (command : Nat) (cmds data : List Nat) (out : Array Nat) :
    Outcome (fun s => s.1.length ≤ cmds.length) (mainStep command cmds data out) := by
  unfold mainStep
  refine .ite (fun _ => cmdCopy_outcome ..) (fun _ => ?_)
  refine .ite (fun _ => cmdPred_outcome ..) (fun _ => ?_)
  refine .ite (fun _ => ?_) (fun _ => ?_)
  · exact .ite (fun _ => .of_error (by decide)) (fun _ => .of_ok (Nat.le_refl _))
  · exact .ite (fun _ => .of_ok (Nat.le_refl _)) (fun _ => .of_error (by decide))

theorem mainLoop_outcome : ∀ (fuel : Nat) (cmds data : List Nat) (out : Array Nat),
    cmds.length < fuel → Outcome (fun _ => True) (mainLoop fuel cmds data out)
  | _ + 1, [], _, _, _ => .of_ok trivial
  | f + 1, c :: cs, data, out, h => by
    rw [mainLoop]
    match mainStep c cs data out, mainStep_outcome c cs data out with
    | .error _, hs => exact hs
    | .ok _, hs => exact mainLoop_outcome f _ _ _ (Nat.lt_of_le_of_lt hs (Nat.lt_of_succ_lt_succ h))

theorem readU32_outcome (cmds : List Nat) :
    Outcome (fun p => p.2.length ≤ cmds.length) (readU32 cmds) := by
  unfold readU32
  match readVarint cmds, readVarint_outcome cmds with
  | .error _, hv => exact hv
  | .ok _, hv => exact hv

theorem tagOf_outcome (tagcode : Nat) (data : List Nat) :
    Outcome (fun _ => True) (tagOf tagcode data) := by
  unfold tagOf
  refine .ite (fun _ => .ite (fun _ => .of_error (by decide)) (fun _ => .of_ok trivial)) (fun _ => ?_)
  exact .ite (fun _ => .of_ok trivial) (fun _ => .of_error (by decide))

theorem readTagStart_outcome (command ps pz : Nat) (cmds : List Nat) :
    Outcome (fun p => p.2.length ≤ cmds.length) (readTagStart command ps pz cmds) :=
  .ite (fun _ => .of_ok (Nat.le_refl _)) (fun _ => readU32_outcome cmds)

theorem readTagSize_outcome (command pz : Nat) (tag cmds : List Nat) :
    Outcome (fun p => p.2.length ≤ cmds.length) (readTagSize command pz tag cmds) :=
  .ite (fun _ => readU32_outcome cmds)
    (fun _ => .ite (fun _ => .of_ok (Nat.le_refl _)) (fun _ => .of_ok (Nat.le_refl _)))

theorem tagStep_outcome (size command : Nat) (s : TagSt) :
    Outcome (fun s' => s'.cmds.length ≤ s.cmds.length ∧ s'.prevStart + s'.prevSize ≤ size)
      (tagStep size command s) := by
  unfold tagStep
  match tagOf (command % 64) s.data, tagOf_outcome (command % 64) s.data with
  | .error _, ht => exact ht
  | .ok td, _ =>
    match readTagStart command s.prevStart s.prevSize s.cmds,
      readTagStart_outcome command s.prevStart s.prevSize s.cmds with
    | .error _, h1 => exact h1
    | .ok p1, h1 =>
      dsimp only
      match readTagSize command s.prevSize td.1 p1.2,
        readTagSize_outcome command s.prevSize td.1 p1.2 with
      | .error _, h2 => exact h2
      | .ok _, h2 =>
        exact .ite (fun _ => .of_error (by decide))
          (fun h => .of_ok ⟨Nat.le_trans h2 h1, Nat.le_of_not_lt h⟩)

theorem tagLoop_outcome (size : Nat) : ∀ (fuel : Nat) (s : TagSt),
    s.cmds.length < fuel → Outcome (fun _ => True) (tagLoop size fuel s) := by
  intro fuel
  induction fuel with
  | zero => intro s h; omega
  | succ f ih =>
    intro s h
    rw [tagLoop]
    cases hc : s.cmds with
    | nil => exact .of_ok trivial
    | cons c cs =>
      rw [hc] at h
      refine .ite (fun _ => .of_ok trivial) (fun _ => ?_)
      match tagStep size c { s with cmds := cs }, tagStep_outcome size c { s with cmds := cs } with
      | .error _, hs => exact hs
      | .ok s', hs => exact ih s' (Nat.lt_of_le_of_lt hs.1 (Nat.lt_of_succ_lt_succ h))

theorem decodeMain_outcome (size : Nat) (cmds data : List Nat) (out : Array Nat) :
    Outcome (fun out => out.length = size) (decodeMain size cmds data out) := by
  unfold decodeMain
  match mainLoop (cmds.length + 1) cmds data out,
    mainLoop_outcome (cmds.length + 1) cmds data out (Nat.lt_succ_self _) with
  | .error _, hl => exact hl
  | .ok _, _ => exact .ite (fun _ => .of_error (by decide)) (fun h => .of_ok (by simpa using h))

theorem decodeTags_outcome (size v : Nat) (cmds data : List Nat) (out : Array Nat) :
    Outcome (fun _ => True) (decodeTags size v cmds data out) := by
  unfold decodeTags
  refine .ite (fun _ => .of_ok trivial) (fun _ => .ite (fun _ => .of_error (by decide)) (fun _ => ?_))
  match tagLoop size (cmds.length + 1) _, tagLoop_outcome size (cmds.length + 1)
    ⟨cmds, data, out ++ (be32 (v - 1)).toArray, (v - 1) * 12 + 128, 0⟩ (Nat.lt_succ_self _) with
  | .error _, hl => exact hl
  | .ok _, _ => exact .of_ok trivial

theorem decodeBody_outcome (size : Nat) (c d : List Nat) (o : Array Nat) :
    Outcome (fun out => out.length = size) (decodeBody size c d o) := by
  unfold decodeBody
  match readVarint c, readVarint_outcome c with
  | .error _, hv => exact hv
  | .ok p, _ =>
    dsimp only
    match decodeTags size p.1 p.2 d o, decodeTags_outcome size p.1 p.2 d o with
    | .error _, ht => exact ht
    | .ok _, _ => exact decodeMain_outcome ..

theorem length_decodeHeader (size : Nat) (hd : List Nat) : (decodeHeader size hd).length = hd.length := by
  simp [decodeHeader]

theorem decodeFramed_outcome (n : Nat) (c d : List Nat) :
    Outcome (fun out => out.length = n) (decodeFramed n c d) := by
  unfold decodeFramed
  refine .ite (fun _ => .of_error (by decide)) (fun hlen => .ite (fun hn => .of_ok ?_)
    (fun _ => decodeBody_outcome ..))
  rw [length_decodeHeader, List.length_take]
  omega

theorem decodeIcc_outcome (s : List Nat) :
    Outcome (fun out => out.length = declaredSize s ∧ declaredSize s ≤ 268435456) (decodeIcc s) := by
  unfold decodeIcc declaredSize
  match readVarint s, readVarint_outcome s with
  | .error _, hv => exact hv
  | .ok p1, _ =>
    dsimp only
    match readVarint p1.2, readVarint_outcome p1.2 with
    | .error _, hv => exact hv
    | .ok _, _ =>
      exact .ite (fun _ => .of_error (by decide)) (fun _ => .ite (fun _ => .of_error (by decide))
        (fun hle => (decodeFramed_outcome ..).mono fun _ h => ⟨h, Nat.le_of_not_lt hle⟩))

end Jxl.Icc
