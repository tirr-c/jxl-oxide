import JxlModel.Model.NaturalOrder
import JxlModel.Proofs.Util
/-!
# The natural coefficient order enumerates the block

`naturalOrder bw bh` is a rearrangement of the positions of a `bw × bh` block
(`naturalOrder_perm`), so it has `bw * bh` entries. The table is the raster of the LLF corner
followed by what `keep` lets through of the zigzag walk over the square `bw × bw`
(`naturalOrder_eq`); the walk visits every cell of the square once, and `keep` sends the cells of
every `s`-th row outside the corner one-to-one onto the block minus its corner.
-/
namespace Jxl.NaturalOrder

def raster (w h : Nat) : List (Nat × Nat) :=
  (List.range (w * h)).map fun i => (i % w, i / w)

theorem mem_raster {w h : Nat} {p : Nat × Nat} : p ∈ raster w h ↔ p.1 < w ∧ p.2 < h := by
  simp only [raster, List.mem_map, List.mem_range]
  constructor
  · rintro ⟨i, hi, rfl⟩
    have hw : 0 < w := Nat.pos_of_ne_zero fun h0 => by simp [h0] at hi
    exact ⟨Nat.mod_lt i hw, Nat.div_lt_of_lt_mul hi⟩
  · rintro ⟨hx, hy⟩
    exact ⟨p.2 * w + p.1, Nat.mul_comm w h ▸ mul_add_lt_mul hy hx,
      Prod.ext (Nat.mul_add_mod_of_lt hx) (mul_add_div_of_lt hx)⟩

theorem nodup_raster (w h : Nat) : (raster w h).Nodup := by
  refine List.Pairwise.map _ (fun i j hij hp => hij ?_) List.nodup_range
  rw [← Nat.div_add_mod i w, ← Nat.div_add_mod j w, (Prod.mk.inj hp).1, (Prod.mk.inj hp).2]

theorem length_raster (w h : Nat) : (raster w h).length = w * h := by
  simp only [raster, List.length_map, List.length_range]

/-- the `o`-th cell on the anti-diagonal `x + y = d` of the square of side `bw`, walked in the
direction the parity of `d` gives. Here and in `zigzag` the terms are those of `naturalOrder`
with `dist = d + 1` and `margin = d + 1 - bw` put in, so that `naturalOrder_eq` is an unfolding:
the diagonal has `dist - margin - margin` cells, the first at `order = margin`. -/
def cell (bw d o : Nat) : Nat × Nat :=
  let order := d + 1 - bw + o
  if (d + 1) % 2 == 1 then (order, d + 1 - 1 - order) else (d + 1 - 1 - order, order)

def zigzag (bw : Nat) : List (Nat × Nat) :=
  (List.range (2 * bw - 1)).flatMap fun d =>
    (List.range (d + 1 - (d + 1 - bw) - (d + 1 - bw))).map (cell bw d)

/-- what becomes of a cell of the square: cells of the `lbw × lbw` corner and of rows that a
block `s` times wider than high does not have are dropped, the others get their row in the block -/
def keep (lbw s : Nat) (xy : Nat × Nat) : Option (Nat × Nat) :=
  if xy.1 < lbw ∧ xy.2 < lbw then none
  else if xy.2 % s != 0 then none
  else some (xy.1, xy.2 / s)

theorem naturalOrder_eq (bw bh : Nat) :
    naturalOrder bw bh =
      raster (bw / 8) (bh / 8) ++ (zigzag bw).filterMap (keep (bw / 8) (bw / bh)) := by
  simp only [zigzag, List.filterMap_flatMap, List.filterMap_map]
  rfl

theorem cell_spec {bw d o : Nat} (ho : o < d + 1 - (d + 1 - bw) - (d + 1 - bw)) :
    (cell bw d o).1 + (cell bw d o).2 = d ∧ (cell bw d o).1 < bw ∧ (cell bw d o).2 < bw := by
  unfold cell
  split <;> (dsimp only; omega)

theorem mem_zigzag {bw : Nat} {p : Nat × Nat} : p ∈ zigzag bw ↔ p.1 < bw ∧ p.2 < bw := by
  simp only [zigzag, List.mem_flatMap, List.mem_map, List.mem_range]
  constructor
  · rintro ⟨d, hd, o, ho, rfl⟩
    exact (cell_spec ho).2
  · rintro ⟨hx, hy⟩
    -- the cell sits on diagonal `x + y`, at the place its `x` or its `y` gives
    refine ⟨p.1 + p.2, by omega,
      (if (p.1 + p.2 + 1) % 2 == 1 then p.1 else p.2) - (p.1 + p.2 + 1 - bw), ?_, ?_⟩
    · split <;> omega
    · unfold cell
      split <;> (apply Prod.ext <;> (dsimp only; omega))

theorem nodup_zigzag (bw : Nat) : (zigzag bw).Nodup := by
  refine List.pairwise_flatMap.2 ⟨fun d _ => ?_, ?_⟩
  · refine List.Pairwise.map _ (fun o o' hne hp => hne ?_) List.nodup_range
    unfold cell at hp
    split at hp
    · have := (Prod.mk.inj hp).1
      omega
    · have := (Prod.mk.inj hp).2
      omega
  · refine List.nodup_range.imp fun {d d'} hne p hp q hq hpq => hne ?_
    simp only [List.mem_map, List.mem_range] at hp hq
    obtain ⟨o, ho, rfl⟩ := hp
    obtain ⟨o', ho', rfl⟩ := hq
    rw [← (cell_spec ho).1, ← (cell_spec ho').1, hpq]

theorem keep_eq_some {lbw s : Nat} (hs : 0 < s) {xy p : Nat × Nat} :
    keep lbw s xy = some p ↔ ¬(p.1 < lbw ∧ p.2 * s < lbw) ∧ xy = (p.1, p.2 * s) := by
  unfold keep
  constructor
  · intro h
    split at h
    · cases h
    · split at h
      · cases h
      · next hc hm =>
        cases h
        have : xy.2 / s * s = xy.2 :=
          Nat.div_mul_cancel (Nat.dvd_of_mod_eq_zero (by simpa using hm))
        exact ⟨by rwa [this], Prod.ext rfl this.symm⟩
  · rintro ⟨hc, rfl⟩
    rw [if_neg hc, Nat.mul_mod_left, Nat.mul_div_cancel _ hs]
    rfl

theorem raster_append_zigzag_perm {s bh lbh : Nat} (hs : 0 < s) (hl : lbh ≤ bh) :
    (raster (lbh * s) lbh ++ (zigzag (bh * s)).filterMap (keep (lbh * s) s)).Perm
      (raster (bh * s) bh) := by
  have hrest : ∀ p : Nat × Nat, p ∈ (zigzag (bh * s)).filterMap (keep (lbh * s) s) ↔
      (p.1 < bh * s ∧ p.2 < bh) ∧ ¬(p.1 < lbh * s ∧ p.2 < lbh) := by
    intro p
    simp only [List.mem_filterMap, keep_eq_some hs, exists_eq_right_right, mem_zigzag,
      Nat.mul_lt_mul_right hs]
  refine (List.perm_ext_iff_of_nodup (List.nodup_append.2 ⟨nodup_raster _ _, ?_, ?_⟩)
    (nodup_raster _ _)).2 fun p => ?_
  · -- two cells kept as the same `p` are both `p` stretched back
    refine (nodup_zigzag _).filterMap _ fun a a' hne b hb b' hb' hbb => hne ?_
    rw [((keep_eq_some hs).1 hb).2, ((keep_eq_some hs).1 hb').2, hbb]
  · rintro a ha b hb rfl
    exact ((hrest a).1 hb).2 (mem_raster.1 ha)
  · rw [List.mem_append, mem_raster, mem_raster, hrest]
    have := Nat.mul_le_mul_right s hl
    constructor
    · rintro (⟨hx, hy⟩ | ⟨h, _⟩)
      · exact ⟨by omega, by omega⟩
      · exact h
    · intro h
      by_cases hc : p.1 < lbh * s ∧ p.2 < lbh
      · exact Or.inl hc
      · exact Or.inr ⟨h, hc⟩

/-- `bh` a multiple of 8 that divides `bw`: as in `BLOCK_SIZES`. -/
theorem naturalOrder_perm {bw bh : Nat} (hbw : 0 < bw) (hdvd : bh ∣ bw) (h8 : 8 ∣ bh) :
    (naturalOrder bw bh).Perm (raster bw bh) := by
  obtain ⟨s, rfl⟩ := hdvd
  obtain ⟨k, rfl⟩ := h8
  have hs : 0 < s := Nat.pos_of_mul_pos_left hbw
  have hk : 0 < 8 * k := Nat.pos_of_mul_pos_right hbw
  rw [naturalOrder_eq, Nat.mul_div_cancel_left s hk, Nat.mul_div_cancel_left k (by omega),
    Nat.mul_assoc, Nat.mul_div_cancel_left (k * s) (by omega), ← Nat.mul_assoc]
  exact raster_append_zigzag_perm hs (by omega)

theorem length_naturalOrder {bw bh : Nat} (hdvd : bh ∣ bw) (h8 : 8 ∣ bh) :
    (naturalOrder bw bh).length = bw * bh := by
  rcases Nat.eq_zero_or_pos bw with rfl | hbw
  · simp [naturalOrder]
  · rw [(naturalOrder_perm hbw hdvd h8).length_eq, length_raster]

end Jxl.NaturalOrder
