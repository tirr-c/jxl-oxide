import JxlModel.Model.Subgrid
import JxlModel.Proofs.Util
/-! Lemmas for C02 (sub-grid geometry). Every operation is a chain of assertions in front of a
result, so each has one lemma saying when it returns `ok` and what (`…_eq_ok`, `…_ok`). The geometry
is stated once, for a rectangle `InRect` of a parent (its cells, inside, disjoint, cover); `subgrid`
and the groups are instances here, splits and merges in the `C02_` theorems of `Props/C02.lean`. The
build mode of the groups is looked at once, in `groupsList_eq_checked`. -/
namespace Jxl.Subgrid

/-- for the `decide`d examples and witnesses of `Props/C02.lean` -/
instance (L : Nat) (g : SubGrid) : Decidable (Valid L g) := by unfold Valid; infer_instance

theorem panic_else_eq_ok {α : Type} {c : Prop} [Decidable c] {s : Site} {k : Outcome α} {r : α} :
    (if c then .panic s else k) = .ok r ↔ ¬c ∧ k = .ok r := by
  by_cases h : c <;> simp [h]

theorem else_panic_eq_ok {α : Type} {c : Prop} [Decidable c] {s : Site} {k : Outcome α} {r : α} :
    (if c then k else .panic s) = .ok r ↔ c ∧ k = .ok r := by
  by_cases h : c <;> simp [h]

theorem new_eq_ok {off w h s : Nat} {g : SubGrid} :
    new off w h s = .ok g ↔ (w = 0 ∨ w ≤ s) ∧ g = ⟨off, w, h, s, none⟩ := by
  simp only [new, else_panic_eq_ok, Outcome.ok.injEq, @eq_comm _ g]

/-- The `match`es of the model on the results of `new` and of `mulM`/`addM` hand a panic through;
Lean compiles them to `splitH.match_1` (`splitH`, `splitV`), `splitHInPlace.match_1` (the in-place
splits) and `fromBuf.match_1`. -/
theorem match_ok2_eq_ok {α : Type} {a b : Outcome SubGrid} {f : SubGrid → SubGrid → α} {p : α} :
    splitH.match_1 (fun _ _ => Outcome α) a b (fun l r => .ok (f l r)) (fun s _ => .panic s)
      (fun _ s => .panic s) = .ok p ↔ ∃ l r, a = .ok l ∧ b = .ok r ∧ f l r = p := by
  cases a <;> cases b <;> simp

theorem match_ok_eq_ok {α : Type} {a : Outcome SubGrid} {f : SubGrid → α} {p : α} :
    splitHInPlace.match_1 (fun _ => Outcome α) a (fun r => .ok (f r)) (fun s => .panic s) = .ok p ↔
      ∃ r, a = .ok r ∧ f r = p := by
  cases a <;> simp

theorem match_some_eq_ok {α : Type} {o : Option Nat} {k : Nat → Outcome α} {r : α} :
    fromBuf.match_1 (fun _ => Outcome α) o (fun _ => .panic .arith) k = .ok r ↔
      ∃ p, o = some p ∧ k p = .ok r := by
  cases o <;> simp

theorem mulM_eq_some {m : Mode} {a b p : Nat} (h : m = .checked ∨ a * b < W) :
    mulM m a b = some p ↔ a * b < W ∧ p = a * b := by
  unfold mulM
  by_cases hlt : a * b < W
  · simp [hlt, eq_comm]
  · simp [hlt, h.resolve_right hlt]

theorem addM_eq_some {m : Mode} {a b p : Nat} (h : m = .checked ∨ a + b < W) :
    addM m a b = some p ↔ a + b < W ∧ p = a + b := by
  unfold addM
  by_cases hlt : a + b < W
  · simp [hlt, eq_comm]
  · simp [hlt, h.resolve_right hlt]

theorem mem_cells {g : SubGrid} {i : Nat} :
    i ∈ cells g ↔ ∃ y, y < g.h ∧ ∃ x, x < g.w ∧ i = g.off + y * g.stride + x := by
  simp [cells, index, List.mem_flatMap, List.mem_map, List.mem_range, eq_comm]

/-- `c` is the rectangle `[cx, cx+c.w) × [cy, cy+c.h)` of `g`, in `g`'s own coordinates -/
def InRect (g c : SubGrid) (cx cy : Nat) : Prop :=
  c.off = g.off + cy * g.stride + cx ∧ c.stride = g.stride ∧ cx + c.w ≤ g.w ∧ cy + c.h ≤ g.h

theorem inRect_mk (g : SubGrid) {cx cy w h : Nat} (b : Option Nat) (hx : cx + w ≤ g.w)
    (hy : cy + h ≤ g.h) : InRect g ⟨index g cx cy, w, h, g.stride, b⟩ cx cy :=
  ⟨rfl, rfl, hx, hy⟩

theorem inRect_origin (g : SubGrid) {w h : Nat} (b : Option Nat) (hw : w ≤ g.w) (hh : h ≤ g.h) :
    InRect g ⟨g.off, w, h, g.stride, b⟩ 0 0 :=
  ⟨by simp, rfl, by simpa using hw, by simpa using hh⟩

theorem inRect_withBase {g c : SubGrid} {cx cy : Nat} (b : Option Nat) (h : InRect g c cx cy) :
    InRect g { c with base := b } cx cy := h

theorem cells_withBase (c : SubGrid) (b : Option Nat) : cells { c with base := b } = cells c := rfl

theorem InRect.index_eq {g c : SubGrid} {cx cy : Nat} (h : InRect g c cx cy) (x y : Nat) :
    c.off + y * c.stride + x = g.off + (cy + y) * g.stride + (cx + x) := by
  rw [h.1, h.2.1, Nat.add_mul]
  omega

theorem mem_cells_inRect {g c : SubGrid} {cx cy i : Nat} (h : InRect g c cx cy) :
    i ∈ cells c ↔ ∃ y, cy ≤ y ∧ y < cy + c.h ∧ ∃ x, cx ≤ x ∧ x < cx + c.w ∧
      i = g.off + y * g.stride + x := by
  rw [mem_cells]
  constructor
  · rintro ⟨y, hy, x, hx, rfl⟩
    exact ⟨cy + y, Nat.le_add_right _ _, Nat.add_lt_add_left hy _,
      cx + x, Nat.le_add_right _ _, Nat.add_lt_add_left hx _, h.index_eq x y⟩
  · rintro ⟨y, hy1, hy2, x, hx1, hx2, rfl⟩
    obtain ⟨y, rfl⟩ := Nat.exists_eq_add_of_le hy1
    obtain ⟨x, rfl⟩ := Nat.exists_eq_add_of_le hx1
    exact ⟨y, Nat.lt_of_add_lt_add_left hy2, x, Nat.lt_of_add_lt_add_left hx2,
      (h.index_eq x y).symm⟩

theorem subset_of_inRect {g c : SubGrid} {cx cy : Nat} (h : InRect g c cx cy) :
    ∀ i ∈ cells c, i ∈ cells g := by
  intro i hi
  obtain ⟨y, _, hy, x, _, hx, rfl⟩ := (mem_cells_inRect h).1 hi
  exact mem_cells.2 ⟨y, Nat.lt_of_lt_of_le hy h.2.2.2, x, Nat.lt_of_lt_of_le hx h.2.2.1, rfl⟩

theorem valid_of_inRect {L : Nat} {g c : SubGrid} {cx cy : Nat} (hv : Valid L g)
    (h : InRect g c cx cy) : Valid L c := by
  refine ⟨?_, fun i hi => hv.2 i (subset_of_inRect h i hi)⟩
  obtain ⟨_, hs, hw, _⟩ := h
  have := hv.1
  omega

theorem coord_unique {s x1 y1 x2 y2 : Nat} (h1 : x1 < s) (h2 : x2 < s)
    (h : y1 * s + x1 = y2 * s + x2) : y1 = y2 ∧ x1 = x2 := by
  have : y1 = y2 := by rw [← mul_add_div_of_lt (q := y1) h1, h, mul_add_div_of_lt h2]
  subst this
  exact ⟨rfl, by omega⟩

theorem disjoint_of_inRect {g c1 c2 : SubGrid} {x1 y1 x2 y2 : Nat}
    (hg : g.w = 0 ∨ g.w ≤ g.stride)
    (h1 : InRect g c1 x1 y1) (h2 : InRect g c2 x2 y2)
    (hd : x1 + c1.w ≤ x2 ∨ x2 + c2.w ≤ x1 ∨ y1 + c1.h ≤ y2 ∨ y2 + c2.h ≤ y1) :
    Disjoint c1 c2 := by
  intro i hi1 hi2
  obtain ⟨ya, hya1, hya2, xa, hxa1, hxa2, rfl⟩ := (mem_cells_inRect h1).1 hi1
  obtain ⟨yb, hyb1, hyb2, xb, hxb1, hxb2, heq⟩ := (mem_cells_inRect h2).1 hi2
  have hs : ∀ x, x < g.w → x < g.stride := fun x hx => by omega
  have hxa : xa < g.stride := hs xa (Nat.lt_of_lt_of_le hxa2 h1.2.2.1)
  have hxb : xb < g.stride := hs xb (Nat.lt_of_lt_of_le hxb2 h2.2.2.1)
  rw [Nat.add_assoc, Nat.add_assoc] at heq
  obtain ⟨rfl, rfl⟩ := coord_unique hxa hxb (Nat.add_left_cancel heq)
  omega

theorem cover_of_inRect {g c1 c2 : SubGrid} {x1 y1 x2 y2 : Nat}
    (h1 : InRect g c1 x1 y1) (h2 : InRect g c2 x2 y2)
    (hc : ∀ x y, x < g.w → y < g.h →
      (x1 ≤ x ∧ x < x1 + c1.w) ∧ (y1 ≤ y ∧ y < y1 + c1.h) ∨
      (x2 ≤ x ∧ x < x2 + c2.w) ∧ (y2 ≤ y ∧ y < y2 + c2.h)) :
    ∀ i, i ∈ cells g ↔ i ∈ cells c1 ∨ i ∈ cells c2 := by
  intro i
  constructor
  · intro hi
    obtain ⟨y, hy, x, hx, rfl⟩ := mem_cells.1 hi
    rcases hc x y hx hy with ⟨hx', hy'⟩ | ⟨hx', hy'⟩
    · exact Or.inl ((mem_cells_inRect h1).2 ⟨y, hy'.1, hy'.2, x, hx'.1, hx'.2, rfl⟩)
    · exact Or.inr ((mem_cells_inRect h2).2 ⟨y, hy'.1, hy'.2, x, hx'.1, hx'.2, rfl⟩)
  · rintro (h | h)
    · exact subset_of_inRect h1 i h
    · exact subset_of_inRect h2 i h

theorem subgridLRTB_eq_ok {g c : SubGrid} {l r t b : Nat} : subgridLRTB g l r t b = .ok c ↔
    l ≤ r ∧ t ≤ b ∧ r ≤ g.w ∧ b ≤ g.h ∧ (r - l = 0 ∨ r - l ≤ g.stride) ∧
      c = ⟨index g l t, r - l, b - t, g.stride, none⟩ := by
  simp only [subgridLRTB, panic_else_eq_ok, Decidable.not_not, new_eq_ok]

theorem subgrid_inRect {m : Mode} {g c : SubGrid} {xs xe ys ye : Bound}
    (h : subgrid m g xs xe ys ye = .ok c) : ∃ l t, InRect g c l t := by
  unfold subgrid at h
  split at h
  · obtain ⟨hlr, htb, hr, hb, _, rfl⟩ := subgridLRTB_eq_ok.1 h
    exact ⟨_, _, inRect_mk g none (by omega) (by omega)⟩
  · cases h

theorem splitH_ok {g l r : SubGrid} {x : Nat}
    (h : splitH g x = .ok (l, r) ∨ splitHInPlace g x = .ok (l, r)) :
    x ≤ g.w ∧ l = ⟨g.off, x, g.h, g.stride, some (splitBase g)⟩ ∧
      r = ⟨index g x 0, g.w - x, g.h, g.stride, some (splitBase g)⟩ := by
  simp only [splitH, splitHInPlace, panic_else_eq_ok, match_ok2_eq_ok, match_ok_eq_ok, new_eq_ok,
    Decidable.not_not, Prod.mk.injEq] at h
  rcases h with ⟨hx, _, _, ⟨_, rfl⟩, ⟨_, rfl⟩, rfl, rfl⟩ | ⟨hx, _, ⟨_, rfl⟩, rfl, rfl⟩ <;>
    exact ⟨hx, rfl, rfl⟩

theorem splitV_ok {g t b : SubGrid} {y : Nat}
    (h : splitV g y = .ok (t, b) ∨ splitVInPlace g y = .ok (t, b)) :
    y ≤ g.h ∧ t = ⟨g.off, g.w, y, g.stride, some (splitBase g)⟩ ∧
      b = ⟨index g 0 y, g.w, g.h - y, g.stride, some (splitBase g)⟩ := by
  simp only [splitV, splitVInPlace, panic_else_eq_ok, match_ok2_eq_ok, match_ok_eq_ok, new_eq_ok,
    Decidable.not_not, Prod.mk.injEq] at h
  rcases h with ⟨hy, _, _, ⟨_, rfl⟩, ⟨_, rfl⟩, rfl, rfl⟩ | ⟨hy, _, ⟨_, rfl⟩, rfl, rfl⟩ <;>
    exact ⟨hy, rfl, rfl⟩

theorem mergeH_eq_ok {a b m : SubGrid} : mergeH a b = .ok m ↔
    a.base.isSome ∧ a.base = b.base ∧ a.stride = b.stride ∧ a.h = b.h ∧ a.w + b.w ≤ a.stride ∧
    b.off = a.off + a.w ∧ m = { a with w := a.w + b.w } := by
  simp only [mergeH, panic_else_eq_ok, Outcome.ok.injEq]
  simp only [index, Nat.zero_mul, Nat.add_zero, Decidable.not_not, ge_iff_le, Bool.not_eq_true,
    Option.isNone_eq_false_iff, @eq_comm _ m, @eq_comm _ b.off]

theorem mergeV_eq_ok {a b m : SubGrid} : mergeV a b = .ok m ↔
    a.base.isSome ∧ a.base = b.base ∧ a.stride = b.stride ∧ a.w = b.w ∧
    b.off = a.off + a.h * a.stride ∧ m = { a with h := a.h + b.h } := by
  simp only [mergeV, panic_else_eq_ok, Outcome.ok.injEq]
  simp only [index, Nat.add_zero, Decidable.not_not, Bool.not_eq_true, Option.isNone_eq_false_iff,
    @eq_comm _ m, @eq_comm _ b.off]

theorem axisCut_le (m : Mode) (size total k : Nat) :
    (axisCut m size total k).1 + (axisCut m size total k).2 ≤ total := by
  simp only [axisCut]; omega

theorem axisCut_sep {size total k1 k2 : Nat} (h : k1 < k2) :
    (axisCut .checked size total k1).1 + (axisCut .checked size total k1).2 ≤
      (axisCut .checked size total k2).1 := by
  have : (k1 + 1) * size ≤ k2 * size := Nat.mul_le_mul_right size h
  rw [Nat.succ_mul] at this
  simp only [axisCut, mulW]
  omega

theorem axisCut_contains {size total y : Nat} (hs : size ≠ 0) (hy : y < total) :
    (axisCut .checked size total (y / size)).1 ≤ y ∧
      y < (axisCut .checked size total (y / size)).1 + (axisCut .checked size total (y / size)).2 := by
  have h1 := Nat.div_mul_le_self y size
  have h2 := Nat.lt_div_mul_add (a := y) (Nat.pos_of_ne_zero hs)
  simp only [axisCut, mulW]
  omega

theorem groupOf_inRect (m : Mode) (g : SubGrid) (gw gh gx gy : Nat) :
    InRect g (groupOf g (axisCut m gh g.h gy) (axisCut m gw g.w gx))
      (axisCut m gw g.w gx).1 (axisCut m gh g.h gy).1 :=
  inRect_mk g _ (axisCut_le m gw g.w gx) (axisCut_le m gh g.h gy)

theorem mem_groupsList {m : Mode} {g c : SubGrid} {gw gh nc nr : Nat} :
    c ∈ groupsList m g gw gh nc nr ↔ ∃ gy, gy < nr ∧ ∃ gx, gx < nc ∧
      c = groupOf g (axisCut m gh g.h gy) (axisCut m gw g.w gx) := by
  simp [groupsList, List.mem_flatMap, List.mem_map, List.mem_range, eq_comm]

theorem groupsList_length (m : Mode) (g : SubGrid) (gw gh nc nr : Nat) :
    (groupsList m g gw gh nc nr).length = nc * nr := by
  simp only [groupsList, List.length_flatMap, List.length_map, List.length_range, List.map_const',
    List.sum_replicate_nat, Nat.mul_comm]

theorem intoGroupsFixed_ok {m : Mode} {g : SubGrid} {gw gh nc nr : Nat} {gs : List SubGrid}
    (h : intoGroupsFixed m g gw gh nc nr = .ok gs) : gs = groupsList m g gw gh nc nr := by
  simp only [intoGroupsFixed, panic_else_eq_ok, Outcome.ok.injEq] at h
  exact h.2.2.symm

theorem intoGroups_ok {m : Mode} {g : SubGrid} {gw gh : Nat} {gs : List SubGrid}
    (h : intoGroups m g gw gh = .ok gs) :
    gw ≠ 0 ∧ gh ≠ 0 ∧ gs = groupsList m g gw gh (ceilDiv g.w gw) (ceilDiv g.h gh) := by
  simp only [intoGroups, panic_else_eq_ok, not_or] at h
  exact ⟨h.1.1, h.1.2, intoGroupsFixed_ok h.2⟩

theorem mulW_of_noOverflow {m : Mode} {size n k : Nat}
    (h : m = .checked ∨ ∀ k, k < n → k * size < W) (hk : k < n) : mulW m k size = k * size := by
  cases m
  · rfl
  · rcases h with h | h
    · cases h
    · exact Nat.mod_eq_of_lt (h k hk)

theorem groupsList_eq_checked {m : Mode} {gw gh nc nr : Nat} (g : SubGrid)
    (hno : NoOverflow m gw gh nc nr) :
    groupsList m g gw gh nc nr = groupsList .checked g gw gh nc nr := by
  have cut : ∀ {size n : Nat} (total : Nat), (m = .checked ∨ ∀ k, k < n → k * size < W) →
      ∀ k ∈ List.range n, axisCut m size total k = axisCut .checked size total k := fun _ h k hk => by
    unfold axisCut
    rw [mulW_of_noOverflow h (List.mem_range.1 hk)]
    rfl
  simp only [groupsList, List.flatMap_def]
  congr 1
  refine List.map_congr_left fun gy hy => List.map_congr_left fun gx hx => ?_
  rw [cut g.h (hno.imp id (·.2)) gy hy, cut g.w (hno.imp id (·.1)) gx hx]

/-- Two groups with the same `gy` are apart in `x`, two with different `gy` in `y`. -/
theorem groupsList_pairwise {g : SubGrid} {gw gh nc nr : Nat}
    (hg : g.w = 0 ∨ g.w ≤ g.stride) : (groupsList .checked g gw gh nc nr).Pairwise Disjoint := by
  unfold groupsList
  rw [List.pairwise_flatMap]
  constructor
  · intro gy _
    rw [List.pairwise_map]
    refine List.pairwise_lt_range.imp fun hab => ?_
    exact disjoint_of_inRect hg (groupOf_inRect _ g gw gh _ gy) (groupOf_inRect _ g gw gh _ gy)
      (Or.inl (axisCut_sep hab))
  · refine List.pairwise_lt_range.imp fun hab x hx' y hy' => ?_
    obtain ⟨ga, _, rfl⟩ := List.mem_map.1 hx'
    obtain ⟨gb, _, rfl⟩ := List.mem_map.1 hy'
    exact disjoint_of_inRect hg (groupOf_inRect _ g gw gh ga _) (groupOf_inRect _ g gw gh gb _)
      (Or.inr (Or.inr (Or.inl (axisCut_sep hab))))

theorem div_lt_ceilDiv {a b : Nat} (hb : b ≠ 0) {y : Nat} (hy : y < a) : y / b < ceilDiv a b := by
  have hpos := Nat.pos_of_ne_zero hb
  rw [Nat.div_lt_iff_lt_mul hpos, ceilDiv, Nat.add_mul, Nat.mul_comm (a / b)]
  have := Nat.div_add_mod a b
  have := Nat.mod_lt a hpos
  split <;> omega

theorem groupsList_cover {g : SubGrid} {gw gh : Nat} (hw : gw ≠ 0) (hh : gh ≠ 0) :
    ∀ i ∈ cells g, ∃ c ∈ groupsList .checked g gw gh (ceilDiv g.w gw) (ceilDiv g.h gh),
      i ∈ cells c := by
  intro i hi
  obtain ⟨y, hy, x, hx, rfl⟩ := mem_cells.1 hi
  have cy := axisCut_contains hh hy
  have cx := axisCut_contains hw hx
  refine ⟨_, mem_groupsList.2 ⟨y / gh, div_lt_ceilDiv hh hy, x / gw, div_lt_ceilDiv hw hx, rfl⟩, ?_⟩
  rw [mem_cells_inRect (groupOf_inRect _ g gw gh (x / gw) (y / gh))]
  exact ⟨y, cy.1, cy.2, x, cx.1, cx.2, rfl⟩

theorem unique_index_of_pairwise {gs : List SubGrid} (hp : gs.Pairwise Disjoint) {i : Nat}
    {c : SubGrid} (hc : c ∈ gs) (hi : i ∈ cells c) :
    ∃ k, ∃ hk : k < gs.length, i ∈ cells gs[k] ∧
      ∀ k' (hk' : k' < gs.length), i ∈ cells gs[k'] → k' = k := by
  obtain ⟨k, hk, rfl⟩ := List.getElem_of_mem hc
  refine ⟨k, hk, hi, fun k' hk' hi' => ?_⟩
  rw [List.pairwise_iff_getElem] at hp
  rcases Nat.lt_trichotomy k' k with h | h | h
  · exact (hp k' k hk' hk h i hi' hi).elim
  · exact h
  · exact (hp k k' hk hk' h i hi hi').elim

end Jxl.Subgrid
