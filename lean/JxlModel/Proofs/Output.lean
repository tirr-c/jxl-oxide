import JxlModel.Model.Output
import JxlModel.Gen.Orientation
import JxlModel.Proofs.Orient
/-!
For C15. Orientation `o` is a transposition (iff `swaps o`) followed by a mirroring of the columns
(iff `mirrorsX o`) and of the rows (iff `mirrorsY o`) of the displayed picture. Each generated map is
brought into that form by evaluating it at the eight orientations (`*_eq`: the lemmas that re-check
whatever `tools/translate_c15.py` generates from the source); the rest is about the mirror of one
coordinate (`Proofs/Orient.lean`).
-/
namespace Jxl.Output
open Jxl.Gen.Orientation Jxl.Orient

theorem fromGridsMap_eq {o : Nat} (ho : 1 ≤ o ∧ o ≤ 8) (w h x y : Nat) :
    fromGridsMap o w h x y =
      if swaps o then (mir (mirrorsX o) h y, mir (mirrorsY o) w x)
      else (mir (mirrorsX o) w x, mir (mirrorsY o) h y) := by
  rcases orient_cases ho with rfl | rfl | rfl | rfl | rfl | rfl | rfl | rfl <;> rfl

/-- the inverse of `fromGridsMap`: the same mirrors, undone before the transposition -/
theorem toOriginalCoord_eq {o : Nat} (ho : 1 ≤ o ∧ o ≤ 8) (W H x y : Nat) :
    toOriginalCoord o W H x y =
      if swaps o then (mir (mirrorsY o) H y, mir (mirrorsX o) W x)
      else (mir (mirrorsX o) W x, mir (mirrorsY o) H y) := by
  rcases orient_cases ho with rfl | rfl | rfl | rfl | rfl | rfl | rfl | rfl <;> rfl

theorem applyOrientationPt_eq {o : Nat} (ho : 1 ≤ o ∧ o ≤ 8) (w h : Nat) (l t : Int) :
    applyOrientationPt o w h l t false =
      if swaps o then (mirI (mirrorsX o) h t, mirI (mirrorsY o) w l)
      else (mirI (mirrorsX o) w l, mirI (mirrorsY o) h t) := by
  rcases orient_cases ho with rfl | rfl | rfl | rfl | rfl | rfl | rfl | rfl <;> rfl

theorem applyOrientationPt_inv_eq {o : Nat} (ho : 1 ≤ o ∧ o ≤ 8) (W H : Nat) (l t : Int) :
    applyOrientationPt o W H l t true =
      if swaps o then (mirI (mirrorsY o) H t, mirI (mirrorsX o) W l)
      else (mirI (mirrorsX o) W l, mirI (mirrorsY o) H t) := by
  rcases orient_cases ho with rfl | rfl | rfl | rfl | rfl | rfl | rfl | rfl <;> rfl

theorem specOrient_eq {o : Nat} (ho : 1 ≤ o ∧ o ≤ 8) (w h x y : Nat) :
    specOrient o w h (x, y) =
      if swaps o then (mir (mirrorsX o) h y, mir (mirrorsY o) w x)
      else (mir (mirrorsX o) w x, mir (mirrorsY o) h y) := by
  rcases orient_cases ho with rfl | rfl | rfl | rfl | rfl | rfl | rfl | rfl <;>
    simp only [specOrient, flipH, flipV, transpose, Nat.sub_right_comm _ 1] <;> rfl

theorem fromGridsDims_eq {o : Nat} (ho : 1 ≤ o ∧ o ≤ 8) (w h : Nat) :
    fromGridsDims o w h = if swaps o then (h, w) else (w, h) := by
  rcases orient_cases ho with rfl | rfl | rfl | rfl | rfl | rfl | rfl | rfl <;> rfl

theorem applyOrientationDims_eq {o : Nat} (ho : 1 ≤ o ∧ o ≤ 8) (w h : Nat) :
    applyOrientationDims o w h = if swaps o then (h, w) else (w, h) := by
  rcases orient_cases ho with rfl | rfl | rfl | rfl | rfl | rfl | rfl | rfl <;> rfl

theorem Region.contains_iff (r : Region) (X Y : Int) :
    r.contains X Y ↔ (r.left ≤ X ∧ X < r.left + r.width) ∧ (r.top ≤ Y ∧ Y < r.top + r.height) :=
  and_assoc.symm

theorem regionApplyOrientation_empty {o : Nat} (ho : 1 ≤ o ∧ o ≤ 8) (pt : Int → Int → Int × Int)
    (r : Region) (he : r.width = 0 ∨ r.height = 0) :
    regionApplyOrientation pt (applyOrientationDims o) r =
      if swaps o then ⟨0, 0, r.height, r.width⟩ else ⟨0, 0, r.width, r.height⟩ := by
  unfold regionApplyOrientation
  rw [if_pos he, applyOrientationDims_eq ho]
  cases swaps o <;> rfl

theorem regionApplyOrientation_eq {o : Nat} (ho : 1 ≤ o ∧ o ≤ 8) (W H : Nat) (r : Region)
    (hw : r.width ≠ 0) (hh : r.height ≠ 0) :
    regionApplyOrientation (fun l t => applyOrientationPt o W H l t true) (applyOrientationDims o) r =
      if swaps o then
        ⟨mirLo (mirrorsY o) H r.top r.height, mirLo (mirrorsX o) W r.left r.width, r.height, r.width⟩
      else
        ⟨mirLo (mirrorsX o) W r.left r.width, mirLo (mirrorsY o) H r.top r.height, r.width, r.height⟩ := by
  unfold regionApplyOrientation
  rw [if_neg (by omega)]
  unfold regionApplyOrientationOld
  simp only [applyOrientationPt_inv_eq ho]
  cases swaps o <;> simp only [Bool.false_eq_true, ↓reduceIte]
  all_goals
    rw [mirI_corners _ W _ hw, mirI_corners _ H _ hh]
    simp only
    congr 1 <;> omega

theorem digit_mod {a n : Nat} (b : Nat) (h : a < n) : (a + b * n) % n = a := by
  rw [Nat.add_mul_mod_self_right, Nat.mod_eq_of_lt h]

theorem digit_div {a n : Nat} (b : Nat) (h : a < n) : (a + b * n) / n = b := by
  rw [Nat.add_mul_div_right _ _ (Nat.zero_lt_of_lt h), Nat.div_eq_of_lt h, Nat.zero_add]

theorem digit_lt_iff {a n : Nat} (b m : Nat) (h : a < n) : a + b * n < m * n ↔ b < m := by
  rw [← Nat.div_lt_iff_lt_mul (Nat.zero_lt_of_lt h), digit_div b h]

theorem digit_succ {a n : Nat} (b : Nat) (h : a + 1 = n) : (b + 1) * n = a + b * n + 1 := by
  rw [Nat.succ_mul]
  omega

theorem interleaved_decode (w C x y c : Nat) (hc : c < C) :
    interleavedIdx w C x y c % C = c ∧ interleavedIdx w C x y c / C = planarIdx w x y :=
  ⟨digit_mod _ hc, digit_div _ hc⟩

theorem planar_decode (w x y : Nat) (hx : x < w) :
    planarIdx w x y % w = x ∧ planarIdx w x y / w = y :=
  ⟨digit_mod _ hx, digit_div _ hx⟩

theorem planar_lt (w h x y : Nat) (hx : x < w) (hy : y < h) : planarIdx w x y < w * h := by
  rw [Nat.mul_comm w h]
  exact (digit_lt_iff y h hx).2 hy

theorem interleaved_lt (w h C x y c : Nat) (hx : x < w) (hy : y < h) (hc : c < C) :
    interleavedIdx w C x y c < w * h * C :=
  (digit_lt_iff _ (w * h) hc).2 (planar_lt w h x y hx hy)

theorem writeToBuffer_not_atSample (W H C n : Nat) (s : Cursor) (h : atSample W H C s = false) :
    writeToBuffer W H C n s = ([], s) := by
  cases n with
  | zero => rfl
  | succ n => simp [writeToBuffer, h]

theorem writeToBuffer_add (W H C : Nat) (n m : Nat) (s : Cursor) :
    writeToBuffer W H C (n + m) s =
      ((writeToBuffer W H C n s).1 ++ (writeToBuffer W H C m (writeToBuffer W H C n s).2).1,
       (writeToBuffer W H C m (writeToBuffer W H C n s).2).2) := by
  induction n generalizing s with
  | zero => simp [writeToBuffer]
  | succ n ih =>
    cases h : atSample W H C s
    · rw [writeToBuffer_not_atSample W H C (n + 1 + m) s h, writeToBuffer_not_atSample W H C (n + 1) s h]
      simp [writeToBuffer_not_atSample W H C m s h]
    · rw [Nat.add_right_comm n 1 m]
      simp only [writeToBuffer, h, if_true]
      rw [ih]
      simp

def flatCalls (W H C : Nat) (sizes : List Nat) (s : Cursor) : List (Nat × Nat × Nat) :=
  (writeCalls W H C sizes s).1.flatten

theorem writeCalls_eq_sum (W H C : Nat) (sizes : List Nat) (s : Cursor) :
    flatCalls W H C sizes s = (writeToBuffer W H C sizes.sum s).1 ∧
    (writeCalls W H C sizes s).2 = (writeToBuffer W H C sizes.sum s).2 := by
  induction sizes generalizing s with
  | nil => simp [flatCalls, writeCalls, writeToBuffer]
  | cons n ns ih =>
    have := ih (writeToBuffer W H C n s).2
    simp only [flatCalls] at this ⊢
    simp only [writeCalls, List.flatten_cons, List.sum_cons]
    rw [writeToBuffer_add]
    simp [this.1, this.2]

def lin (W C : Nat) (s : Cursor) : Nat := interleavedIdx W C s.x s.y s.c

theorem length_rowMajor (W H C : Nat) : (rowMajor W H C).length = W * H * C := by
  simp only [rowMajor, List.length_map, List.length_range]

theorem rowMajor_lin (W H C : Nat) (s : Cursor) (hx : s.x < W) (hc : s.c < C)
    (hl : lin W C s < W * H * C) : (rowMajor W H C)[lin W C s]? = some (s.y, s.x, s.c) := by
  obtain ⟨h1, h2⟩ := interleaved_decode W C s.x s.y s.c hc
  obtain ⟨h3, h4⟩ := planar_decode W s.x s.y hx
  simp only [rowMajor, List.getElem?_map, List.getElem?_range hl, Option.map_some]
  unfold lin
  rw [Nat.mul_comm W C, ← Nat.div_div_eq_div_mul, h1, h2, h3, h4]

theorem lin_bump (W C : Nat) (s : Cursor) (hx : s.x < W) (hc : s.c < C) :
    lin W C (bump W C s) = lin W C s + 1 ∧ (bump W C s).x < W ∧ (bump W C s).c < C := by
  unfold bump
  split
  · refine ⟨?_, hx, by assumption⟩
    exact Nat.add_right_comm s.c 1 _
  · have hc' : s.c + 1 = C := by omega
    split
    · refine ⟨?_, by assumption, Nat.zero_lt_of_lt hc⟩
      show 0 + (s.x + 1 + s.y * W) * C = s.c + (s.x + s.y * W) * C + 1
      rw [Nat.zero_add, Nat.add_right_comm s.x 1, digit_succ _ hc']
    · have hx' : s.x + 1 = W := by omega
      refine ⟨?_, Nat.zero_lt_of_lt hx, Nat.zero_lt_of_lt hc⟩
      show 0 + (0 + (s.y + 1) * W) * C = s.c + (s.x + s.y * W) * C + 1
      rw [Nat.zero_add, Nat.zero_add, digit_succ _ hx', digit_succ _ hc']

theorem atSample_iff_lin (W H C : Nat) (s : Cursor) (hx : s.x < W) (hc : s.c < C) :
    atSample W H C s = true ↔ lin W C s < W * H * C := by
  unfold lin interleavedIdx
  rw [Nat.mul_comm W H, digit_lt_iff _ _ hc, digit_lt_iff _ _ hx]
  simp only [atSample, Bool.and_eq_true, decide_eq_true_eq, hx, hc, and_true]

theorem writeToBuffer_rowMajor (W H C : Nat) (n : Nat) (s : Cursor) (hx : s.x < W) (hc : s.c < C) :
    (writeToBuffer W H C n s).1 = ((rowMajor W H C).drop (lin W C s)).take n := by
  induction n generalizing s with
  | zero => rfl
  | succ n ih =>
    cases h : atSample W H C s
    · have hl := mt (atSample_iff_lin W H C s hx hc).2 (Bool.eq_false_iff.1 h)
      rw [writeToBuffer_not_atSample W H C (n + 1) s h,
        List.drop_eq_nil_of_le (by rw [length_rowMajor]; omega)]
      rfl
    · have hl := (atSample_iff_lin W H C s hx hc).1 h
      obtain ⟨b1, b2, b3⟩ := lin_bump W C s hx hc
      simp only [writeToBuffer, h, if_true]
      rw [List.drop_eq_getElem_cons (by rwa [length_rowMajor]),
        (List.getElem_eq_iff _).2 (rowMajor_lin W H C s hx hc hl), List.take_succ_cons,
        ih (bump W C s) b2 b3, b1]

theorem writeToBuffer_full (W H C : Nat) (n : Nat) (hn : W * H * C ≤ n) :
    (writeToBuffer W H C n ⟨0, 0, 0⟩).1 = rowMajor W H C := by
  rcases Nat.eq_zero_or_pos W with rfl | hW
  · rw [writeToBuffer_not_atSample 0 H C n ⟨0, 0, 0⟩ (by simp [atSample])]
    simp [rowMajor]
  rcases Nat.eq_zero_or_pos C with rfl | hC
  · rw [writeToBuffer_not_atSample W H 0 n ⟨0, 0, 0⟩ (by simp [atSample])]
    simp [rowMajor]
  have : lin W C ⟨0, 0, 0⟩ = 0 := by simp [lin, interleavedIdx]
  rw [writeToBuffer_rowMajor W H C n ⟨0, 0, 0⟩ hW hC, this, List.drop_zero]
  exact List.take_of_length_le (by rwa [length_rowMajor])

theorem firstOfType_eq_findIdx? (ty : Nat) (l : List Nat) :
    firstOfType ty l = l.findIdx? (· == ty) := by
  induction l with
  | nil => rfl
  | cons t r ih => simp only [firstOfType, List.findIdx?_cons, ih, beq_iff_eq]

theorem firstOfType_some {ty : Nat} {l : List Nat} {i : Nat} (h : firstOfType ty l = some i) :
    l[i]? = some ty ∧ ∀ j, j < i → l[j]? ≠ some ty := by
  rw [firstOfType_eq_findIdx?, List.findIdx?_eq_some_iff_getElem] at h
  obtain ⟨hi, h1, h2⟩ := h
  refine ⟨?_, fun j hj => ?_⟩
  · rw [List.getElem?_eq_getElem hi, beq_iff_eq.1 h1]
  · rw [List.getElem?_eq_getElem (Nat.lt_trans hj hi)]
    exact fun e => h2 j hj (beq_iff_eq.2 (Option.some.inj e))

theorem firstOfType_eq_none_iff {ty : Nat} {l : List Nat} : firstOfType ty l = none ↔ ty ∉ l := by
  rw [firstOfType_eq_findIdx?, List.findIdx?_eq_none_iff]
  simp only [beq_eq_false_iff_ne]
  exact ⟨fun h hm => h ty hm rfl, fun h x hx e => h (e ▸ hx)⟩

theorem length_firstOfType (ty : Nat) (l : List Nat) (f : Nat → Nat) :
    ((firstOfType ty l).map f).toList.length = if ty ∈ l then 1 else 0 := by
  cases h : firstOfType ty l with
  | none => rw [if_neg (firstOfType_eq_none_iff.1 h)]; rfl
  | some i => rw [if_pos (List.mem_of_getElem? (firstOfType_some h).1)]; rfl

theorem idealRound_same_depth (bits m : Nat) (s : Int) (h : (m : Int) = 2 ^ bits - 1) :
    idealRound bits m s = (clampInt s 0 m).toNat := by
  unfold idealRound
  simp only [← h]
  by_cases hm : (m : Int) ≤ 0
  · rw [if_pos hm]
    unfold clampInt
    split
    · rfl
    · split <;> omega
  -- `(2·s·m + m) / (2·m) = s`: at its own depth a sample needs no rounding, only the clamp is left
  · rw [if_neg hm, Int.add_comm, Int.mul_right_comm, Int.add_mul_ediv_left _ _ (by omega),
      Int.ediv_eq_zero_of_lt (by omega) (by omega), Int.zero_add]

end Jxl.Output
